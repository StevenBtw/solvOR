import Solvor.Lp.Spec
import Solvor.Common.ListLemmas
/-! Lp: bridges between the model's index sums (`sumTo`, `allTo`) and `Finset` sums, and the duality algebra.
The simplex files sum over `range`, the specification and the C04 files over `Fin`, reading a point at a `ℕ` index
through `vecF` (lists) or `extN`. -/
namespace Solvor.Lp
open Finset

theorem sumTo_eq_range (n : ℕ) (f : ℕ → ℚ) : sumTo n f = ∑ c ∈ range n, f c := by
  induction n with
  | zero => rfl
  | succ k ih => rw [sumTo, ih, Finset.sum_range_succ]

theorem sumTo_congr {n : ℕ} {f g : ℕ → ℚ} (h : ∀ k < n, f k = g k) : sumTo n f = sumTo n g := by
  rw [sumTo_eq_range, sumTo_eq_range]
  exact Finset.sum_congr rfl fun k hk => h k (Finset.mem_range.mp hk)

theorem sumTo_eq_sum (n : ℕ) (f : ℕ → ℚ) : sumTo n f = ∑ j : Fin n, f j := by
  rw [sumTo_eq_range, Finset.sum_range]

theorem allTo_iff_lt (n : ℕ) (p : ℕ → Bool) : allTo n p = true ↔ ∀ j < n, p j = true := by
  induction n with
  | zero => exact ⟨fun _ j hj => absurd hj (Nat.not_lt_zero j), fun _ => rfl⟩
  | succ k ih => rw [allTo, Bool.and_eq_true, ih, Nat.forall_lt_succ_right]

theorem allTo_iff (n : ℕ) (p : ℕ → Bool) : allTo n p = true ↔ ∀ j : Fin n, p j = true :=
  (allTo_iff_lt n p).trans ⟨fun h j => h j j.isLt, fun h j hj => h ⟨j, hj⟩⟩

theorem absR_eq (a : ℚ) : absR a = |a| := by
  unfold absR
  split
  · rename_i h; rw [abs_of_neg h]
  · rename_i h; rw [abs_of_nonneg (not_lt.mp h)]

theorem getD_unitV (n j k : ℕ) (hk : k < n) : (unitV n j).getD k 0 = if k = j then 1 else 0 := by
  unfold unitV; exact getD_map_range _ 0 hk

theorem mkLP_n (c : Vec) (A : Mat) (b : Vec) (mn : Bool) : (mkLP c A b mn).n = c.length := by
  unfold mkLP LP.n; cases mn <;> simp

section bridge
variable (P : LP)

theorem rowDot_eq (x : Vec) (i : Fin P.m) :
    P.rowDot x i = ∑ j, P.toF.A i j * vecF P.n x j := by
  unfold LP.rowDot; rw [sumTo_eq_sum]; rfl

theorem colDot_eq (y : Vec) (j : Fin P.n) :
    P.colDot y j = ∑ i, vecF P.m y i * P.toF.A i j := by
  unfold LP.colDot; rw [sumTo_eq_sum]; rfl

theorem objAt_eq (x : Vec) : P.objAt x = P.toF.obj (vecF P.n x) := by
  unfold LP.objAt LPF.obj; rw [sumTo_eq_sum]; rfl

theorem rhsDot_eq (y : Vec) : P.rhsDot y = ∑ i, vecF P.m y i * P.toF.b i := by
  unfold LP.rhsDot; rw [sumTo_eq_sum]; rfl

end bridge

section duality
variable {m n : ℕ} (P : LPF m n)

theorem sum_swap (x : Fin n → ℚ) (y : Fin m → ℚ) :
    ∑ i, y i * (∑ j, P.A i j * x j) = ∑ j, (∑ i, y i * P.A i j) * x j := by
  simp only [Finset.mul_sum, Finset.sum_mul]
  rw [Finset.sum_comm]
  exact Finset.sum_congr rfl fun j _ => Finset.sum_congr rfl fun i _ => by ring

theorem sum_mul_add (a x d : Fin n → ℚ) (t : ℚ) :
    ∑ j, a j * (x j + t * d j) = ∑ j, a j * x j + t * ∑ j, a j * d j := by
  rw [Finset.mul_sum, ← Finset.sum_add_distrib]
  exact Finset.sum_congr rfl fun j _ => by ring

/-- the inequality behind every certificate -/
theorem dual_le (x : Fin n → ℚ) (y b' : Fin m → ℚ) (hAx : ∀ i, ∑ j, P.A i j * x j ≤ b' i)
    (hy : ∀ i, 0 ≤ y i) : ∑ j, (∑ i, y i * P.A i j) * x j ≤ ∑ i, y i * b' i := by
  rw [← sum_swap]
  exact Finset.sum_le_sum fun i _ => mul_le_mul_of_nonneg_left (hAx i) (hy i)

theorem weak_duality' (x : Fin n → ℚ) (y b' : Fin m → ℚ) (hx : ∀ j, 0 ≤ x j)
    (hAx : ∀ i, ∑ j, P.A i j * x j ≤ b' i) (hy : ∀ i, 0 ≤ y i)
    (hd : ∀ j, 0 ≤ P.c j + ∑ i, y i * P.A i j) : -(∑ i, y i * b' i) ≤ P.obj x := by
  have h1 := dual_le P x y b' hAx hy
  have h3 : 0 ≤ ∑ j, (P.c j + ∑ i, y i * P.A i j) * x j :=
    Finset.sum_nonneg fun j _ => mul_nonneg (hd j) (hx j)
  have e : ∑ j, (P.c j + ∑ i, y i * P.A i j) * x j = P.obj x + ∑ j, (∑ i, y i * P.A i j) * x j := by
    unfold LPF.obj
    rw [← Finset.sum_add_distrib]; exact Finset.sum_congr rfl fun j _ => by ring
  rw [e] at h3
  have h4 : 0 ≤ P.obj x + ∑ i, y i * b' i := h3.trans (add_le_add le_rfl h1)
  exact neg_le_iff_add_nonneg.mpr h4

theorem obj_decomp (x zx : Fin n → ℚ) (y : Fin m → ℚ) :
    P.obj x = ∑ j, (∑ i, y i * P.A i j) * x j + ∑ j, zx j * x j
      - ∑ j, (∑ i, y i * P.A i j + zx j - P.c j) * x j := by
  unfold LPF.obj
  rw [← Finset.sum_add_distrib, ← Finset.sum_sub_distrib]
  exact Finset.sum_congr rfl fun j _ => by ring

theorem yAx_decomp (x : Fin n → ℚ) (y s zs : Fin m → ℚ) :
    ∑ i, y i * (∑ j, P.A i j * x j) = ∑ i, y i * P.b i
      + ∑ i, y i * (∑ j, P.A i j * x j + s i - P.b i) + ∑ i, zs i * s i - ∑ i, (y i + zs i) * s i := by
  rw [← Finset.sum_add_distrib, ← Finset.sum_add_distrib, ← Finset.sum_sub_distrib]
  exact Finset.sum_congr rfl fun i _ => by ring

/-- in the interior-point method's sign convention for the dual vector, `Aᵀy + zx = c` (so `y ≈ −zs ≤ 0`); the
certificate lemmas above and the checkers take `y ≥ 0`, `c + Aᵀy ≥ 0` and the value `−y·b` -/
theorem lagrange_id (x zx : Fin n → ℚ) (y s zs : Fin m → ℚ) :
    P.obj x = ∑ i, y i * P.b i + ∑ i, y i * (∑ j, P.A i j * x j + s i - P.b i) + ∑ i, zs i * s i
      - ∑ i, (y i + zs i) * s i + ∑ j, zx j * x j - ∑ j, (∑ i, y i * P.A i j + zx j - P.c j) * x j := by
  rw [obj_decomp P x zx y, ← sum_swap, yAx_decomp P x y s zs]

theorem sum_mul_le {k : ℕ} {ε : ℚ} (r w : Fin k → ℚ) (hr : ∀ i, |r i| ≤ ε) (hw : ∀ i, 0 ≤ w i) :
    ∑ i, r i * w i ≤ ε * ∑ i, w i ∧ -(ε * ∑ i, w i) ≤ ∑ i, r i * w i := by
  constructor
  · rw [Finset.mul_sum]
    exact Finset.sum_le_sum fun i _ =>
      mul_le_mul_of_nonneg_right (le_trans (le_abs_self _) (hr i)) (hw i)
  · rw [Finset.mul_sum, ← Finset.sum_neg_distrib]
    refine Finset.sum_le_sum fun i _ => ?_
    have h1 : -ε ≤ r i := (neg_le_neg (hr i)).trans (neg_abs_le (r i))
    rw [← neg_mul]
    exact mul_le_mul_of_nonneg_right h1 (hw i)

theorem sum_mul_abs_le {k : ℕ} {ε : ℚ} (y r : Fin k → ℚ) (hr : ∀ i, |r i| ≤ ε) :
    ∑ i, y i * r i ≤ ε * ∑ i, |y i| := by
  rw [Finset.mul_sum]
  refine Finset.sum_le_sum fun i _ => ?_
  calc y i * r i ≤ |y i * r i| := le_abs_self _
    _ = |y i| * |r i| := abs_mul _ _
    _ ≤ |y i| * ε := mul_le_mul_of_nonneg_left (hr i) (abs_nonneg _)
    _ = ε * |y i| := mul_comm _ _

end duality
end Solvor.Lp
