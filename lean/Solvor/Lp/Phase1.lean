import Solvor.Lp.Tableau
/-! Lp/Phase1: the invariant through `_phase1` – artificial tableau, Farkas read-off, pivot-out of basic artificials,
removal of the artificial columns, objective restoration – for a tableau `t0`, a list `F` of flipped rows and a number `K`
of artificial columns given by their properties (`IsInit`, `hF`), which `initTab` and `flippedRows` have; at the end the result for the whole
of `solve_lp` (`phase1_spec`, `solveLp_certifies`). -/
namespace Solvor.Lp
open Finset
open Solvor.Gen (Status)

theorem mem_of_idxOf?_eq_some {l : List ℕ} {i k : ℕ} (h : l.idxOf? i = some k) : i ∈ l := by
  by_contra hn; rw [List.idxOf?_eq_none_iff.mpr hn] at h; cases h

theorem subRow_length (a b : List ℚ) (f : ℚ) (h : a.length = b.length) : (subRow a b f).length = a.length := by
  unfold subRow; rw [List.length_zipWith, h]; simp

theorem subRow_getD (a b : List ℚ) (f : ℚ) (c : ℕ) (h : a.length = b.length) :
    (subRow a b f).getD c 0 = a.getD c 0 - f * b.getD c 0 := by
  unfold subRow; exact getD_zipWith_sub a b f c h

theorem foldl_subRows (rows : List (List ℚ)) (q : ℕ → Prop) [DecidablePred q] (m W : ℕ)
    (hrows : ∀ i < m, (rows.getD i []).length = W) (o0 : List ℚ) (ho : o0.length = W) :
    ((List.range m).foldl (fun o i => if q i then subRow o (rows.getD i []) 1 else o) o0).length = W ∧
    ∀ c, ((List.range m).foldl (fun o i => if q i then subRow o (rows.getD i []) 1 else o) o0).getD c 0
      = o0.getD c 0 - ∑ i ∈ range m, if q i then (rows.getD i []).getD c 0 else 0 :=
  foldl_range_inv (fun k o => o.length = W ∧
      ∀ c, o.getD c 0 = o0.getD c 0 - ∑ i ∈ range k, if q i then (rows.getD i []).getD c 0 else 0)
    _ o0 ⟨ho, fun c => (sub_zero _).symm⟩ m fun k o hk ⟨ih1, ih2⟩ => by
      have hr := hrows k hk
      by_cases hq : q k
      · rw [if_pos hq]
        constructor
        · rw [subRow_length _ _ _ (by rw [ih1, hr]), ih1]
        · intro c
          rw [subRow_getD _ _ _ _ (by rw [ih1, hr]), ih2 c, Finset.sum_range_succ, if_pos hq]
          ring
      · rw [if_neg hq]
        refine ⟨ih1, fun c => ?_⟩
        rw [ih2 c, Finset.sum_range_succ, if_neg hq]; ring

def sgn (F : List ℕ) (i : ℕ) : ℚ := if i ∈ F then -1 else 1
def artPart (F : List ℕ) (i k : ℕ) : ℚ := if F.idxOf? i = some k then 1 else 0
/-- `∑ artificials`, the phase-1 objective before pricing out (`obj0` of `artTab`) -/
def obar1 (nm K c : ℕ) : ℚ := if nm ≤ c ∧ c < nm + K then 1 else 0

theorem sgn_ne_zero (F : List ℕ) (k : ℕ) : sgn F k ≠ 0 := by unfold sgn; split <;> norm_num

section art
variable {n m : ℕ} {F : List ℕ} {t0 : Tab}

theorem art_row (h0 : t0.WF m (n + m + 1)) {i : ℕ} (hi : i < m) :
    (artTab n m F t0).rows.getD i [] =
      match F.idxOf? i with
      | some k => ((t0.rows.getD i []).take (n + m)).map (fun v => v * -1)
          ++ unitV F.length k ++ [lastR (t0.rows.getD i []) * -1]
      | none => (t0.rows.getD i []).take (n + m) ++ zeros F.length ++ [lastR (t0.rows.getD i [])] := by
  simp only [artTab]
  rw [getD_mapIdx _ (h0.rows_len.symm ▸ hi) []]
  cases F.idxOf? i <;> rfl

theorem art_e (h0 : t0.WF m (n + m + 1)) {i : ℕ} (hi : i < m) (c : ℕ) :
    (artTab n m F t0).e i c =
      if c < n + m then sgn F i * t0.e i c
      else if c < n + m + F.length then artPart F i (c - (n + m))
      else if c = n + m + F.length then sgn F i * t0.e i (n + m) else 0 := by
  have hlen : (t0.rows.getD i []).length = n + m + 1 := getD_rows_len h0 hi
  have hlast : lastR (t0.rows.getD i []) = t0.e i (n + m) := lastR_eq h0 hi
  have ltake : ((t0.rows.getD i []).take (n + m)).length = n + m := by
    rw [List.length_take, hlen]; exact Nat.min_eq_left (Nat.le_succ _)
  -- in both cases the row has the three segments `a ++ b ++ [x]`
  obtain ⟨a, b, x, hrow, la, lb, ha, hb, hx⟩ : ∃ a b x, (artTab n m F t0).rows.getD i [] = a ++ b ++ [x] ∧
      a.length = n + m ∧ b.length = F.length ∧ (∀ c < n + m, a.getD c 0 = sgn F i * t0.e i c) ∧
      (∀ k < F.length, b.getD k 0 = artPart F i k) ∧ x = sgn F i * t0.e i (n + m) := by
    rw [art_row h0 hi]
    cases hidx : F.idxOf? i with
    | some k =>
      have hmem : i ∈ F := mem_of_idxOf?_eq_some hidx
      refine ⟨_, _, _, rfl, by rw [List.length_map, ltake], by simp [unitV], fun c hc => ?_, fun k' hk' => ?_, ?_⟩
      · rw [getD_map_mul, getD_take _ _ _ hc, sgn, if_pos hmem, mul_comm]; rfl
      · rw [artPart, hidx, getD_unitV _ _ _ hk']
        exact if_congr ⟨fun e => e ▸ rfl, fun e => (Option.some.inj e).symm⟩ rfl rfl
      · rw [hlast, sgn, if_pos hmem, mul_comm]
    | none =>
      have hmem : i ∉ F := List.idxOf?_eq_none_iff.mp hidx
      refine ⟨_, _, _, rfl, ltake, by simp [zeros], fun c hc => ?_, fun k' _ => ?_, ?_⟩
      · rw [getD_take _ _ _ hc, sgn, if_neg hmem, one_mul]; rfl
      · rw [artPart, hidx, if_neg (by simp), zeros, getD_replicate_self]
      · rw [hlast, sgn, if_neg hmem, one_mul]
  unfold Tab.e
  rw [hrow, seg3_getD, la, lb]
  by_cases h1 : c < n + m
  · rw [if_pos h1, if_pos h1, ha c h1]; rfl
  · rw [if_neg h1, if_neg h1]
    by_cases h2 : c < n + m + F.length
    · rw [if_pos h2, if_pos h2, hb _ (Nat.sub_lt_left_of_lt_add (Nat.not_lt.mp h1) h2)]
    · rw [if_neg h2, if_neg h2, hx]; rfl

theorem art_e_lt (h0 : t0.WF m (n + m + 1)) {i : ℕ} (hi : i < m) {c : ℕ} (hc : c < n + m) :
    (artTab n m F t0).e i c = sgn F i * t0.e i c := by
  rw [art_e h0 hi, if_pos hc]

theorem art_e_art (h0 : t0.WF m (n + m + 1)) {i : ℕ} (hi : i < m) {k : ℕ} (hk : k < F.length) :
    (artTab n m F t0).e i (n + m + k) = artPart F i k := by
  rw [art_e h0 hi, if_neg (Nat.not_lt.mpr (Nat.le_add_right _ _)), if_pos (Nat.add_lt_add_left hk _),
    Nat.add_sub_cancel_left]

theorem art_e_last (h0 : t0.WF m (n + m + 1)) {i : ℕ} (hi : i < m) :
    (artTab n m F t0).e i (n + m + F.length) = sgn F i * t0.e i (n + m) := by
  rw [art_e h0 hi, if_neg (Nat.not_lt.mpr (Nat.le_add_right _ _)), if_neg (Nat.lt_irrefl _), if_pos rfl]

theorem art_row_len (h0 : t0.WF m (n + m + 1)) {i : ℕ} (hi : i < m) :
    ((artTab n m F t0).rows.getD i []).length = n + m + F.length + 1 := by
  have hlen : (t0.rows.getD i []).length = n + m + 1 := getD_rows_len h0 hi
  rw [art_row h0 hi]
  cases F.idxOf? i with
  | some k =>
    simp only [List.length_append, List.length_map, List.length_take, hlen, unitV, List.length_range,
      List.length_singleton, Nat.min_eq_left (Nat.le_succ _)]
  | none =>
    simp only [List.length_append, List.length_take, hlen, zeros, List.length_replicate,
      List.length_singleton, Nat.min_eq_left (Nat.le_succ _)]

theorem art_bs (h0 : t0.WF m (n + m + 1)) {i : ℕ} (hi : i < m) :
    (artTab n m F t0).bs i = match F.idxOf? i with
      | some k => n + m + k
      | none => t0.bs i := by
  simp only [Tab.bs, artTab]
  rw [getD_mapIdx _ (h0.basis_len.symm ▸ hi) 0]
  cases F.idxOf? i <;> rfl

theorem art_obj (h0 : t0.WF m (n + m + 1)) :
    (artTab n m F t0).obj.length = n + m + F.length + 1 ∧
    ∀ c, (artTab n m F t0).oe c = obar1 (n + m) F.length c
      - ∑ i ∈ range m, if (artTab n m F t0).bs i ≥ n + m then (artTab n m F t0).e i c else 0 := by
  have hfold : (artTab n m F t0).obj = (List.range m).foldl
      (fun o i => if (artTab n m F t0).bs i ≥ n + m then subRow o ((artTab n m F t0).rows.getD i []) 1 else o)
      ((List.range (n + m + F.length + 1)).map fun j =>
        if n + m ≤ j ∧ j < n + m + F.length then (1 : ℚ) else 0) := rfl
  obtain ⟨h1, h2⟩ := foldl_subRows (artTab n m F t0).rows (fun i => (artTab n m F t0).bs i ≥ n + m) m
    (n + m + F.length + 1) (fun i hi => art_row_len h0 hi)
    ((List.range (n + m + F.length + 1)).map fun j =>
        if n + m ≤ j ∧ j < n + m + F.length then (1 : ℚ) else 0)
    (by rw [List.length_map, List.length_range])
  rw [← hfold] at h1 h2
  refine ⟨h1, fun c => ?_⟩
  unfold Tab.oe
  rw [h2 c]
  refine congrArg (· - _) ?_
  unfold obar1
  rw [List.getD_eq_getElem?_getD, List.getElem?_map]
  by_cases hc : c < n + m + F.length + 1
  · rw [List.getElem?_range hc]; rfl
  · rw [List.getElem?_eq_none (by rw [List.length_range]; exact Nat.not_lt.mp hc),
      if_neg fun h => hc (Nat.lt_succ_of_lt h.2)]
    rfl

theorem art_wf (h0 : t0.WF m (n + m + 1)) : (artTab n m F t0).WF m (n + m + F.length + 1) :=
  Tab.WF.of_getD ((List.length_mapIdx).trans h0.rows_len) (fun _ hi => art_row_len h0 hi) (art_obj h0).1
    ((List.length_mapIdx).trans h0.basis_len)

end art

theorem InSW.of_origRow {P : LP} {L : ℕ} {v : ℕ → ℚ} {i : ℕ} (hi : i < P.m) (s : ℚ)
    (hv : ∀ c < P.n + P.m, v c = s * origRow P i c) (hl : v L = s * vget P.b i) : InSW P L v := by
  have hsum : ∀ g : ℕ → ℚ, ∑ k ∈ range P.m, v (P.n + k) * g k = s * g i := fun g => by
    rw [Finset.sum_eq_single_of_mem i (Finset.mem_range.mpr hi) fun k hk hki => by
        rw [hv _ (Nat.add_lt_add_left (Finset.mem_range.mp hk) _), origRow_slack P i (Finset.mem_range.mp hk),
          if_neg hki, mul_zero, zero_mul],
      hv _ (Nat.add_lt_add_left hi _), origRow_slack P i hi, if_pos rfl, mul_one]
  exact ⟨fun j hj => by rw [hsum, hv j (Nat.lt_add_right _ hj), origRow_lt P i hj], by rw [hsum, hl]⟩

/-- `t0` is `[A I | b]` in the slack basis with objective row `[c 0 | 0]`: the tableau `solve_lp` starts from -/
structure IsInit (P : LP) (t0 : Tab) : Prop where
  wf : t0.WF P.m (P.n + P.m + 1)
  ent : ∀ i < P.m, ∀ c < P.n + P.m + 1, t0.e i c = origRow P i c
  bs : ∀ i < P.m, t0.bs i = P.n + i
  oe : ∀ c, t0.oe c = wbar P c

theorem isInit_initTab (P : LP) (hA : ∀ i < P.m, (P.A.getD i []).length = P.n) :
    IsInit P (initTab P.c P.A P.b) :=
  ⟨initTab_wf P hA, fun _ hi _ hc => initTab_e P hA hi hc, fun _ hi => initTab_bs P hi, initTab_oe P⟩

theorem IsInit.e_lt {P : LP} {t0 : Tab} (h0 : IsInit P t0) {i : ℕ} (hi : i < P.m) {c : ℕ}
    (hc : c < P.n + P.m) : t0.e i c = origRow P i c := h0.ent i hi c (Nat.lt_succ_of_lt hc)

theorem IsInit.e_last {P : LP} {t0 : Tab} (h0 : IsInit P t0) {i : ℕ} (hi : i < P.m) :
    t0.e i (P.n + P.m) = vget P.b i := (h0.ent i hi _ (Nat.lt_succ_self _)).trans (origRow_last P i)

theorem IsInit.mem_flipped {P : LP} {t0 : Tab} (h0 : IsInit P t0) (i : ℕ) :
    i ∈ flippedRows 0 P.m t0 ↔ i < P.m ∧ vget P.b i < 0 := by
  unfold flippedRows
  rw [List.mem_filter, List.mem_range, decide_eq_true_eq, neg_zero]
  exact and_congr_right fun hi => by
    rw [lastR_eq h0.wf hi]
    exact Eq.to_iff (congrArg (· < 0) (h0.e_last hi))

theorem IsInit.inv2 {P : LP} {t0 : Tab} (h0 : IsInit P t0) (hb : ∀ i < P.m, 0 ≤ vget P.b i) : Inv2 P t0 := by
  have bs_lt : ∀ i < P.m, t0.bs i < P.n + P.m := fun i hi => (h0.bs i hi).symm ▸ Nat.add_lt_add_left hi _
  refine {
    wf := h0.wf
    ref := fun k hk c hc => by
      rw [Finset.sum_eq_single_of_mem k (Finset.mem_range.mpr hk) fun i hi hik => by
          rw [h0.bs i (Finset.mem_range.mp hi), origRow_slack P k (Finset.mem_range.mp hi), if_neg hik, zero_mul],
        h0.bs k hk, origRow_slack P k hk, if_pos rfl, one_mul, h0.ent k hk c hc]
    rowS := fun i hi => InSW.of_origRow hi 1 (fun c hc => by rw [h0.e_lt hi hc, one_mul])
      ((h0.e_last hi).trans (one_mul _).symm)
    unit := fun i hi k hk _ => by
      rw [h0.bs k hk, h0.e_lt hi (Nat.add_lt_add_left hk _), origRow_slack P i hk]
      exact if_congr eq_comm rfl rfl
    dead := fun i hi hd => absurd (bs_lt i hi) hd
    rhs := fun i hi => (h0.e_last hi).symm ▸ hb i hi
    priced := fun c => by
      rw [h0.oe, Finset.sum_eq_zero, sub_zero]
      intro i hi
      rw [h0.bs i (Finset.mem_range.mp hi), wbar_ge, zero_mul] }

theorem ginv1 {P : LP} {F : List ℕ} {t0 : Tab} (hI : IsInit P t0)
    (hF : ∀ i < P.m, (i ∈ F ↔ vget P.b i < 0)) :
    GInv P (P.n + P.m + F.length) (fun k c => (artTab P.n P.m F t0).e k c) (obar1 (P.n + P.m) F.length)
      (artTab P.n P.m F t0) := by
  have h0 := hI.wf
  have hbs := hI.bs
  have E_lt : ∀ {i : ℕ}, i < P.m → ∀ {c : ℕ}, c < P.n + P.m →
      (artTab P.n P.m F t0).e i c = sgn F i * origRow P i c :=
    fun hi _ hc => by rw [art_e_lt h0 hi hc, hI.e_lt hi hc]
  have E_last : ∀ {i : ℕ}, i < P.m →
      (artTab P.n P.m F t0).e i (P.n + P.m + F.length) = sgn F i * vget P.b i :=
    fun hi => by rw [art_e_last h0 hi, hI.e_last hi]
  have bsE := fun {i : ℕ} (hi : i < P.m) => art_bs (F := F) h0 hi
  have slack : ∀ i < P.m, ∀ k < P.m, (artTab P.n P.m F t0).e i (P.n + k) = if k = i then sgn F i else 0 := by
    intro i hi k hk
    rw [E_lt hi (Nat.add_lt_add_left hk _), origRow_slack P i hk, mul_ite, mul_one, mul_zero]
  have hbs_lt : ∀ k < P.m, (artTab P.n P.m F t0).bs k < P.n + P.m + F.length := by
    intro k hk
    rw [bsE hk]
    cases hidx : F.idxOf? k with
    | some k' => exact Nat.add_lt_add_left (List.idxOf?_eq_some_iff.mp hidx).1 _
    | none => simp only []; rw [hbs k hk]; exact Nat.lt_add_right _ (Nat.add_lt_add_left hk _)
  have unit : ∀ i < P.m, ∀ k < P.m,
      (artTab P.n P.m F t0).e i ((artTab P.n P.m F t0).bs k) = if i = k then 1 else 0 := by
    intro i hi k hk
    rw [bsE hk]
    cases hidx : F.idxOf? k with
    | some k' =>
      obtain ⟨hk', hFk, _⟩ := List.idxOf?_eq_some_iff.mp hidx
      simp only []
      rw [art_e_art h0 hi hk', artPart]
      by_cases hik : i = k
      · rw [if_pos hik, hik, if_pos hidx]
      · rw [if_neg hik, if_neg fun e => hik ((List.idxOf?_eq_some_iff.mp e).2.1.symm.trans hFk)]
    | none =>
      have hnk : k ∉ F := List.idxOf?_eq_none_iff.mp hidx
      simp only []
      rw [hbs k hk, slack i hi k hk]
      by_cases hik : i = k
      · rw [if_pos hik.symm, if_pos hik, hik, sgn, if_neg hnk]
      · rw [if_neg (fun e => hik e.symm), if_neg hik]
  -- with unit basic columns and no dead row the tableau is its own reference
  refine {
    wf := art_wf h0
    ref := fun k hk c _ => by
      rw [Finset.sum_eq_single_of_mem k (Finset.mem_range.mpr hk) fun i hi hik => by
          rw [unit k hk i (Finset.mem_range.mp hi), if_neg (Ne.symm hik), zero_mul],
        unit k hk k hk, if_pos rfl, one_mul]
    rowS := fun i hi => InSW.of_origRow hi (sgn F i) (fun c hc => E_lt hi hc) (E_last hi)
    unit := fun i hi k hk _ => unit i hi k hk
    dead := fun i hi hd => absurd (hbs_lt i hi) hd
    rhs := fun i hi => ?_
    priced := fun c => ?_ }
  · show 0 ≤ (artTab P.n P.m F t0).e i (P.n + P.m + F.length)
    rw [E_last hi]
    unfold sgn
    by_cases hf : i ∈ F
    · rw [if_pos hf, neg_one_mul]; exact neg_nonneg.mpr ((hF i hi).mp hf).le
    · rw [if_neg hf, one_mul]; exact not_lt.mp fun h => hf ((hF i hi).mpr h)
  · -- the objective row is `∑ artificials` with the flipped rows subtracted, which is pricing out
    rw [(art_obj h0).2 c]
    refine congrArg (_ - ·) (Finset.sum_congr rfl fun i hi => ?_)
    have hi := Finset.mem_range.mp hi
    unfold obar1
    by_cases ha : (artTab P.n P.m F t0).bs i ≥ P.n + P.m
    · rw [if_pos ha, if_pos ⟨ha, hbs_lt i hi⟩, one_mul]
    · rw [if_neg ha, if_neg (fun h => ha h.1), zero_mul]

abbrev Inv1 (P : LP) (K : ℕ) (R : ℕ → ℕ → ℚ) (t : Tab) : Prop :=
  GInv P (P.n + P.m + K) R (obar1 (P.n + P.m) K) t

section p1end
variable {P : LP} {R : ℕ → ℕ → ℚ} {t : Tab} {K : ℕ}

theorem obar1_nonneg (nm K c : ℕ) : 0 ≤ obar1 nm K c := by unfold obar1; split <;> norm_num

theorem obar1_lt {nm : ℕ} (K : ℕ) {c : ℕ} (hc : c < nm) : obar1 nm K c = 0 := by
  unfold obar1; rw [if_neg fun h => Nat.not_lt.mpr h.1 hc]

theorem obar1_last (nm K : ℕ) : obar1 nm K (nm + K) = 0 := by
  unfold obar1; rw [if_neg fun h => Nat.lt_irrefl _ h.2]

theorem cert_infeasible1 (h : Inv1 P K R t)
    (hn : findEnter 0 t = none) (hneg : t.oe (P.n + P.m + K) < 0) :
    chkInfeasible P (slackPart P.n P.m t.obj) = true := by
  unfold chkInfeasible
  simp only [Bool.and_eq_true, allTo_iff_lt, decide_eq_true_eq]
  obtain ⟨hd1, hd2⟩ := oe_dual h fun k hk => obar1_lt K (Nat.add_lt_add_left hk _)
  refine ⟨⟨?_, ?_⟩, ?_⟩
  · intro k hk
    rw [vget_slack t P.n P.m hk]
    exact goe_nonneg h hn (Nat.lt_add_right K (Nat.add_lt_add_left hk _))
  · intro j hj
    have e := hd1 j hj
    rw [obar1_lt K (Nat.lt_add_right _ hj), zero_add] at e
    rw [← e]
    exact goe_nonneg h hn (Nat.lt_add_right K (Nat.lt_add_right _ hj))
  · rw [obar1_last, zero_add] at hd2
    rw [← hd2]
    exact hneg

theorem phase1_not_unbounded (h : Inv1 P K R t) {e : ℕ}
    (hs : findEnter 0 t = some e) (hl : findLeave 0 t e = none) : False := by
  obtain ⟨he, hnb, hneg⟩ := findEnter_some h.wf hs
  have hle := findLeave_none h.wf hl
  have := obar_rayVal h (Nat.lt_succ_of_lt he) (fun i hi _ => hnb i hi)
  have hnn : 0 ≤ ∑ c ∈ range (P.n + P.m + K + 1), obar1 (P.n + P.m) K c * rayVal P t e c :=
    Finset.sum_nonneg fun c _ => mul_nonneg (obar1_nonneg _ _ c) (rayVal_nonneg e c hle)
  exact hneg.not_ge (this ▸ hnn)

theorem art_rhs_zero (h : Inv1 P K R t)
    (hnn : ¬ t.oe (P.n + P.m + K) < 0) :
    ∀ k < P.m, P.n + P.m ≤ t.bs k → t.e k (P.n + P.m + K) = 0 := by
  -- the objective value is `−∑ (basic values of the artificials)`, a sum of non-positive terms
  have hF := obar_rayVal h (e := P.n + P.m + K) (Nat.lt_succ_self _) (fun i _ hl => Nat.ne_of_lt hl)
  have hterm : ∀ c ∈ range (P.n + P.m + K + 1),
      obar1 (P.n + P.m) K c * rayVal P t (P.n + P.m + K) c ≤ 0 := by
    intro c _
    unfold obar1
    by_cases hc : P.n + P.m ≤ c ∧ c < P.n + P.m + K
    · rw [if_pos hc, one_mul, rayVal_rhs (Nat.ne_of_lt hc.2)]
      exact neg_nonpos.mpr (bval_nonneg h c)
    · rw [if_neg hc, zero_mul]
  have hz := (Finset.sum_eq_zero_iff_of_nonpos hterm).mp
    (le_antisymm (Finset.sum_nonpos hterm) (by rw [hF]; exact not_lt.mp hnn))
  intro k hk hart
  by_cases hlive : t.bs k < P.n + P.m + K
  · have := hz (t.bs k) (Finset.mem_range.mpr (Nat.lt_succ_of_lt hlive))
    unfold obar1 at this
    rw [if_pos ⟨hart, hlive⟩, one_mul, rayVal_rhs (Nat.ne_of_lt hlive), neg_eq_zero, bval_bs h hk hlive] at this
    exact this
  · exact h.dead k hk hlive _ (Nat.lt_succ_self _)

end p1end

section drive
variable {P : LP} {R : ℕ → ℕ → ℚ} {K : ℕ}

/-- the body of the fold in `driveOut` at `eps = 0` (`driveOut_eq`, by `rfl`) -/
def driveStep (nm : ℕ) (t : Tab) (i : ℕ) : Tab :=
  if t.basis.getD i 0 ≥ nm then
    let row := t.rows.getD i []
    match (List.range nm).find? fun j => !t.basis.contains j && decide (absR (row.getD j 0) > 0) with
    | some j => setBasis (pivot 0 t i j) i j
    | none => t
  else t

theorem driveOut_eq (nm : ℕ) (t : Tab) : driveOut 0 nm t = (List.range t.rows.length).foldl (driveStep nm) t := rfl

/-- state of the drive-out loop before row `k`: phase 1 ended at value `0`, so the rows with an artificial basic
variable have right-hand side `0` (`art_rhs_zero`); those among the rows `< k` could not be pivoted and vanish on all
non-artificial columns -/
structure DInv (P : LP) (K : ℕ) (R : ℕ → ℕ → ℚ) (k : ℕ) (t : Tab) : Prop where
  inv : Inv1 P K R t
  nn : ¬ t.oe (P.n + P.m + K) < 0
  done : ∀ i < k, i < P.m → P.n + P.m ≤ t.bs i → ∀ c < P.n + P.m, t.e i c = 0

theorem driveStep_inv {t : Tab} {k : ℕ} (hk : k < P.m) (h : DInv P K R k t) :
    DInv P K R (k + 1) (driveStep (P.n + P.m) t k) := by
  have hwf := h.inv.wf
  unfold driveStep
  have hbs : t.basis.getD k 0 = t.bs k := rfl
  rw [hbs]
  by_cases hart : t.bs k ≥ P.n + P.m
  · rw [if_pos hart]
    simp only []
    cases hf : (List.range (P.n + P.m)).find?
        (fun j => !t.basis.contains j && decide (absR ((t.rows.getD k []).getD j 0) > 0)) with
    | none =>
      -- no non-basic, non-artificial column has a non-zero entry: row `k` vanishes there, and on the basic ones by `unit`
      simp only []
      refine ⟨h.inv, h.nn, fun i hi him hia c hc => ?_⟩
      rcases Nat.lt_succ_iff_lt_or_eq.mp hi with h1 | rfl
      · exact h.done i h1 him hia c hc
      · rw [List.find?_eq_none] at hf
        have := hf c (List.mem_range.mpr hc)
        simp only [Bool.and_eq_true, Bool.not_eq_true', decide_eq_true_eq, not_and,
          List.contains_eq_mem, decide_eq_false_iff_not, absR_pos_iff, ne_eq, not_not] at this
        by_cases hb : c ∈ t.basis
        · obtain ⟨k', hk', hbk'⟩ := (mem_basis_iff hwf c).mp hb
          have hne : i ≠ k' := fun e => absurd hc (Nat.not_lt.mpr (by rw [← hbk', ← e]; exact hia))
          rw [← hbk', h.inv.unit i him k' hk' (by rw [hbk']; exact Nat.lt_add_right K hc), if_neg hne]
        · exact this hb
    | some j =>
      -- a pivot in a row with right-hand side `0` (second alternative of `gstep`), which leaves the other such rows alone
      simp only []
      have hp := List.find?_some hf
      have hm := List.mem_of_find?_eq_some hf
      rw [List.mem_range] at hm
      simp only [Bool.and_eq_true, Bool.not_eq_true', decide_eq_true_eq, List.contains_eq_mem,
        decide_eq_false_iff_not, absR_pos_iff] at hp
      have hpv : t.e k j ≠ 0 := hp.2
      have hz := art_rhs_zero h.inv h.nn k hk hart
      have hstep : setBasis (pivot 0 t k j) k j = stepTab t k j := rfl
      rw [hstep]
      -- a row whose basic variable is still artificial is another row, with the same basic variable as before
      have other : ∀ i, P.n + P.m ≤ (stepTab t k j).bs i → i ≠ k ∧ P.n + P.m ≤ t.bs i := by
        intro i hia
        rw [gstep_bs hwf hk j i] at hia
        have hik : i ≠ k := fun e => absurd hm (Nat.not_lt.mpr (by rwa [if_pos e] at hia))
        exact ⟨hik, by rwa [if_neg hik] at hia⟩
      refine ⟨gstep h.inv hk (Nat.lt_add_right K hm) hpv (Or.inr hz), ?_, ?_⟩
      · -- the pivot row has right-hand side `0`: the objective value does not move
        rw [gstep_oe hwf hk j, hz, zero_mul, mul_zero, sub_zero]; exact h.nn
      · intro i hi him hia c hc
        obtain ⟨hik, hia⟩ := other i hia
        have hik' : i < k := Nat.lt_of_le_of_ne (Nat.lt_succ_iff.mp hi) hik
        rw [gstep_e hwf hk j i him c, if_neg hik, h.done i hik' him hia c hc, h.done i hik' him hia j hm]
        ring
  · rw [if_neg hart]
    refine ⟨h.inv, h.nn, fun i hi him hia c hc => ?_⟩
    rcases Nat.lt_succ_iff_lt_or_eq.mp hi with h1 | rfl
    · exact h.done i h1 him hia c hc
    · exact absurd hia hart

theorem driveOut_inv {t : Tab} (h : Inv1 P K R t)
    (hnn : ¬ t.oe (P.n + P.m + K) < 0) :
    DInv P K R P.m (driveOut 0 (P.n + P.m) t) := by
  rw [driveOut_eq, h.wf.rows_len]
  exact foldl_range_inv (DInv P K R) _ t ⟨h, hnn, fun i hi => absurd hi (Nat.not_lt_zero i)⟩ P.m
    fun _ _ hk => driveStep_inv hk

end drive

section restore
variable {P : LP} {t3 : Tab} {K : ℕ} {o0 : List ℚ}

theorem rest_row (hwf : t3.WF P.m (P.n + P.m + K + 1)) {i : ℕ} (hi : i < P.m) :
    (restoreTab 0 (P.n + P.m) P.m o0 t3).rows.getD i [] =
      (t3.rows.getD i []).take (P.n + P.m) ++ [lastR (t3.rows.getD i [])] := by
  have hi' : i < t3.rows.length := by rw [hwf.rows_len]; exact hi
  simp only [restoreTab]
  rw [List.getD_eq_getElem?_getD, List.getElem?_map, List.getElem?_eq_getElem hi']
  simp only [Option.map_some, Option.getD_some]
  rw [List.getD_eq_getElem t3.rows [] hi']

theorem rest_row_len (hwf : t3.WF P.m (P.n + P.m + K + 1)) {i : ℕ} (hi : i < P.m) :
    ((restoreTab 0 (P.n + P.m) P.m o0 t3).rows.getD i []).length = P.n + P.m + 1 := by
  rw [rest_row hwf hi, List.length_append, List.length_take, getD_rows_len hwf hi, List.length_singleton,
    Nat.min_eq_left (Nat.le_succ_of_le (Nat.le_add_right _ _))]

theorem rest_e (hwf : t3.WF P.m (P.n + P.m + K + 1)) {i : ℕ} (hi : i < P.m) (c : ℕ) :
    (restoreTab 0 (P.n + P.m) P.m o0 t3).e i c =
      if c < P.n + P.m then t3.e i c else if c = P.n + P.m then t3.e i (P.n + P.m + K) else 0 := by
  have hlen := getD_rows_len hwf hi
  unfold Tab.e
  rw [rest_row hwf hi, seg2_getD]
  have l1 : ((t3.rows.getD i []).take (P.n + P.m)).length = P.n + P.m := by
    rw [List.length_take, hlen]; exact Nat.min_eq_left (Nat.le_succ_of_le (Nat.le_add_right _ _))
  rw [l1]
  by_cases h1 : c < P.n + P.m
  · rw [if_pos h1, if_pos h1, getD_take _ _ _ h1]
  · rw [if_neg h1, if_neg h1, lastR_eq hwf hi]; rfl

/-- the body of the fold in `restoreTab` at `eps = 0` (`rest_obj`, by `rfl`) -/
def restoreStep (nm : ℕ) (t3 : Tab) (rows4 : List (List ℚ)) (o : List ℚ) (i : ℕ) : List ℚ :=
  let var := t3.basis.getD i 0
  if var < nm then
    let cost := o.getD var 0
    if absR cost > 0 then subRow o (rows4.getD i []) cost else o
  else o

theorem rest_obj : (restoreTab 0 (P.n + P.m) P.m o0 t3).obj =
    (List.range P.m).foldl (restoreStep (P.n + P.m) t3 (restoreTab 0 (P.n + P.m) P.m o0 t3).rows) o0 := rfl

theorem restoreStep_spec (nm : ℕ) (rows4 : List (List ℚ)) (o : List ℚ) (i : ℕ)
    (hl : o.length = (rows4.getD i []).length) :
    (restoreStep nm t3 rows4 o i).length = o.length ∧
    ∀ c, (restoreStep nm t3 rows4 o i).getD c 0 =
      o.getD c 0 - (if t3.bs i < nm then o.getD (t3.bs i) 0 else 0) * (rows4.getD i []).getD c 0 := by
  unfold restoreStep
  have hb : t3.basis.getD i 0 = t3.bs i := rfl
  simp only [hb]
  by_cases hlt : t3.bs i < nm
  · rw [if_pos hlt]
    by_cases hc : absR (o.getD (t3.bs i) 0) > 0
    · rw [if_pos hc]
      exact ⟨subRow_length _ _ _ hl, fun c => by rw [subRow_getD _ _ _ _ hl, if_pos hlt]⟩
    · rw [if_neg hc]
      exact ⟨rfl, fun c => by rw [if_pos hlt, not_not.mp (mt (absR_pos_iff _).mpr hc)]; ring⟩
  · rw [if_neg hlt]
    exact ⟨rfl, fun c => by rw [if_neg hlt]; ring⟩

theorem restoreFold {T : Tab} (ho0len : o0.length = P.n + P.m + 1) (ho0 : ∀ c, o0.getD c 0 = wbar P c)
    (unit4 : ∀ i < P.m, ∀ k < P.m, t3.bs k < P.n + P.m → T.e i (t3.bs k) = if i = k then 1 else 0)
    (hrowlen : ∀ i < P.m, (T.rows.getD i []).length = P.n + P.m + 1) :
    ((List.range P.m).foldl (restoreStep (P.n + P.m) t3 T.rows) o0).length = P.n + P.m + 1 ∧
      ∀ c, ((List.range P.m).foldl (restoreStep (P.n + P.m) t3 T.rows) o0).getD c 0 =
        wbar P c - ∑ i ∈ range P.m, wbar P (t3.bs i) * T.e i c :=
  foldl_range_inv (fun k o => o.length = P.n + P.m + 1 ∧
      ∀ c, o.getD c 0 = wbar P c - ∑ i ∈ range k, wbar P (t3.bs i) * T.e i c) _ o0
    ⟨ho0len, fun c => by rw [ho0, Finset.sum_range_zero, sub_zero]⟩ P.m fun k o hkm ⟨ihl, ih⟩ => by
      obtain ⟨hlen, hget⟩ := restoreStep_spec (t3 := t3) (P.n + P.m) T.rows o k (by rw [ihl, hrowlen k hkm])
      -- the cost read in row `k` is `wbar (bs k)`: the earlier rows are zero in that column
      have hcost : (if t3.bs k < P.n + P.m then o.getD (t3.bs k) 0 else 0) = wbar P (t3.bs k) := by
        split
        · rename_i hlive
          rw [ih, Finset.sum_eq_zero, sub_zero]
          intro i hi
          have hik : i < k := Finset.mem_range.mp hi
          rw [unit4 i (hik.trans hkm) k hkm hlive, if_neg (Nat.ne_of_lt hik), mul_zero]
        · rename_i hdead
          rw [wbar, if_neg fun h => hdead (Nat.lt_add_right _ h)]
      refine ⟨hlen.trans ihl, fun c => ?_⟩
      rw [hget c, hcost, ih c, Finset.sum_range_succ]
      show _ - _ * T.e k c = _
      ring

/-- `R`: the reference rows of phase 1, non-zero multiples `σ k` of the rows of `[A I | b]` outside the artificial
block; `c'`: the column of the wide tableau that becomes column `c`, where a row whose artificial stayed basic vanishes -/
theorem rest_ref {R : ℕ → ℕ → ℚ} {σ : ℕ → ℚ} {T : Tab} (hσ : ∀ k, σ k ≠ 0)
    (href : ∀ k < P.m, ∀ c < P.n + P.m + K + 1, R k c = ∑ i ∈ range P.m, R k (t3.bs i) * t3.e i c)
    (hR1 : ∀ k < P.m, ∀ c < P.n + P.m, R k c = σ k * origRow P k c)
    (hbs : ∀ i, T.bs i = t3.bs i) {k : ℕ} (hk : k < P.m) {c c' : ℕ} (hc' : c' < P.n + P.m + K + 1)
    (hRc : R k c' = σ k * origRow P k c) (hT : ∀ i < P.m, T.e i c = t3.e i c')
    (hdead : ∀ i < P.m, P.n + P.m ≤ t3.bs i → t3.e i c' = 0) :
    origRow P k c = ∑ i ∈ range P.m, origRow P k (T.bs i) * T.e i c := by
  refine mul_left_cancel₀ (hσ k) ?_
  rw [← hRc, href k hk c' hc', Finset.mul_sum]
  refine Finset.sum_congr rfl fun i hi => ?_
  have hi := Finset.mem_range.mp hi
  rw [hbs, hT i hi]
  by_cases hlive : t3.bs i < P.n + P.m
  · rw [hR1 k hk _ hlive, mul_assoc]
  · rw [hdead i hi (Nat.not_lt.mp hlive), mul_zero, mul_zero, mul_zero]

theorem restore_inv {R : ℕ → ℕ → ℚ} {σ : ℕ → ℚ} (h : DInv P K R P.m t3) (hσ : ∀ k, σ k ≠ 0)
    (hR1 : ∀ k < P.m, ∀ c < P.n + P.m, R k c = σ k * origRow P k c)
    (hR2 : ∀ k < P.m, R k (P.n + P.m + K) = σ k * origRow P k (P.n + P.m))
    (ho0len : o0.length = P.n + P.m + 1) (ho0 : ∀ c, o0.getD c 0 = wbar P c) :
    Inv2 P (restoreTab 0 (P.n + P.m) P.m o0 t3) := by
  have hwf := h.inv.wf
  have hzero := art_rhs_zero h.inv h.nn
  generalize hT : restoreTab 0 (P.n + P.m) P.m o0 t3 = T
  have E : ∀ i < P.m, ∀ c, T.e i c =
      if c < P.n + P.m then t3.e i c else if c = P.n + P.m then t3.e i (P.n + P.m + K) else 0 :=
    fun i hi c => hT ▸ rest_e hwf hi c
  have hbs : ∀ i, T.bs i = t3.bs i := fun i => hT ▸ rfl
  have Elt : ∀ i < P.m, ∀ c < P.n + P.m, T.e i c = t3.e i c :=
    fun i hi c hc => by rw [E i hi c, if_pos hc]
  have Elast : ∀ i < P.m, T.e i (P.n + P.m) = t3.e i (P.n + P.m + K) :=
    fun i hi => by rw [E i hi, if_neg (lt_irrefl _), if_pos rfl]
  have rowS4 : ∀ i < P.m, InSW P (P.n + P.m) (T.e i) := by
    intro i hi
    have h3 := h.inv.rowS i hi
    have hs : ∀ g : ℕ → ℚ, ∑ k ∈ range P.m, T.e i (P.n + k) * g k
        = ∑ k ∈ range P.m, t3.e i (P.n + k) * g k :=
      fun g => Finset.sum_congr rfl fun k hk => by
        rw [Elt i hi (P.n + k) (Nat.add_lt_add_left (Finset.mem_range.mp hk) _)]
    exact ⟨fun j hj => by rw [Elt i hi j (Nat.lt_add_right _ hj), hs]; exact h3.cols j hj,
      by rw [hs]; exact (Elast i hi).trans h3.last⟩
  have unit4 : ∀ i < P.m, ∀ k < P.m, t3.bs k < P.n + P.m →
      T.e i (t3.bs k) = if i = k then 1 else 0 := by
    intro i hi k hk hlive
    rw [Elt i hi _ hlive]; exact h.inv.unit i hi k hk (Nat.lt_add_right K hlive)
  obtain ⟨hlen, hobj⟩ := restoreFold (T := T) ho0len ho0 unit4 (fun i hi => hT ▸ rest_row_len hwf hi)
  rw [← hT, ← rest_obj, hT] at hlen hobj
  refine {
    wf := Tab.WF.of_getD (hT ▸ (List.length_map _).trans hwf.rows_len) (fun _ hi => hT ▸ rest_row_len hwf hi)
      hlen (hT ▸ hwf.basis_len)
    ref := fun k hk c hc => ?_
    rowS := rowS4
    unit := fun i hi k hk hlive => by rw [hbs] at hlive ⊢; exact unit4 i hi k hk hlive
    dead := fun i hi hdead c hc => ?_
    rhs := fun i hi => (Elast i hi).symm ▸ h.inv.rhs i hi
    priced := fun c => by rw [show T.oe c = T.obj.getD c 0 from rfl, hobj c]; simp only [hbs] }
  · rcases Nat.lt_succ_iff_lt_or_eq.mp hc with h1 | rfl
    · exact rest_ref hσ h.inv.ref hR1 hbs hk (Nat.lt_succ_of_lt (Nat.lt_add_right K h1)) (hR1 k hk c h1)
        (fun i hi => Elt i hi c h1) fun i hi ha => h.done i hi hi ha c h1
    · exact rest_ref hσ h.inv.ref hR1 hbs hk (Nat.lt_succ_self _) (hR2 k hk) Elast hzero
  · rw [hbs] at hdead
    rw [E i hi c]
    by_cases h1 : c < P.n + P.m
    · rw [if_pos h1]; exact h.done i hi hi (Nat.not_lt.mp hdead) c h1
    · rw [if_neg h1]
      split
      · exact hzero i hi (Nat.not_lt.mp hdead)
      · rfl

end restore

/-- what `_phase1` (at `eps = 0`) hands back -/
def Phase1Post (P : LP) (r : P1) : Prop :=
  (r.status = .OPTIMAL ∧ Inv2 P r.tab) ∨
  (r.status = .INFEASIBLE ∧ chkInfeasible P (slackPart P.n P.m r.p1obj) = true) ∨ r.status = .MAX_ITER

theorem phase1_spec {P : LP} {t0 : Tab} (h0 : IsInit P t0) (fuel : ℕ) :
    Phase1Post P (phase1 0 fuel P.n P.m t0) := by
  unfold Phase1Post phase1
  simp only []
  have hF := h0.mem_flipped
  generalize flippedRows 0 P.m t0 = F at *
  by_cases hK : F.length = 0
  · rw [if_pos hK]
    left
    refine ⟨rfl, h0.inv2 fun i hi => ?_⟩
    by_contra hlt
    have := (hF i).mpr ⟨hi, not_le.mp hlt⟩
    rw [List.length_eq_zero_iff.mp hK] at this
    cases this
  · rw [if_neg hK]
    have hg := ginv1 h0 (fun i hi => ⟨fun h => ((hF i).mp h).2, fun h => (hF i).mpr ⟨hi, h⟩⟩)
    obtain ⟨hinv, hopt, hunb, hcases⟩ := gphase2_spec fuel 0 (artTab P.n P.m F t0) hg
    have hR1 : ∀ k < P.m, ∀ c < P.n + P.m, (artTab P.n P.m F t0).e k c = sgn F k * origRow P k c :=
      fun k hk c hc => by rw [art_e_lt h0.wf hk hc, h0.e_lt hk hc]
    have hR2 : ∀ k < P.m,
        (artTab P.n P.m F t0).e k (P.n + P.m + F.length) = sgn F k * origRow P k (P.n + P.m) :=
      fun k hk => by
        rw [art_e_last h0.wf hk, h0.ent k hk _ (Nat.lt_succ_self _)]
    generalize phase2 0 fuel 0 (artTab P.n P.m F t0) = r at *
    rw [neg_zero, lastR_obj hinv.wf]
    by_cases hneg : r.tab.oe (P.n + P.m + F.length) < 0
    · rw [if_pos hneg]
      rcases hcases with hs | hs | hs
      · right; left
        simp only [hs]
        exact ⟨by decide, cert_infeasible1 hinv (hopt hs) hneg⟩
      · obtain ⟨e, _, he2, he3⟩ := hunb hs
        exact (phase1_not_unbounded hinv he2 he3).elim
      · right; right
        simp only [hs]
        rfl
    · rw [if_neg hneg]
      left
      exact ⟨rfl, restore_inv (driveOut_inv hinv hneg) (sgn_ne_zero F) hR1 hR2 h0.wf.obj_len h0.oe⟩

theorem solveLp_certifies (c : Vec) (A : Mat) (b : Vec) (mn : Bool) (fuel : ℕ)
    (hA : ∀ i < b.length, (A.getD i []).length = c.length)
    (hst : (solveLp c A b mn 0 fuel).status ≠ .MAX_ITER) :
    certifies (mkLP c A b mn) (solveLp c A b mn 0 fuel) = true := by
  set P := mkLP c A b mn with hP
  have hn : P.n = c.length := mkLP_n c A b mn
  have hm : P.m = b.length := rfl
  have hA' : ∀ i < P.m, (P.A.getD i []).length = P.n := fun i hi => by rw [hn]; exact hA i hi
  have h0 : IsInit P (initTab P.c P.A P.b) := isInit_initTab P hA'
  have hinit : initTab (if mn = true then c else c.map fun v => -v) A b = initTab P.c P.A P.b := rfl
  -- both branches end in `finishLp` on an invariant tableau, or in the INFEASIBLE return
  have fin : ∀ {t : Tab} {f it0 : ℕ} {ph1 near : Bool}, Inv2 P t →
      (finishLp P.n b.length mn it0 ph1 near (phase2 0 f 0 t)).status ≠ .MAX_ITER →
      certifies P (finishLp P.n b.length mn it0 ph1 near (phase2 0 f 0 t)) = true := by
    intro t f it0 ph1 near ht hst'
    obtain ⟨hinv, hopt, hunb, hcases⟩ := gphase2_spec (P := P) f 0 t ht
    generalize phase2 0 f 0 t = r at *
    unfold certifies finishLp
    unfold finishLp at hst'
    simp only [] at hst' ⊢
    rcases hcases with hs | hs | hs
    · rw [hs]
      rw [← hm]
      exact cert_optimal2 hinv (hopt hs)
    · obtain ⟨e, he1, he2, he3⟩ := hunb hs
      rw [hs, he1]
      simp only []
      exact cert_unbounded2 hinv he2 he3
    · exact absurd hs hst'
  unfold solveLp at hst ⊢
  simp only [] at hst ⊢
  rw [hinit, ← hn] at hst ⊢
  by_cases hany : ((List.range b.length).any fun i =>
      decide (lastR ((initTab P.c P.A P.b).rows.getD i []) < -0)) = true
  · rw [if_pos hany] at hst ⊢
    have hph : phase1 0 fuel P.n b.length (initTab P.c P.A P.b) = phase1 0 fuel P.n P.m (initTab P.c P.A P.b) := rfl
    rw [hph] at hst ⊢
    have hp1 := phase1_spec h0 fuel
    generalize phase1 0 fuel P.n P.m (initTab P.c P.A P.b) = r at hp1 hst ⊢
    rcases hp1 with ⟨hs, hinv⟩ | ⟨hs, hcert⟩ | hs
    · have h1 : ¬ r.status = .MAX_ITER := by rw [hs]; decide
      have h2 : ¬ (r.status != .OPTIMAL) = true := by rw [hs]; decide
      rw [if_neg h1, if_neg h2] at hst ⊢
      exact fin hinv hst
    · have h1 : ¬ r.status = .MAX_ITER := by rw [hs]; decide
      have h2 : (r.status != .OPTIMAL) = true := by rw [hs]; decide
      rw [if_neg h1, if_pos h2]
      unfold certifies
      simp only []
      exact hcert
    · rw [if_pos hs] at hst
      exact absurd rfl hst
  · rw [if_neg hany] at hst ⊢
    have hb : ∀ i < P.m, 0 ≤ vget P.b i := by
      intro i hi
      by_contra hlt
      apply hany
      rw [List.any_eq_true]
      refine ⟨i, List.mem_range.mpr hi, ?_⟩
      have := (h0.mem_flipped i).mpr ⟨hi, not_le.mp hlt⟩
      unfold flippedRows at this
      rw [List.mem_filter] at this
      exact this.2
    exact fin (h0.inv2 hb) hst

end Solvor.Lp
