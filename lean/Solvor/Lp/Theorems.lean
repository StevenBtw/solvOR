import Solvor.Lp.Lemmas
import Solvor.Lp.MilpLemmas
import Solvor.Lp.Phase1
import Solvor.Lp.BnbLemmas
/-! Lp: the property theorems of C03 (LP verdicts and optima) and C04 (MILP).  With `verdict_unique`, one accepted
certificate pins the verdict of an input: a status different from it is wrong. -/
namespace Solvor.Lp
open Finset
open Solvor.Gen (Status)

section spec
variable {m n : ℕ} (P : LPF m n)

/-- [C] the certificate behind `OPTIMAL` (dual vector, no gap): the value is the optimum. -/
theorem weak_duality_cert (x : Fin n → ℚ) (y : Fin m → ℚ) (hx : P.Feasible x)
    (hy : ∀ i, 0 ≤ y i) (hd : ∀ j, 0 ≤ P.c j + ∑ i, y i * P.A i j)
    (hgap : P.obj x = -(∑ i, y i * P.b i)) :
    P.IsOptimal x ∧ ∀ x', P.IsOptimal x' → P.obj x' = P.obj x := by
  have opt : P.IsOptimal x := ⟨hx, fun x' hx' => by rw [hgap]; exact weak_duality' P x' y P.b hx'.1 hx'.2 hy hd⟩
  exact ⟨opt, fun x' h' => le_antisymm (h'.2 x hx) (opt.2 x' h'.1)⟩

example : (⟨fun _ _ => 1, fun _ => 4, fun _ => -1⟩ : LPF 1 2).IsOptimal (fun _ => 2) :=
  (weak_duality_cert _ (fun _ => 2) (fun _ => 1)
    ⟨fun _ => by norm_num, fun _ => by rw [Fin.sum_univ_two]; norm_num⟩
    (fun _ => zero_le_one) (fun _ => by rw [Fin.sum_univ_one]; norm_num)
    (by unfold LPF.obj; rw [Fin.sum_univ_two, Fin.sum_univ_one]; norm_num)).1

/-- [C] the certificate behind `INFEASIBLE` (Farkas vector). -/
theorem farkas_cert (y : Fin m → ℚ) (hy : ∀ i, 0 ≤ y i) (hd : ∀ j, 0 ≤ ∑ i, y i * P.A i j)
    (hb : ∑ i, y i * P.b i < 0) : P.Infeasible := by
  intro x hx
  have h1 := dual_le P x y P.b hx.2 hy
  have h3 : 0 ≤ ∑ j, (∑ i, y i * P.A i j) * x j :=
    Finset.sum_nonneg fun j _ => mul_nonneg (hd j) (hx.1 j)
  exact absurd (h3.trans h1) (not_le.mpr hb)

example : (⟨fun _ _ => 1, fun _ => -1, fun _ => 0⟩ : LPF 1 1).Infeasible :=
  farkas_cert _ (fun _ => 1) (fun _ => zero_le_one) (fun _ => by rw [Fin.sum_univ_one]; norm_num)
    (by rw [Fin.sum_univ_one]; norm_num)

/-- [C] the certificate behind `UNBOUNDED` (vertex and ray). -/
theorem ray_cert (x d : Fin n → ℚ) (hx : P.Feasible x) (hd : ∀ j, 0 ≤ d j)
    (hAd : ∀ i, ∑ j, P.A i j * d j ≤ 0) (hcd : P.obj d < 0) : P.Unbounded := by
  refine ⟨⟨x, hx⟩, fun M => ?_⟩
  -- the point `x + t d` with `t = max 0 ((M - c·x)/(c·d)) + 1`
  let t : ℚ := max 0 ((M - P.obj x) / P.obj d) + 1
  have ht0 : 0 < t := lt_of_le_of_lt (le_max_left _ _) (lt_add_one _)
  have ht1 : (M - P.obj x) / P.obj d < t := lt_of_le_of_lt (le_max_right _ _) (lt_add_one _)
  refine ⟨fun j => x j + t * d j, ⟨fun j => ?_, fun i => ?_⟩, ?_⟩
  · exact add_nonneg (hx.1 j) (mul_nonneg ht0.le (hd j))
  · rw [sum_mul_add]
    exact (add_le_of_nonpos_right (mul_nonpos_of_nonneg_of_nonpos ht0.le (hAd i))).trans (hx.2 i)
  · unfold LPF.obj
    rw [sum_mul_add]
    exact lt_sub_iff_add_lt'.mp ((div_lt_iff_of_neg hcd).mp ht1)

example : (⟨fun _ _ => -1, fun _ => 0, fun _ => -1⟩ : LPF 1 1).Unbounded :=
  ray_cert _ (fun _ => 0) (fun _ => 1) ⟨fun _ => le_refl _, fun _ => by rw [Fin.sum_univ_one]; norm_num⟩
    (fun _ => zero_le_one) (fun _ => by rw [Fin.sum_univ_one]; norm_num)
    (by unfold LPF.obj; rw [Fin.sum_univ_one]; norm_num)

/-- [C] the three verdicts exclude each other, so "answers X exactly when X holds" is decided by comparing the
status with a certified verdict. -/
theorem verdict_unique {s s' : Status} (h : P.Verdict s) (h' : P.Verdict s') : s = s' := by
  have oi : P.HasOptimum → P.Infeasible → False := fun ⟨x, hx⟩ hi => hi x hx.1
  have iu : P.Infeasible → P.Unbounded → False := fun hi ⟨⟨x, hx⟩, _⟩ => hi x hx
  have ou : P.HasOptimum → P.Unbounded → False := fun ⟨x, hx⟩ ⟨_, hu⟩ => by
    obtain ⟨x', hf, hlt⟩ := hu (P.obj x)
    exact absurd (hx.2 x' hf) (not_le.mpr hlt)
  match s, s', h, h' with
  | .OPTIMAL, .OPTIMAL, _, _ | .INFEASIBLE, .INFEASIBLE, _, _ | .UNBOUNDED, .UNBOUNDED, _, _ => rfl
  | .OPTIMAL, .INFEASIBLE, h, h' | .INFEASIBLE, .OPTIMAL, h', h => exact (oi h h').elim
  | .OPTIMAL, .UNBOUNDED, h, h' | .UNBOUNDED, .OPTIMAL, h', h => exact (ou h h').elim
  | .INFEASIBLE, .UNBOUNDED, h, h' | .UNBOUNDED, .INFEASIBLE, h', h => exact (iu h h').elim
  | .FEASIBLE, _, h, _ | .MAX_ITER, _, h, _ | _, .FEASIBLE, _, h | _, .MAX_ITER, _, h => exact False.elim h

example : (⟨fun _ _ => 1, fun _ => -1, fun _ => 0⟩ : LPF 1 1).Verdict .INFEASIBLE :=
  farkas_cert _ (fun _ => 1) (fun _ => zero_le_one) (fun _ => by rw [Fin.sum_univ_one]; norm_num)
    (by rw [Fin.sum_univ_one]; norm_num)

/-- [C] The interior-point `OPTIMAL` test: an iterate `(x, s, y, zx, zs)` whose primal residual, dual residuals and
complementarity are within `ε` is feasible within `ε`, and its objective lies within an explicit `δ(ε)` of the optimum,
`δ` linear in `ε` with 1-norms as coefficients (second conjunct: against any feasible point; third: against an exactly
certified optimum, the sensitivity of the optimum to the `ε`-relaxed right-hand side).  `y` is in the method's own
sign convention (`Aᵀy + zx = c`, `y ≈ −zs ≤ 0`), the `ys` of the third conjunct in the checkers' (`ys ≥ 0`,
`c + Aᵀys ≥ 0`, value `−ys·b`). -/
theorem approx_duality (ε : ℚ) (hε : 0 ≤ ε) (x zx : Fin n → ℚ) (s y zs : Fin m → ℚ)
    (hx : ∀ j, 0 ≤ x j) (hs : ∀ i, 0 ≤ s i) (hzx : ∀ j, 0 ≤ zx j) (hzs : ∀ i, 0 ≤ zs i)
    (hrb : ∀ i, |∑ j, P.A i j * x j + s i - P.b i| ≤ ε)
    (hrc : ∀ j, |∑ i, y i * P.A i j + zx j - P.c j| ≤ ε)
    (hrs : ∀ i, |y i + zs i| ≤ ε)
    (hmu : ∑ j, zx j * x j + ∑ i, zs i * s i ≤ ((n : ℚ) + m) * ε) :
    P.FeasTol ε x ∧
    (∀ x', P.Feasible x' →
      P.obj x - P.obj x' ≤ ε * (∑ i, |y i| + ((n : ℚ) + m) + ∑ j, x j + ∑ i, s i + ∑ j, x' j
        + ∑ i, (P.b i - ∑ j, P.A i j * x' j))) ∧
    (∀ (xs : Fin n → ℚ) (ys : Fin m → ℚ), P.Feasible xs → (∀ i, 0 ≤ ys i) →
      (∀ j, 0 ≤ P.c j + ∑ i, ys i * P.A i j) → P.obj xs = -(∑ i, ys i * P.b i) →
      P.obj xs - P.obj x ≤ ε * ∑ i, ys i) := by
  have hft : P.FeasTol ε x := by
    refine ⟨fun j => (neg_nonpos.mpr hε).trans (hx j), fun i => ?_⟩
    have := le_trans (le_abs_self _) (hrb i); have := hs i; linarith
  refine ⟨hft, fun x' hx' => ?_, fun xs ys _ hys hds hgap => ?_⟩
  · -- `c·x ≤ y·b + ε(‖y‖₁ + n+m + ‖x‖₁ + ‖s‖₁)` and `y·b − ε(‖x'‖₁ + ‖s'‖₁) ≤ c·x'`, `s' = b − A x'`
    let s' : Fin m → ℚ := fun i => P.b i - ∑ j, P.A i j * x' j
    have hs' : ∀ i, 0 ≤ s' i := fun i => sub_nonneg.mpr (hx'.2 i)
    have hU : P.obj x ≤ ∑ i, y i * P.b i + ε * ∑ i, |y i| + ((n : ℚ) + m) * ε + ε * ∑ j, x j + ε * ∑ i, s i := by
      have id := lagrange_id P x zx y s zs
      have b1 := (sum_mul_le _ x hrc hx).2
      have b2 := (sum_mul_le _ s hrs hs).2
      have b3 := sum_mul_abs_le y _ hrb
      linarith
    have hL : ∑ i, y i * P.b i - ε * ∑ j, x' j - ε * ∑ i, s' i ≤ P.obj x' := by
      have id := lagrange_id P x' zx y s' zs
      have z0 : ∑ i, y i * (∑ j, P.A i j * x' j + s' i - P.b i) = 0 :=
        Finset.sum_eq_zero fun i _ => by simp only [s']; ring
      have b1 := (sum_mul_le _ x' hrc hx'.1).1
      have b2 := (sum_mul_le _ s' hrs hs').1
      have p1 : 0 ≤ ∑ j, zx j * x' j := Finset.sum_nonneg fun j _ => mul_nonneg (hzx j) (hx'.1 j)
      have p2 : 0 ≤ ∑ i, zs i * s' i := Finset.sum_nonneg fun i _ => mul_nonneg (hzs i) (hs' i)
      linarith
    show P.obj x - P.obj x' ≤ ε * (∑ i, |y i| + ((n : ℚ) + m) + ∑ j, x j + ∑ i, s i + ∑ j, x' j
        + ∑ i, s' i)
    linarith
  · -- lower side: weak duality of the exact certificate against the ε-feasible point
    have h1 := weak_duality' P x ys (fun i => P.b i + ε) hx hft.2 hys hds
    have h5 : ∑ i, ys i * (P.b i + ε) = ∑ i, ys i * P.b i + ε * ∑ i, ys i := by
      rw [Finset.mul_sum, ← Finset.sum_add_distrib]; exact Finset.sum_congr rfl fun i _ => by ring
    linarith

/-- non-vacuity: the exact optimum `x = 2` of `min −x, x ≤ 2` with `y = −1`, `zs = 1` (`Aᵀy + zx = c`, `y + zs = 0`)
meets the hypotheses for every `ε ≥ 0`. -/
example (ε : ℚ) (hε : 0 ≤ ε) :
    (⟨fun _ _ => 1, fun _ => 2, fun _ => -1⟩ : LPF 1 1).FeasTol ε (fun _ => 2) :=
  (approx_duality _ ε hε (fun _ => 2) (fun _ => 0) (fun _ => 0) (fun _ => -1) (fun _ => 1)
    (fun _ => by norm_num) (fun _ => le_refl _) (fun _ => le_refl _) (fun _ => zero_le_one)
    (fun _ => by rw [Fin.sum_univ_one]; norm_num; exact hε)
    (fun _ => by rw [Fin.sum_univ_one]; norm_num; exact hε)
    (fun _ => by norm_num; exact hε)
    (by rw [Fin.sum_univ_one, Fin.sum_univ_one]; norm_num; positivity)).1

theorem abs_le_of_sum_sq_le {k : ℕ} (r : Fin k → ℚ) (ε : ℚ) (hε : 0 ≤ ε) (h : ∑ i, r i ^ 2 ≤ ε ^ 2)
    (i : Fin k) : |r i| ≤ ε :=
  abs_le_of_sq_le_sq (le_trans (Finset.single_le_sum (f := fun i => r i ^ 2)
    (fun i _ => sq_nonneg (r i)) (Finset.mem_univ i)) h) hε

/-- [C] (interior point verdict logic) The code's `OPTIMAL` test
`primal_inf < eps and dual_inf < eps and mu < eps` (2-norms of `rb = A x + s − b` and of
`rc = Aᵀy + z − c` over structural and slack columns, `mu = x·z/(n+m)`) implies the hypotheses of
`approx_duality`, hence its three conclusions, with `ε = eps`. -/
theorem ipm_optimal_test_sound (ε : ℚ) (hε : 0 ≤ ε) (x zx : Fin n → ℚ) (s y zs : Fin m → ℚ)
    (hx : ∀ j, 0 ≤ x j) (hs : ∀ i, 0 ≤ s i) (hzx : ∀ j, 0 ≤ zx j) (hzs : ∀ i, 0 ≤ zs i)
    (hprimal : ∑ i, (∑ j, P.A i j * x j + s i - P.b i) ^ 2 ≤ ε ^ 2)
    (hdual : ∑ j, (∑ i, y i * P.A i j + zx j - P.c j) ^ 2 + ∑ i, (y i + zs i) ^ 2 ≤ ε ^ 2)
    (hmu : (∑ j, zx j * x j + ∑ i, zs i * s i) / ((n : ℚ) + m) ≤ ε) (hnm : 0 < (n : ℚ) + m) :
    P.FeasTol ε x ∧
    (∀ x', P.Feasible x' →
      P.obj x - P.obj x' ≤ ε * (∑ i, |y i| + ((n : ℚ) + m) + ∑ j, x j + ∑ i, s i + ∑ j, x' j
        + ∑ i, (P.b i - ∑ j, P.A i j * x' j))) ∧
    (∀ (xs : Fin n → ℚ) (ys : Fin m → ℚ), P.Feasible xs → (∀ i, 0 ≤ ys i) →
      (∀ j, 0 ≤ P.c j + ∑ i, ys i * P.A i j) → P.obj xs = -(∑ i, ys i * P.b i) →
      P.obj xs - P.obj x ≤ ε * ∑ i, ys i) := by
  have h1 : 0 ≤ ∑ j, (∑ i, y i * P.A i j + zx j - P.c j) ^ 2 := Finset.sum_nonneg fun j _ => sq_nonneg _
  have h2 : 0 ≤ ∑ i, (y i + zs i) ^ 2 := Finset.sum_nonneg fun i _ => sq_nonneg _
  refine approx_duality P ε hε x zx s y zs hx hs hzx hzs
    (abs_le_of_sum_sq_le _ ε hε hprimal)
    (abs_le_of_sum_sq_le _ ε hε ((le_add_of_nonneg_right h2).trans hdual))
    (abs_le_of_sum_sq_le _ ε hε ((le_add_of_nonneg_left h1).trans hdual)) ?_
  rw [mul_comm]
  exact (div_le_iff₀ hnm).mp hmu

end spec

section checkers
variable (P : LP)

theorem chkFeasible_spec (x : Vec) : chkFeasible P x = true ↔ P.toF.Feasible (vecF P.n x) := by
  unfold chkFeasible LPF.Feasible
  rw [Bool.and_eq_true, allTo_iff, allTo_iff]
  simp only [decide_eq_true_eq, rowDot_eq]
  exact Iff.rfl

/-- **T-spec** the Bool checkers the driver evaluates on every explored input are sound for the specification: this
one and the two that follow. -/
theorem chkOptimal_sound (x y : Vec) (h : chkOptimal P x y = true) :
    P.toF.IsOptimal (vecF P.n x) ∧ ∀ x', P.toF.IsOptimal x' → P.toF.obj x' = P.objAt x := by
  unfold chkOptimal at h
  simp only [Bool.and_eq_true, allTo_iff, decide_eq_true_eq] at h
  obtain ⟨⟨⟨hf, hy⟩, hd⟩, hg⟩ := h
  rw [objAt_eq]
  refine weak_duality_cert P.toF (vecF P.n x) (vecF P.m y) ((chkFeasible_spec P x).mp hf) hy ?_ ?_
  · exact fun j => colDot_eq P y j ▸ hd j
  · rw [← objAt_eq, hg, rhsDot_eq]

theorem chkInfeasible_sound (y : Vec) (h : chkInfeasible P y = true) : P.toF.Infeasible := by
  unfold chkInfeasible at h
  simp only [Bool.and_eq_true, allTo_iff, decide_eq_true_eq] at h
  obtain ⟨⟨hy, hd⟩, hb⟩ := h
  refine farkas_cert P.toF (vecF P.m y) hy ?_ ?_
  · exact fun j => colDot_eq P y j ▸ hd j
  · rw [← rhsDot_eq]; exact hb

theorem chkUnbounded_sound (x d : Vec) (h : chkUnbounded P x d = true) : P.toF.Unbounded := by
  unfold chkUnbounded at h
  simp only [Bool.and_eq_true, allTo_iff, decide_eq_true_eq] at h
  obtain ⟨⟨⟨hf, hd⟩, hAd⟩, hc⟩ := h
  refine ray_cert P.toF (vecF P.n x) (vecF P.n d) ((chkFeasible_spec P x).mp hf) hd ?_ ?_
  · exact fun i => rowDot_eq P d i ▸ hAd i
  · rw [← objAt_eq]; exact hc

theorem certifies_optimal (o : LpOut) (h : certifies P o = true) (hs : o.status = .OPTIMAL) :
    P.toF.IsOptimal (vecF P.n o.x) ∧ ∀ x', P.toF.IsOptimal x' → P.toF.obj x' = P.objAt o.x := by
  unfold certifies at h; rw [hs] at h; exact chkOptimal_sound P _ _ h

/-- **T-spec** what the driver reports as "certified" -/
theorem certifies_sound (o : LpOut) (h : certifies P o = true) : P.toF.Verdict o.status := by
  unfold certifies at h
  cases hs : o.status with
  | OPTIMAL => rw [hs] at h; exact ⟨_, (chkOptimal_sound P _ _ h).1⟩
  | INFEASIBLE => rw [hs] at h; exact chkInfeasible_sound P _ h
  | UNBOUNDED => rw [hs] at h; exact chkUnbounded_sound P _ _ h
  | FEASIBLE => rw [hs] at h; cases h
  | MAX_ITER => rw [hs] at h; cases h

/-- the mirror at the code's `eps`, the exact run at `eps = 0`, any other solver's certificate: certified runs on one
input agree on the verdict -/
theorem certified_status_unique (o o' : LpOut) (h : certifies P o = true) (h' : certifies P o' = true) :
    o.status = o'.status :=
  verdict_unique P.toF (certifies_sound P o h) (certifies_sound P o' h')

theorem chkFeasTol_iff (tol : ℚ) (x : Vec) :
    chkFeasTol P tol x = true ↔ P.toF.FeasTol tol (vecF P.n x) := by
  unfold chkFeasTol LPF.FeasTol
  rw [Bool.and_eq_true, allTo_iff, allTo_iff]
  simp only [decide_eq_true_eq, rowDot_eq]
  exact Iff.rfl

theorem chkObjAt_iff (tol : ℚ) (x : Vec) (obj : ℚ) :
    chkObjAt P tol x obj = true ↔ |P.toF.obj (vecF P.n x) - obj| ≤ tol := by
  unfold chkObjAt; rw [decide_eq_true_eq, absR_eq, objAt_eq]

theorem chkObjNear_iff (tol obj opt : ℚ) :
    chkObjNear tol obj opt = true ↔ |obj - opt| ≤ tol * (1 + |opt|) := by
  unfold chkObjNear; rw [decide_eq_true_eq, absR_eq, absR_eq]

/-- **T-spec** the interior-point `FEASIBLE` check; the term with `ulp` is the rounding allowance `LP.roundSlack`
(`ulp = 0`: the exact residual). -/
theorem chkResidual_iff (r ulp : ℚ) (x : Vec) :
    chkResidual P r ulp x = true ↔
      (∀ j : Fin P.n, 0 ≤ vecF P.n x j) ∧
      ∑ i : Fin P.m, (max 0 (∑ j, P.toF.A i j * vecF P.n x j - P.toF.b i
        - ulp * (∑ j, |P.toF.A i j * vecF P.n x j| + |P.toF.b i| + 1))) ^ 2 ≤ r ^ 2 := by
  have hp : ∀ a : ℚ, (if 0 < a then a * a else 0) = (max 0 a) ^ 2 := fun a => by
    split
    · rename_i h; rw [max_eq_right h.le, sq]
    · rename_i h; rw [max_eq_left (not_lt.mp h), sq, mul_zero]
  unfold chkResidual LP.resid2 LP.roundSlack
  rw [Bool.and_eq_true, allTo_iff, ← sq]
  simp only [decide_eq_true_eq, hp, sumTo_eq_sum, rowDot_eq, absR_eq]
  exact Iff.rfl

/-- The positive part of `A x − b` is the least primal residual over the slack vectors `s ≥ 0`; so `primal_inf < 0.01`
in the code (which has such an `s`) implies the checker's condition. -/
theorem residual_least {m n : ℕ} (Q : LPF m n) (x : Fin n → ℚ) (s : Fin m → ℚ) (hs : ∀ i, 0 ≤ s i) :
    ∑ i, (max 0 (∑ j, Q.A i j * x j - Q.b i)) ^ 2 ≤ ∑ i, (∑ j, Q.A i j * x j + s i - Q.b i) ^ 2 := by
  refine Finset.sum_le_sum fun i _ => ?_
  rcases le_total (∑ j, Q.A i j * x j - Q.b i) 0 with h | h
  · rw [max_eq_left h]; simp only [ne_eq, OfNat.ofNat_ne_zero, not_false_eq_true, zero_pow]
    exact sq_nonneg _
  · rw [max_eq_right h]
    exact pow_le_pow_left₀ h (by rw [add_sub_right_comm]; exact le_add_of_nonneg_right (hs i)) 2

end checkers

/-- [S] for every LP with rectangular `A` (`hA`; any sign of `b`, any sense, any iteration budget) in exact arithmetic
(`eps = 0`): if the mirror of `solve_lp` stops with a verdict (not `MAX_ITER`), the certificate it reads off the final tableau – OPTIMAL: dual
vector, INFEASIBLE: Farkas vector from the phase-1 objective row, UNBOUNDED: vertex and ray – is accepted by the
verified checker of that verdict, so the verdict is the true one and with `OPTIMAL` the returned vertex is optimal
(`certifies_sound`, `certifies_optimal`); the field `objective` of the answer is not spoken of.  Left out: `eps > 0` (the
argument would go through for `eps` below the smallest non-zero magnitude that is compared). -/
theorem simplex_certifies (c : Vec) (A : Mat) (b : Vec) (mn : Bool) (fuel : ℕ)
    (hA : ∀ i < b.length, (A.getD i []).length = c.length)
    (hst : (solveLp c A b mn 0 fuel).status ≠ .MAX_ITER) :
    certifies (mkLP c A b mn) (solveLp c A b mn 0 fuel) = true ∧
    (mkLP c A b mn).toF.Verdict (solveLp c A b mn 0 fuel).status :=
  ⟨solveLp_certifies c A b mn fuel hA hst, certifies_sound _ _ (solveLp_certifies c A b mn fuel hA hst)⟩

/-- non-vacuity: an LP with a negative right-hand side, which goes through phase 1 (equality pair; its `A` is
rectangular, last conjunct), an infeasible one and an unbounded one all stop with a verdict -/
example : (solveLp [1, 1] [[-1, -1], [1, 1]] [-2, 2] true 0 100).status = .OPTIMAL ∧
    (solveLp [1, 2] [[-1, 0], [0, -1], [1, 1]] [-1, -1, 1] true 0 100).status = .INFEASIBLE ∧
    (solveLp [-1, 0] [[1, -1], [-1, 1]] [1, -1] true 0 100).status = .UNBOUNDED ∧
    (∀ i < 2, (([[-1, -1], [1, 1]] : Mat).getD i []).length = 2) := by decide +kernel

section milp

/-- [C] `_is_feasible` accepts exactly the points of `MilpFeasTol`. -/
theorem isFeasible_iff (P : LP) (ints : List ℕ) (eps : ℚ) (x : Vec) (hints : ∀ j ∈ ints, j < P.n) :
    isFeasible P ints eps x = true ↔ P.toF.MilpFeasTol (intSet P.n ints) eps (vecF P.n x) := by
  unfold isFeasible LPF.MilpFeasTol
  simp only [Bool.and_eq_true, allTo_iff, List.all_eq_true, Bool.not_eq_true', decide_eq_false_iff_not,
    not_lt, and_assoc]
  refine and_congr Iff.rfl (and_congr ?_ ?_)
  · exact ⟨fun h j hj => (roundDist_le_iff _ _).mp (h j.val hj),
      fun h j hj => (roundDist_le_iff _ _).mpr (h ⟨j, hints j hj⟩ hj)⟩
  · exact forall_congr' fun i => by rw [rowDot_eq]; exact Iff.rfl

example : isFeasible ⟨[[1, 1]], [3], [1, 1]⟩ [0] (1 / 1000000) [2, 1 / 2] = true := by decide +kernel

theorem milpFeasTol_zero {m n : ℕ} (Q : LPF m n) (I : Fin n → Prop) (x : Fin n → ℚ) :
    Q.MilpFeasTol I 0 x ↔ Q.MilpFeasible I x := by
  unfold LPF.MilpFeasTol LPF.MilpFeasible LPF.Feasible
  simp only [neg_zero, add_zero, abs_nonpos_iff, sub_eq_zero]
  exact ⟨fun h => ⟨⟨h.1, h.2.2⟩, h.2.1⟩, fun h => ⟨h.1.1, h.2, h.1.2⟩⟩

/-- [C] the exhaustive oracle: if the box certificate and the certificate of every run are accepted (`oracleOk`), its
answer – unbounded, no integer-feasible point, or the least objective over the OPTIMAL runs with its point – is the
MILP's.  `solve` is arbitrary: only its certificates matter. -/
theorem milpOracle_correct (solve : LP → LpOut) (P : LP) (ints ub : List ℕ) (ys : List Vec)
    (hwf : P.A.length = P.b.length) (hints : ∀ j ∈ ints, j < P.n)
    (hok : oracleOk solve P ints ub ys = true) :
    (oracleUnb solve P ints ub = true →
      ∀ M : ℚ, ∃ x, P.toF.MilpFeasible (intSet P.n ints) x ∧ P.toF.obj x < M) ∧
    (oracleUnb solve P ints ub = false →
      match oracleBest solve P ints ub with
      | none => ∀ x, ¬ P.toF.MilpFeasible (intSet P.n ints) x
      | some (v, x) =>
        P.toF.MilpFeasible (intSet P.n ints) (vecF P.n x) ∧ P.toF.obj (vecF P.n x) = v ∧
        ∀ x', P.toF.MilpFeasible (intSet P.n ints) x' → v ≤ P.toF.obj x') := by
  unfold oracleOk at hok
  rw [Bool.and_eq_true, List.all_eq_true] at hok
  obtain ⟨hbox, hcert⟩ := hok
  have hlenub := chkBox_length P ints ub ys hbox
  have hrun : ∀ r ∈ oracleRuns solve P ints ub,
      ints.length = r.1.length ∧ (P.fix ints r.1).toF.Verdict r.2.status := by
    intro r hr
    refine ⟨?_, certifies_sound _ _ (hcert r hr)⟩
    simp only [oracleRuns, List.mem_map] at hr
    obtain ⟨a, ha, rfl⟩ := hr
    rw [((mem_assignments_iff ub a).1 ha).length_eq, hlenub]
  have hcover : ∀ x', P.toF.MilpFeasible (intSet P.n ints) x' →
      ∃ r ∈ oracleRuns solve P ints ub, (P.fix ints r.1).toF.Feasible x' := by
    intro x' hx'
    obtain ⟨a, ha, hf⟩ := milp_fixFeasible P hwf ints ub ys hints hbox x' hx'
    exact ⟨(a, solve (P.fix ints a)), List.mem_map.mpr ⟨a, ha, rfl⟩, hf⟩
  constructor
  · intro hu M
    simp only [oracleUnb, List.any_eq_true, decide_eq_true_eq] at hu
    obtain ⟨r, hr, hs⟩ := hu
    obtain ⟨hlen, hv⟩ := hrun r hr
    rw [hs] at hv
    obtain ⟨x, hxf, hxM⟩ := hv.2 M
    exact ⟨x, fixFeasible_milp P hwf ints r.1 hlen hints x hxf, hxM⟩
  · intro hu
    have hnu : ∀ r ∈ oracleRuns solve P ints ub, r.2.status ≠ .UNBOUNDED := by
      intro r hr hs
      have : oracleUnb solve P ints ub = true := by
        simp only [oracleUnb, List.any_eq_true, decide_eq_true_eq]; exact ⟨r, hr, hs⟩
      rw [hu] at this; cases this
    have hopt : ∀ x', P.toF.MilpFeasible (intSet P.n ints) x' →
        ∃ r ∈ oracleRuns solve P ints ub, r.2.status = .OPTIMAL ∧ P.objAt r.2.x ≤ P.toF.obj x' := by
      intro x' hx'
      obtain ⟨r, hr, hf⟩ := hcover x' hx'
      refine ⟨r, hr, ?_⟩
      have hc := hcert r hr
      obtain ⟨_, hv⟩ := hrun r hr
      cases hs : r.2.status with
      | OPTIMAL =>
        refine ⟨rfl, ?_⟩
        have := (certifies_optimal _ _ hc hs).1.2 x' hf
        rw [← objAt_eq] at this
        exact this
      | INFEASIBLE => rw [hs] at hv; exact absurd hf (hv x')
      | UNBOUNDED => exact absurd hs (hnu r hr)
      | FEASIBLE => rw [hs] at hv; exact hv.elim
      | MAX_ITER => rw [hs] at hv; exact hv.elim
    have hb := foldl_best P (oracleRuns solve P ints ub)
    unfold oracleBest
    cases hbest : List.foldl (bestStep P) none (oracleRuns solve P ints ub) with
    | none =>
      rw [hbest] at hb
      simp only at hb ⊢
      intro x' hx'
      obtain ⟨r, hr, hs, _⟩ := hopt x' hx'
      exact hb r hr hs
    | some p =>
      obtain ⟨v, x⟩ := p
      rw [hbest] at hb
      simp only at hb ⊢
      obtain ⟨⟨r, hr, hs, hx, hvx⟩, h3⟩ := hb
      · obtain ⟨hlen, _⟩ := hrun r hr
        have hfe := (certifies_optimal _ _ (hcert r hr) hs).1.1
        refine ⟨?_, ?_, ?_⟩
        · rw [hx]; exact fixFeasible_milp P hwf ints r.1 hlen hints _ hfe
        · rw [hvx, hx, objAt_eq]
        · intro x' hx'
          obtain ⟨r', hr', hs', hle⟩ := hopt x' hx'
          exact le_trans (h3 r' hr' hs') hle

/-- non-vacuity: `max x + y, 2x + 2y ≤ 3, x, y ∈ {0,1}`; the box `[1,1]` with the dual vectors
`[1/2]`, the exact simplex as solver: the oracle accepts and reports the optimum `−1` (minimising `−x−y`). -/
example : oracleOk exactSolve ⟨[[2, 2]], [3], [-1, -1]⟩ [0, 1] [1, 1] [[1 / 2], [1 / 2]] = true ∧
    (oracleBest exactSolve ⟨[[2, 2]], [3], [-1, -1]⟩ [0, 1] [1, 1]).map (·.1) = some (-1) := by
  decide +kernel

/-- The relaxation's Farkas certificate already settles `INFEASIBLE` for the MILP. -/
theorem relaxation_infeasible {m n : ℕ} (Q : LPF m n) (I : Fin n → Prop) (h : Q.Infeasible) :
    ∀ x, ¬ Q.MilpFeasible I x := fun x hx => h x hx.1

/-- [S] for integer data and `eps < 1` (the property quantifies over `0 < eps < 1`;
`eps = 1e-6` in the code), whenever `_detect_binary` fires – every integer variable has an explicit
row `x_j ≤ 1` – every integer-feasible point has `x_j ≤ 1` on the integer variables, so tightening
their upper bounds to `1` drops no integer-feasible point. -/
theorem binary_tightening_sound (P : LP) (ints : List ℕ) (eps : ℚ) (heps : eps < 1)
    (hA : ∀ i j, ∃ z : ℤ, P.a i j = z) (hb : ∀ i, ∃ z : ℤ, vget P.b i = z)
    (hdet : detectBinary P ints eps = true) :
    ∀ x, P.toF.MilpFeasible (intSet P.n ints) x → ∀ j, intSet P.n ints j → x j ≤ 1 := by
  unfold detectBinary at hdet
  rw [Bool.and_eq_true, decide_eq_true_eq, decide_eq_true_eq] at hdet
  obtain ⟨hlen, _⟩ := hdet
  -- the set of bounded variables is the set of integer variables
  have hsub : (boundedVars P ints eps).eraseDups ⊆ ints := by
    intro j hj
    rw [List.mem_eraseDups] at hj
    obtain ⟨_, _, _, _, hji, _⟩ := boundedVars_spec P ints eps j hj
    exact hji
  have hperm := (List.subperm_of_subset (nodup_eraseDups _ _ (le_refl _)) hsub).perm_of_length_le
    (by rw [hlen])
  intro x hx j hj
  have hjb : j.val ∈ boundedVars P ints eps := by
    rw [← List.mem_eraseDups]; exact hperm.mem_iff.mpr hj
  obtain ⟨i, hi, hbi, hnz, _, hco⟩ := boundedVars_spec P ints eps j.val hjb
  -- the row is `e_j`, its right-hand side is 1
  have hb1 : vget P.b i = 1 := int_eq_one_of_abs_le (hb i) hbi heps
  have ha1 : P.a i j.val = 1 := int_eq_one_of_abs_le (hA i j.val) hco.le heps
  have ha0 : ∀ j' : Fin P.n, j' ≠ j → P.a i j'.val = 0 := by
    intro j' hne
    have hnot : j'.val ∉ rowNz P eps i := by
      rw [hnz, List.mem_singleton]; exact fun e => hne (Fin.ext e)
    unfold rowNz at hnot
    rw [List.mem_filter, List.mem_range, decide_eq_true_eq, absR_eq] at hnot
    have : |P.a i j'.val| ≤ eps := not_lt.mp (fun h => hnot ⟨j'.isLt, h⟩)
    exact int_eq_zero_of_abs_le (hA i j'.val) this heps
  have hrow := hx.1.2 ⟨i, hi⟩
  have hsum : ∑ j' : Fin P.n, P.toF.A ⟨i, hi⟩ j' * x j' = x j := by
    rw [Finset.sum_eq_single j]
    · show P.a i j.val * x j = x j
      rw [ha1, one_mul]
    · intro j' _ hne
      show P.a i j'.val * x j' = 0
      rw [ha0 j' hne, zero_mul]
    · intro h; exact absurd (Finset.mem_univ _) h
  rw [hsum] at hrow
  exact le_of_le_of_eq hrow hb1

example : detectBinary ⟨[[3, 5], [1, 0], [0, 1]], [8, 1, 1], [1, 1]⟩ [0, 1] (1 / 1000000) = true := by
  decide +kernel

/-! The abstract branch and bound of Spec.lean.  `BInv` is a conjunction and is read by position: `.1` the bound of each
open node is below the objective of the feasible points of its region, `.2.1` a feasible point that beats the incumbent
by more than `eps` lies in the region of an open node, `.2.2` the incumbent is accepted and its recorded value is its
objective. -/
section bnb
variable {Pt : Type} (Feas Acc : Pt → Prop) (obj : Pt → ℚ) (eps : ℚ)

theorem offer_spec (inc : Option (Pt × ℚ)) (q : Pt) (w : ℚ) :
    ∃ p v, BState.offer inc q w = some (p, v) ∧ v ≤ w ∧ (∀ p0 v0, inc = some (p0, v0) → v ≤ v0) ∧
      ((p, v) = (q, w) ∨ inc = some (p, v)) := by
  unfold BState.offer
  cases inc with
  | none => exact ⟨q, w, rfl, le_refl _, by simp, Or.inl rfl⟩
  | some pv =>
    obtain ⟨p0, v0⟩ := pv
    by_cases h : w < v0
    · simp only [h, if_true]
      exact ⟨q, w, rfl, le_refl _, fun _ _ e => by cases e; exact h.le, Or.inl rfl⟩
    · simp only [h, if_false]
      exact ⟨p0, v0, rfl, not_lt.mp h, fun _ _ e => by cases e; exact le_refl _, Or.inr rfl⟩

/-- [C] every step of the loop preserves the invariant – each open node's bound
is a lower bound of its region, every integer-feasible point that beats the incumbent by more than
`eps` lies in the region of some open node, and the incumbent passed the filter with `obj = c·x`. -/
theorem bnb_invariant (heps : 0 ≤ eps) (s s' : BState Pt) (h : BInv Feas Acc obj eps s)
    (st : BStep Feas Acc obj eps s s') : BInv Feas Acc obj eps s' := by
  -- a point that beats the offered incumbent beats the candidate and the old incumbent
  have beats : ∀ (inc : Option (Pt × ℚ)) (q : Pt) (w : ℚ) (y : Pt),
      (∀ p v, BState.offer inc q w = some (p, v) → obj y < v - eps) →
      obj y < w - eps ∧ ∀ p v, inc = some (p, v) → obj y < v - eps := by
    intro inc q w y hbt
    obtain ⟨p', v', he, hle, hmono, _⟩ := offer_spec inc q w
    have := hbt p' v' he
    exact ⟨this.trans_le (sub_le_sub_right hle eps), fun p v e => this.trans_le (sub_le_sub_right (hmono p v e) eps)⟩
  have offered : ∀ (inc : Option (Pt × ℚ)) (q : Pt) (w : ℚ), Acc q → obj q = w →
      (∀ p v, inc = some (p, v) → Acc p ∧ obj p = v) →
      ∀ p v, BState.offer inc q w = some (p, v) → Acc p ∧ obj p = v := by
    intro inc q w hacc hobj hinc p v e
    obtain ⟨p', v', he, _, _, hwho⟩ := offer_spec inc q w
    rw [he] at e; cases e
    rcases hwho with h | h
    · cases h; exact ⟨hacc, hobj⟩
    · exact hinc _ _ h
  -- a node without a feasible point that beats the (possibly new) incumbent can be removed
  have remove : ∀ {inc inc' : Option (Pt × ℚ)} {l₁ l₂ : List (BNode Pt)} {N : BNode Pt},
      BInv Feas Acc obj eps ⟨inc, l₁ ++ N :: l₂⟩ →
      (∀ y, (∀ p v, inc' = some (p, v) → obj y < v - eps) → ∀ p v, inc = some (p, v) → obj y < v - eps) →
      (∀ p v, inc' = some (p, v) → Acc p ∧ obj p = v) →
      (∀ y, Feas y → N.region y → (∀ p v, inc' = some (p, v) → obj y < v - eps) → False) →
      BInv Feas Acc obj eps ⟨inc', l₁ ++ l₂⟩ := by
    intro inc inc' l₁ l₂ N ⟨hb, hc, _⟩ hmono hi' hno
    refine ⟨fun M hM => hb M (mem_mid.mpr (Or.inr hM)), fun y hy hbt => ?_, hi'⟩
    obtain ⟨M, hM, hr⟩ := hc y hy (hmono y hbt)
    rcases mem_mid.mp hM with rfl | h1
    · exact (hno y hy hr hbt).elim
    · exact ⟨M, h1, hr⟩
  cases st with
  | prune p v l₁ N l₂ hpr =>
    exact remove h (fun _ hbt => hbt) h.2.2 fun y hy hr hbt =>
      absurd (hpr.trans (h.1 N (mem_mid.mpr (Or.inl rfl)) y hy hr)) (not_le.mpr (hbt p v rfl))
  | infeasible inc l₁ N l₂ hinf =>
    exact remove h (fun _ hbt => hbt) h.2.2 fun y hy hr _ => hinf y hy hr
  | boundDrop p v l₁ N l₂ r hr hvr =>
    exact remove h (fun _ hbt => hbt) h.2.2 fun y hy hry hbt =>
      absurd (hvr.trans (hr y hy hry)) (not_le.mpr (hbt p v rfl))
  | integral inc l₁ N l₂ q r hr hacc hobj =>
    exact remove h (fun y hbt => (beats inc q r y hbt).2) (offered inc q r hacc hobj h.2.2)
      fun y hy hrM hbt =>
        absurd ((sub_le_self r heps).trans (hr y hy hrM)) (not_le.mpr (beats inc q r y hbt).1)
  | branch inc l₁ N l₂ L R r hr hcov hLN hRN hL hR =>
    obtain ⟨hb, hc, hi⟩ := h
    refine ⟨?_, ?_, hi⟩
    · intro M hM y hy hrM
      rcases List.mem_cons.mp hM with rfl | hM
      · rw [hL]; exact hr y hy (hLN y hrM)
      · rcases List.mem_cons.mp hM with rfl | hM
        · rw [hR]; exact hr y hy (hRN y hrM)
        · exact hb M (mem_mid.mpr (Or.inr hM)) y hy hrM
    · intro y hy hbt
      obtain ⟨M, hM, hrM⟩ := hc y hy hbt
      rcases mem_mid.mp hM with rfl | h1
      · rcases hcov y hy hrM with h | h
        · exact ⟨L, List.mem_cons_self, h⟩
        · exact ⟨R, List.mem_cons_of_mem _ List.mem_cons_self, h⟩
      · exact ⟨M, List.mem_cons_of_mem _ (List.mem_cons_of_mem _ h1), hrM⟩
  | heuristic inc l q hacc =>
    exact ⟨h.1, fun y hy hbt => h.2.1 y hy (beats inc q (obj q) y hbt).2,
      offered inc q (obj q) hacc rfl h.2.2⟩

theorem bnb_reachable (heps : 0 ≤ eps) (s s' : BState Pt) (h : BInv Feas Acc obj eps s)
    (run : Relation.ReflTransGen (BStep Feas Acc obj eps) s s') : BInv Feas Acc obj eps s' := by
  induction run with
  | refl => exact h
  | tail _ st ih => exact bnb_invariant Feas Acc obj eps heps _ _ ih st

/-- the start of the loop: one root node whose bound is the root LP value, no incumbent -/
theorem bnb_init (root : BNode Pt) (hroot : ∀ y, Feas y → root.region y)
    (hbound : ∀ y, Feas y → root.bound ≤ obj y) : BInv Feas Acc obj eps ⟨none, [root]⟩ := by
  refine ⟨fun N hN y hy _ => ?_, fun y hy _ => ⟨root, List.mem_singleton.mpr rfl, hroot y hy⟩,
    fun p v e => by cases e⟩
  rw [List.mem_singleton.mp hN]; exact hbound y hy

/-- [C] status `OPTIMAL` at the end of the loop: tree empty ⇒ the incumbent is optimal within `eps`. -/
theorem bnb_optimal (s : BState Pt) (h : BInv Feas Acc obj eps s) (hempty : s.nodes = [])
    (p : Pt) (v : ℚ) (hinc : s.inc = some (p, v)) :
    Acc p ∧ obj p = v ∧ ∀ y, Feas y → v - eps ≤ obj y := by
  obtain ⟨_, hc, hi⟩ := h
  refine ⟨(hi p v hinc).1, (hi p v hinc).2, fun y hy => ?_⟩
  by_contra hlt
  obtain ⟨N, hN, _⟩ := hc y hy (fun p' v' e => by rw [hinc] at e; cases e; exact not_le.mp hlt)
  rw [hempty] at hN; cases hN

/-- [C] status `INFEASIBLE` at the end of the loop: tree empty and no incumbent. -/
theorem bnb_infeasible (s : BState Pt) (h : BInv Feas Acc obj eps s) (hempty : s.nodes = [])
    (hinc : s.inc = none) : ∀ y, ¬ Feas y := by
  intro y hy
  obtain ⟨N, hN, _⟩ := h.2.1 y hy (fun p v e => by rw [hinc] at e; cases e)
  rw [hempty] at hN; cases hN

/-- [C] whatever the heuristics proposed along a run, the incumbent passed the filter and its recorded objective is `c·x`. -/
theorem heuristic_incumbent_feasible (heps : 0 ≤ eps) (s s' : BState Pt) (h : BInv Feas Acc obj eps s)
    (run : Relation.ReflTransGen (BStep Feas Acc obj eps) s s') (p : Pt) (v : ℚ)
    (hinc : s'.inc = some (p, v)) : Acc p ∧ obj p = v :=
  (bnb_reachable Feas Acc obj eps heps s s' h run).2.2 p v hinc

/-- the early `gap < gap_tol` return and the `FEASIBLE` exit (`L` below every open bound) -/
theorem bnb_gap (s : BState Pt) (h : BInv Feas Acc obj eps s) (p : Pt) (v L : ℚ)
    (hinc : s.inc = some (p, v)) (hL : ∀ N ∈ s.nodes, L ≤ N.bound) :
    ∀ y, Feas y → min (v - eps) L ≤ obj y := by
  intro y hy
  by_cases hlt : obj y < v - eps
  · obtain ⟨N, hN, hr⟩ := h.2.1 y hy (fun p' v' e => by rw [hinc] at e; cases e; exact hlt)
    exact le_trans (min_le_right _ _) (le_trans (hL N hN) (h.1 N hN y hy hr))
  · exact le_trans (min_le_left _ _) (not_lt.mp hlt)

/-- non-vacuity: points `ℤ`, everything feasible in `{0,1,2}`, objective `y ↦ −y`; root, one
`integral` step installing `2`; the tree is then empty and `bnb_optimal` applies. -/
example : ∀ y : ℤ, (0 ≤ y ∧ y ≤ 2) → (-2 : ℚ) - 0 ≤ -(y : ℚ) := by
  have root : BNode ℤ := ⟨fun _ => True, -2⟩
  have h0 : BInv (fun y : ℤ => 0 ≤ y ∧ y ≤ 2) (fun _ => True) (fun y => -(y : ℚ)) 0
      ⟨none, [] ++ (⟨fun _ => True, -2⟩ : BNode ℤ) :: []⟩ :=
    bnb_init _ _ _ 0 ⟨fun _ => True, -2⟩ (fun _ _ => trivial) (fun y hy => by
      have : (y : ℚ) ≤ 2 := by exact_mod_cast hy.2
      exact neg_le_neg this)
  have h1 := bnb_invariant _ _ _ 0 (le_refl _) _ _ h0
    (BStep.integral none [] ⟨fun _ => True, -2⟩ [] (2 : ℤ) (-2) (fun y hy _ => by
      have : (y : ℚ) ≤ 2 := by exact_mod_cast hy.2
      exact neg_le_neg this) trivial (by norm_num))
  exact (bnb_optimal _ _ _ 0 _ h1 rfl 2 (-2) rfl).2.2

/-- `branch_covers` in the shape of the branching hypothesis of `BStep.branch`.  (The mirror's nodes carry list boxes,
`boxMem`; its refinement `bnbIter_sim` reads them as `Box`es through `boxOf`.) -/
theorem branch_step_covers {m n : ℕ} (Q : LPF m n) (I : Fin n → Prop) (B : Box n) (j : Fin n)
    (hj : I j) (v : ℚ) :
    (∀ y, Q.MilpFeasible I y → B.Mem y → (B.left j v).Mem y ∨ (B.right j v).Mem y) :=
  fun y hy hB => branch_covers B y j v hB (hy.2 j hj)

end bnb

/-- **T-spec** `nodeCheck` (evaluated by the driver on every node the mirror explores, with the exact
certifying simplex on the node relaxation) decides what branch and bound needs from the node oracle. -/
theorem nodeCheck_sound (M : MilpIn) (eps : ℚ) (lower : List ℚ) (upper : List (Option ℚ)) (r : NodeRes)
    (hwf : M.A.length = M.b.length) (h : nodeCheck M eps lower upper r = true) :
    NodeOK M eps lower upper r := by
  have hwfP : M.P.A.length = M.P.b.length := hwf
  have inBox : ∀ y, MFeas M y → boxMem M.P.n lower upper y → (M.P.box lower upper).toF.Feasible (vecF M.P.n y) := by
    intro y hy hb
    refine (feasible_box_iff M.P hwfP lower upper _).mpr ⟨hy.1, fun j hj => ?_⟩
    rw [extN_vecF _ _ hj]; exact hb j hj
  unfold nodeCheck at h
  simp only [] at h
  by_cases hst : r.status = .OPTIMAL
  · have hne : ¬ (r.status != .OPTIMAL) = true := by simp [hst]
    rw [if_neg hne] at h
    simp only [Bool.and_eq_true, decide_eq_true_eq, beq_iff_eq, Bool.or_eq_true] at h
    obtain ⟨⟨⟨⟨⟨hes, hcert⟩, hle⟩, hacc⟩, hobj⟩, hbox⟩ := h
    refine { infeas := fun hn => absurd hst hn, bound := fun _ y hy hb => ?_, objv := fun _ => hobj,
             acc := fun _ hm => ?_, inbox := fun _ j hj => ?_ }
    · have hopt := (certifies_optimal _ _ hcert hes).1.2 _ (inBox y hy hb)
      rw [← objAt_eq] at hopt
      have e : (M.P.box lower upper).toF.obj (vecF M.P.n y) = mobj M y := by
        unfold mobj; rw [objAt_eq]; rfl
      rw [e] at hopt
      exact le_trans hle hopt
    · rcases hacc with hs | hf
      · rw [hm] at hs; cases hs
      · exact ⟨by simpa using hf.1, hf.2⟩
    · unfold inBoxOn at hbox
      have := List.all_eq_true.mp hbox j hj
      rw [Bool.and_eq_true, decide_eq_true_eq] at this
      refine ⟨this.1, fun hh hu => ?_⟩
      have h2 := this.2
      rw [hu] at h2
      simpa using h2
  · have hne : (r.status != .OPTIMAL) = true := by simpa using hst
    rw [if_pos hne] at h
    simp only [Bool.and_eq_true, beq_iff_eq] at h
    obtain ⟨hes, hcert⟩ := h
    refine { infeas := fun _ y hy hb => ?_, bound := fun h' => absurd h' hst, objv := fun h' => absurd h' hst,
             acc := fun h' => absurd h' hst, inbox := fun h' => absurd h' hst }
    unfold certifies at hcert
    rw [hes] at hcert
    exact chkInfeasible_sound (M.P.box lower upper) _ hcert _ (inBox y hy hb)


/-- [S] every continuing pass of the mirror's `while` loop is a step of the abstract branch and bound, provided the
popped node passed `nodeCheck` (the continuing case of `bnbIter_sim`). -/
theorem bnb_mirror_refines (M : MilpIn) (cfg : MilpCfg) (s s' : TState) (node : TNode) (rest : List TNode)
    (hA : M.A.length = M.b.length) (hints : ∀ j ∈ M.ints, j < M.P.n) (hwf : TWF M s)
    (hpop : popMin s.tree = some (node, rest)) (h : bnbIter M cfg s = .cont s')
    (hok : prunedBy M.sign cfg.eps s.best node.bound = false →
      nodeCheck M cfg.eps node.lower node.upper (solveNode M cfg.eps cfg.maxIter node.lower node.upper) = true) :
    BStep (MFeas M) (MAcc M cfg.eps) (mobj M) cfg.eps (absState M s) (absState M s') ∧ TWF M s' := by
  obtain ⟨s'', hc | ⟨o, hd, _⟩, _, hwf', hsim⟩ := bnbIter_sim hpop hints hwf h
  · cases hc
    exact ⟨hsim fun hnp => nodeCheck_sound M cfg.eps _ _ _ hA (hok hnp), hwf'⟩
  · cases hd


section mirrorSound
variable (M : MilpIn) (cfg : MilpCfg)

/-- the slack with which `OPTIMAL` is meant: the pruning slack `eps`, or the relative gap of the
early `gap < gap_tol` return -/
def optSlack (cfg : MilpCfg) (bo : ℚ) : ℚ :=
  max cfg.eps (cfg.gapTol * (if absR bo < 1 / 10000000000 then 1 else absR bo))

/-- what the statuses of the mirror's answer claim -/
def MilpPost (M : MilpIn) (cfg : MilpCfg) (o : MilpOut) : Prop :=
  (o.status = .INFEASIBLE → ∀ y, ¬ MFeas M y) ∧
  (o.status = .OPTIMAL → ∃ x bo, o.x = some x ∧ o.objective = some bo ∧ MAcc M cfg.eps x ∧
    mobj M x = M.sign * bo ∧ ∀ y, MFeas M y → M.sign * bo - optSlack cfg bo ≤ mobj M y)

theorem finish_post (s : TState)
    (hinv : BInv (MFeas M) (MAcc M cfg.eps) (mobj M) cfg.eps (absState M s)) :
    MilpPost M cfg (bnbFinish cfg s) := by
  unfold bnbFinish
  by_cases hem : s.tree = []
  · have hn : (absState M s).nodes = [] := by simp [absState, hem]
    rw [hem]
    cases hb : s.best with
    | none =>
      exact ⟨fun _ => bnb_infeasible _ _ _ _ _ hinv hn (by simp [absState, hb]), fun hst => by cases hst⟩
    | some p =>
      obtain ⟨x, bo⟩ := p
      obtain ⟨h1, h2, h3⟩ := bnb_optimal _ _ _ _ _ hinv hn x (M.sign * bo) (by simp [absState, hb])
      exact ⟨(fun hst => by cases hst), fun _ => ⟨x, bo, rfl, rfl, h1, h2, fun y hy =>
        (sub_le_sub_left (le_max_left _ _) _).trans (h3 y hy)⟩⟩
  · have : s.tree.isEmpty = false := by simpa using hem
    rw [this]
    rcases s.best with _ | ⟨x, bo⟩ <;> exact ⟨(fun hst => by cases hst), fun hst => by cases hst⟩

theorem early_post {s s' : TState} {node : TNode} {rest : List TNode} {o : MilpOut}
    (hpop : popMin s.tree = some (node, rest)) (ht : s'.tree = rest)
    (hinv : BInv (MFeas M) (MAcc M cfg.eps) (mobj M) cfg.eps (absState M s')) (he : Early M cfg node s' o) :
    MilpPost M cfg o := by
  rcases he with hf | ⟨ho, x, bo, hx, hobj, hbest, hgap⟩
  · exact ⟨fun hst => (by rw [hf] at hst; cases hst), fun hst => (by rw [hf] at hst; cases hst)⟩
  · refine ⟨fun hst => (by rw [ho] at hst; cases hst), fun _ => ?_⟩
    have hinc : (absState M s').inc = some (x, M.sign * bo) := by simp [absState, hbest]
    obtain ⟨hacc, hv⟩ := hinv.2.2 x _ hinc
    refine ⟨x, bo, hx, hobj, hacc, hv, fun y hy => ?_⟩
    -- `bnb_gap` with the popped node's bound, which is below every open bound
    have hL : ∀ N ∈ (absState M s').nodes, node.bound ≤ N.bound := by
      intro N hN
      simp only [absState, ht, List.mem_map] at hN
      obtain ⟨t, htm, rfl⟩ := hN
      exact (popMin_spec _ _ _ hpop).2 t htm
    have hnb := gap_bound (sign := M.sign) (by unfold MilpIn.sign; split <;> simp) hgap
    exact (le_min (sub_le_sub_left (le_max_left _ _) _)
      ((sub_le_sub_left (le_max_right _ _) _).trans hnb)).trans
      (bnb_gap _ _ _ _ _ hinv x (M.sign * bo) node.bound hinc hL y hy)

/-- The loop of the mirror is sound as far as its `ok` flag says: the invariant is needed only of a state whose
flag is still up, and the flag of the answer being up means every explored node passed `nodeCheck`. -/
theorem bnbLoop_sound (heps : 0 ≤ cfg.eps) (hA : M.A.length = M.b.length)
    (hints : ∀ j ∈ M.ints, j < M.P.n) : ∀ (fuel : ℕ) (s : TState), TWF M s →
    (s.ok = true → BInv (MFeas M) (MAcc M cfg.eps) (mobj M) cfg.eps (absState M s)) →
    (bnbLoop M cfg fuel s).ok = true → MilpPost M cfg (bnbLoop M cfg fuel s)
  | 0, s, _, h, hok => finish_post M cfg s (h ((finish_ok cfg s).symm.trans hok))
  | fuel + 1, s, hwf, h, hok => by
    unfold bnbLoop at hok ⊢
    by_cases htest : (s.tree.isEmpty || decide (s.explored ≥ cfg.maxNodes)) = true
    · rw [if_pos htest] at hok ⊢
      exact finish_post M cfg s (h ((finish_ok cfg s).symm.trans hok))
    · rw [if_neg htest] at hok ⊢
      obtain ⟨node, rest, hpop⟩ := popMin_some_of_ne s.tree
        (Bool.or_eq_false_iff.mp (Bool.eq_false_iff.mpr htest)).1
      obtain ⟨s', hcase, hk, hwf', hsim⟩ := bnbIter_sim (cfg := cfg) hpop hints hwf rfl
      have key : s'.ok = true → BInv (MFeas M) (MAcc M cfg.eps) (mobj M) cfg.eps (absState M s') := fun hs' => by
        rw [hk, Bool.and_eq_true] at hs'
        refine bnb_invariant _ _ _ _ heps _ _ (h hs'.1) (hsim fun hnp => nodeCheck_sound M cfg.eps _ _ _ hA ?_)
        rw [← hs'.2, hnp, Bool.false_or]
      rcases hcase with hc | ⟨o, hd, hko, ht, he⟩
      · rw [hc] at hok ⊢; exact bnbLoop_sound heps hA hints fuel s' hwf' key hok
      · rw [hd] at hok ⊢; exact early_post M cfg hpop ht (key (hko ▸ hok)) he

/-- [S] `bnb_optimal` / `bnb_infeasible` / `bnb_gap` transferred to the mirror of `solve_milp(heuristics=False)`: if every
node the loop explores passes `nodeCheck` (the answer's `ok` flag, evaluated by the driver on every explored input),
`INFEASIBLE` means no integer-feasible point exists and `OPTIMAL` that the returned point passed `_is_feasible`, its
objective is `c·x`, and no integer-feasible point is better by more than `max eps (gap_tol·|obj|)`.  (An instance of
`bnbLoop_sound`.) -/
theorem bnb_mirror_sound (heps : 0 ≤ cfg.eps) (hgt : 0 ≤ cfg.gapTol) (hA : M.A.length = M.b.length)
    (hints : ∀ j ∈ M.ints, j < M.P.n) : ∀ (fuel : ℕ) (s : TState),
    BInv (MFeas M) (MAcc M cfg.eps) (mobj M) cfg.eps (absState M s) → TWF M s →
    (bnbLoop M cfg fuel s).ok = true → MilpPost M cfg (bnbLoop M cfg fuel s) :=
  fun fuel s hinv hwf => bnbLoop_sound M cfg heps hA hints fuel s hwf fun _ => hinv

/-- [S] the same for the whole mirror of `solve_milp(heuristics=False)` (root solve, binary tightening, warm start);
the tightening – when it fired – must be justified (`tighten_justified` for integer data). -/
theorem solveMilp_sound (heps : 0 ≤ cfg.eps) (hgt : 0 ≤ cfg.gapTol) (hA : M.A.length = M.b.length)
    (hints : ∀ j ∈ M.ints, j < M.P.n)
    (htight : tightened M cfg (solveNode M cfg.eps cfg.maxIter (lower0 M) (upper0 M)) = true →
      ∀ y, MFeas M y → ∀ j ∈ M.ints, vget y j ≤ 1)
    (hok : (solveMilp M cfg).ok = true) : MilpPost M cfg (solveMilp M cfg) := by
  unfold solveMilp at hok ⊢
  simp only [] at hok ⊢
  generalize hroot : solveNode M cfg.eps cfg.maxIter (lower0 M) (upper0 M) = root at hok htight ⊢
  have inRoot : ∀ y, MFeas M y → boxMem M.P.n (lower0 M) (upper0 M) y := by
    intro y hy j hj
    refine ⟨?_, fun h hh => ?_⟩
    · unfold lower0; rw [getD_replicate_self]; exact hy.1.1 ⟨j, hj⟩
    · unfold upper0 at hh; rw [getD_replicate_self] at hh; cases hh
  split
  · -- root INFEASIBLE
    rename_i hs
    rw [if_pos hs] at hok
    have hN := nodeCheck_sound M cfg.eps _ _ _ hA hok
    have hne : root.status ≠ .OPTIMAL := by
      have : root.status = .INFEASIBLE := by simpa using hs
      rw [this]; decide
    exact ⟨fun _ y hy => hN.infeas hne y hy (inRoot y hy), (fun hst => by cases hst)⟩
  · rename_i hs
    rw [if_neg hs] at hok
    split
    · -- root UNBOUNDED: no claim
      exact ⟨(fun hst => by cases hst), (fun hst => by cases hst)⟩
    · rename_i hs2
      rw [if_neg hs2] at hok
      cases hmf : mostFractional root.sol M.ints cfg.eps with
      | none =>
        -- the root optimum is integral
        rw [hmf] at hok
        simp only [Bool.and_eq_true, beq_iff_eq] at hok ⊢
        obtain ⟨hst, hchk⟩ := hok
        have hN := nodeCheck_sound M cfg.eps _ _ _ hA hchk
        refine ⟨(fun h => by cases h), fun _ => ?_⟩
        refine ⟨root.sol, root.obj, rfl, rfl, hN.acc hst hmf, hN.objv hst, fun y hy => ?_⟩
        exact (sub_le_self _ (heps.trans (le_max_left _ _))).trans (hN.bound hst y hy (inRoot y hy))
      | some j0 =>
        rw [hmf] at hok
        simp only [] at hok ⊢
        refine bnbLoop_sound M cfg heps hA hints _ _ (fun t ht => ?_) (fun hk => ?_) hok
        · rw [List.mem_singleton.mp ht]
          exact ⟨by rw [lower0, List.length_replicate, M.Pn], by rw [upper1_length, M.Pn]⟩
        -- the loop is entered as `bnb_init` says, after the warm start, a `heuristic` step
        have hN := nodeCheck_sound M cfg.eps (lower0 M) (upper0 M) root hA hk
        have h0 := bnb_init (MFeas M) (MAcc M cfg.eps) (mobj M) cfg.eps
          (absNode M ⟨M.sign * root.obj, 0, lower0 M, upper1 M cfg root, 0⟩)
          (fun y hy j hj => ⟨(inRoot y hy j hj).1, fun h hh => by
            obtain ⟨ht, hjm, rfl⟩ := upper1_getD M cfg (M.Pn ▸ hj) hh
            exact htight ht y hy j hjm⟩)
          (fun y hy => by
            by_cases hst : root.status = .OPTIMAL
            · exact hN.bound hst y hy (inRoot y hy)
            · exact absurd (inRoot y hy) (hN.infeas hst y hy))
        unfold absState initState
        cases hw : warmBest M cfg with
        | none => exact h0
        | some q =>
          obtain ⟨hacc, hv⟩ := warmBest_some M cfg (ws := q.1) (v := q.2) hw
          have h1 := bnb_invariant _ _ _ _ heps _ _ h0 (BStep.heuristic none _ q.1 hacc)
          rwa [show mobj M q.1 = M.sign * q.2 from hv ▸ objAt_sign M q.1] at h1

/-- non-vacuity: `max x + y, 2x + 2y ≤ 3, x, y` integer – the mirror branches, every node passes
`nodeCheck`, the answer is `OPTIMAL 1` -/
example : (solveMilp ⟨[1, 1], [[2, 2]], [3], [0, 1], false⟩ ⟨1 / 1000000, 10000, 100, 1 / 1000000, 1, none⟩).ok = true ∧
    (solveMilp ⟨[1, 1], [[2, 2]], [3], [0, 1], false⟩ ⟨1 / 1000000, 10000, 100, 1 / 1000000, 1, none⟩).status = .OPTIMAL ∧
    (solveMilp ⟨[1, 1], [[2, 2]], [3], [0, 1], false⟩ ⟨1 / 1000000, 10000, 100, 1 / 1000000, 1, none⟩).objective = some 1 := by
  decide +kernel

/-- the tightening hypothesis of `solveMilp_sound` holds for integer data (`eps < 1`) -/
theorem tighten_justified (heps1 : cfg.eps < 1) (hints : ∀ j ∈ M.ints, j < M.P.n)
    (hAint : ∀ i j, ∃ z : ℤ, M.P.a i j = z) (hbint : ∀ i, ∃ z : ℤ, vget M.P.b i = z) (root : NodeRes)
    (ht : tightened M cfg root = true) : ∀ y, MFeas M y → ∀ j ∈ M.ints, vget y j ≤ 1 := by
  unfold tightened at ht
  rw [Bool.and_eq_true] at ht
  have hdet : detectBinary M.P M.ints cfg.eps = true := by
    -- `_detect_binary` reads `A`, `b` and only the length of the objective, which `M.P` (minimised) and `M.U` (caller's) share
    have : detectBinary M.P M.ints cfg.eps = detectBinary M.U M.ints cfg.eps := by
      unfold detectBinary boundedVars rowNz
      rw [show M.P.n = M.U.n from M.Pn]
      rfl
    rw [this]; exact ht.2
  intro y hy j hj
  exact binary_tightening_sound M.P M.ints cfg.eps heps1 hAint hbint hdet _ hy ⟨j, hints j hj⟩ hj

end mirrorSound

end milp

/-! Non-vacuity: the mirror's certificate for `max 3x+2y, x+y ≤ 4, x ≤ 2, y ≤ 3` (phase 2 only) and for an LP that needs
phase 1 -/
example : certifies (mkLP [3, 2] [[1, 1], [1, 0], [0, 1]] [4, 2, 3] false)
    (solveLp [3, 2] [[1, 1], [1, 0], [0, 1]] [4, 2, 3] false 0 100) = true := by decide +kernel
example : (solveLp [3, 2] [[1, 1], [1, 0], [0, 1]] [4, 2, 3] false 0 100).objective = some 10 := by
  decide +kernel
example : (solveLp [1, 2] [[-1, 0], [0, -1], [1, 1]] [-1, -1, 1] true 0 100).status = .INFEASIBLE ∧
    certifies (mkLP [1, 2] [[-1, 0], [0, -1], [1, 1]] [-1, -1, 1] true)
      (solveLp [1, 2] [[-1, 0], [0, -1], [1, 1]] [-1, -1, 1] true 0 100) = true := by decide +kernel
example : (solveLp [-1, 0] [[1, -1], [-1, 1]] [1, -1] true 0 100).status = .UNBOUNDED ∧
    certifies (mkLP [-1, 0] [[1, -1], [-1, 1]] [1, -1] true)
      (solveLp [-1, 0] [[1, -1], [-1, 1]] [1, -1] true 0 100) = true := by decide +kernel

end Solvor.Lp
