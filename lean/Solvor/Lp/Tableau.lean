import Solvor.Lp.Certifies
/-! Lp/Tableau: the tableau invariant `GInv` at any width (with or without artificial columns, with rows whose artificial
could not be pivoted out), its preservation by pivots, and the solutions and certificates read off an invariant tableau.
In names a leading `g` means "at general width", a trailing `2` / `1` "at the width of the phase-2 / phase-1 tableau". -/
namespace Solvor.Lp
open Finset
open Solvor.Gen (Status)

/-- The tableau invariant with last column `L` (the right-hand side; the width is `L + 1`).  `rowS` (the rows lie in
the row space of `[A I | b]`) feeds the dual read-off, `ref` (each reference row is the combination of the tableau rows with its own
entries in the basic columns as coefficients: priced out on the basis it is the zero row) the primal one; with dead
rows the transform between the two sets of rows is not invertible, so neither follows from the other.  `R` is a
parameter because in phase 1 the reference rows are the artificial tableau's own; they become rows of `[A I | b]` again
when the artificial columns go (`rest_ref`).  A dead row (`¬ t.bs i < L`) exists only after `restoreTab` has dropped
the artificial columns while an artificial was still basic. -/
structure GInv (P : LP) (L : ℕ) (R : ℕ → ℕ → ℚ) (obar : ℕ → ℚ) (t : Tab) : Prop where
  wf : t.WF P.m (L + 1)
  ref : ∀ k < P.m, ∀ c < L + 1, R k c = ∑ i ∈ range P.m, R k (t.bs i) * t.e i c
  rowS : ∀ i < P.m, InSW P L (t.e i)
  unit : ∀ i < P.m, ∀ k < P.m, t.bs k < L → t.e i (t.bs k) = if i = k then 1 else 0
  dead : ∀ i < P.m, ¬ t.bs i < L → ∀ c < L + 1, t.e i c = 0
  rhs : ∀ i < P.m, 0 ≤ t.e i L
  priced : ∀ c, t.oe c = obar c - ∑ i ∈ range P.m, obar (t.bs i) * t.e i c

theorem InSW.neg_sum {P : LP} {L : ℕ} (w : ℕ → ℚ) (e : ℕ → ℕ → ℚ) :
    ∀ k, (∀ i < k, InSW P L (e i)) → InSW P L (fun c => -∑ i ∈ range k, w i * e i c)
  | 0, _ => by simpa using InSW.zero P L
  | k + 1, he => by
    have := (InSW.neg_sum w e k fun i hi => he i (Nat.lt_succ_of_lt hi)).sub_mul (he k (Nat.lt_succ_self k)) (w k)
    have e1 : (fun c => -∑ i ∈ range (k + 1), w i * e i c) =
        fun c => (-∑ i ∈ range k, w i * e i c) - w k * e k c :=
      funext fun c => by rw [Finset.sum_range_succ]; ring
    rw [e1]; exact this

section obj
variable {P : LP} {L : ℕ} {R : ℕ → ℕ → ℚ} {obar : ℕ → ℚ} {t : Tab} (h : GInv P L R obar t)
include h

theorem GInv.oe_rowSpace : InSW P L (fun c => t.oe c - obar c) := by
  have : (fun c => t.oe c - obar c) = fun c => -∑ i ∈ range P.m, obar (t.bs i) * t.e i c :=
    funext fun c => by rw [h.priced c]; ring
  rw [this]
  exact InSW.neg_sum _ _ P.m h.rowS

theorem GInv.oe_basic {k : ℕ} (hk : k < P.m) (hlk : t.bs k < L) : t.oe (t.bs k) = 0 := by
  rw [h.priced, Finset.sum_eq_single k, h.unit k hk k hk hlk, if_pos rfl]
  · ring
  · intro i hi hik
    rw [h.unit i (Finset.mem_range.mp hi) k hk hlk, if_neg hik, mul_zero]
  · intro hn; exact absurd (Finset.mem_range.mpr hk) hn

end obj

section gstep
variable {P : LP} {W L : ℕ} {R : ℕ → ℕ → ℚ} {obar : ℕ → ℚ} {t : Tab}

theorem gstep_e (h : t.WF P.m W) {l : ℕ} (hl : l < P.m) (e i : ℕ) (hi : i < P.m) (c : ℕ) :
    (stepTab t l e).e i c =
      if i = l then t.e l c * (1 / t.e l e) else t.e i c - t.e i e * (t.e l c * (1 / t.e l e)) := by
  unfold stepTab; rw [setBasis_e, pivot_e h l e hl i hi c]

theorem gstep_oe (h : t.WF P.m W) {l : ℕ} (hl : l < P.m) (e c : ℕ) :
    (stepTab t l e).oe c = t.oe c - t.oe e * (t.e l c * (1 / t.e l e)) := by
  unfold stepTab; rw [setBasis_oe, pivot_oe h l e hl c]

theorem gstep_bs (h : t.WF P.m W) {l : ℕ} (hl : l < P.m) (e i : ℕ) :
    (stepTab t l e).bs i = if i = l then e else t.bs i := by
  unfold stepTab
  rw [setBasis_bs (pivot_wf h l e hl) l e hl i, pivot_bs]

/-- Pricing out survives a pivot.  With `f = obar` and `g` the objective row this is the objective row after `_pivot`;
with `f` a reference row and `g = 0` it keeps the reference rows combinations of the tableau rows. -/
theorem priced_step (h : t.WF P.m W) {l e : ℕ} (hl : l < P.m) (hpv0 : t.e l e ≠ 0) (f g : ℕ → ℚ) (c : ℕ)
    (hc : g c = f c - ∑ i ∈ range P.m, f (t.bs i) * t.e i c)
    (he : g e = f e - ∑ i ∈ range P.m, f (t.bs i) * t.e i e) :
    g c - g e * (t.e l c * (1 / t.e l e)) =
      f c - ∑ i ∈ range P.m, f ((stepTab t l e).bs i) * (stepTab t l e).e i c := by
  have hinv : t.e l e * (1 / t.e l e) = 1 := mul_one_div_cancel hpv0
  -- the scaled pivot row times `t.e l e` is row `l`, so the new row `l` contributes `f e` times the scaled pivot row
  have hterm : ∀ i ∈ range P.m, f ((stepTab t l e).bs i) * (stepTab t l e).e i c =
      (f (t.bs i) * t.e i c - f (t.bs i) * t.e i e * (t.e l c * (1 / t.e l e)))
        + (if i = l then f e * (t.e l c * (1 / t.e l e)) else 0) := by
    intro i hi
    rw [gstep_bs h hl e i, gstep_e h hl e i (Finset.mem_range.mp hi) c]
    by_cases hil : i = l
    · rw [if_pos hil, if_pos hil, if_pos hil, hil, mul_assoc (f (t.bs l)), ← mul_assoc (t.e l e),
        mul_comm (t.e l e), mul_assoc (t.e l c), hinv, mul_one]
      ring
    · rw [if_neg hil, if_neg hil, if_neg hil]; ring
  rw [Finset.sum_congr rfl hterm, Finset.sum_add_distrib, Finset.sum_sub_distrib,
    ← Finset.sum_mul, Finset.sum_ite_eq', if_pos (Finset.mem_range.mpr hl), hc, he]
  ring

theorem ratio_rhs_nonneg {pv a b f : ℚ} (hpv : 0 < pv) (ha : 0 ≤ a) (hb : 0 ≤ b)
    (hmin : f > 0 → a / pv ≤ b / f) : 0 ≤ b - f * (a * (1 / pv)) := by
  have hq : 0 ≤ a * (1 / pv) := mul_nonneg ha (one_div_pos.mpr hpv).le
  rcases lt_or_ge 0 f with hf | hf
  · have := hmin hf
    rw [div_le_div_iff₀ hpv hf] at this
    rwa [sub_nonneg, mul_one_div, ← mul_div_assoc, div_le_iff₀ hpv, mul_comm]
  · exact sub_nonneg.mpr ((mul_nonpos_of_nonpos_of_nonneg hf hq).trans hb)

/-- `hside`: a ratio-test pivot (`_phase2`), or a pivot in a row with right-hand side `0` (`driveOut`) -/
theorem gstep (h : GInv P L R obar t) {l e : ℕ} (hl : l < P.m) (he : e < L)
    (hpv0 : t.e l e ≠ 0)
    (hside : (t.e l e > 0 ∧ ∀ i < P.m, t.e i e > 0 →
        t.e l L / t.e l e ≤ t.e i L / t.e i e) ∨ t.e l L = 0) :
    GInv P L R obar (stepTab t l e) := by
  have hwf := h.wf
  have hinv : t.e l e * (1 / t.e l e) = 1 := mul_one_div_cancel hpv0
  have he' : e < L + 1 := Nat.lt_succ_of_lt he
  refine {
    wf := setBasis_wf (pivot_wf hwf l e hl) l e
    ref := fun k hk c hc => ?_
    rowS := ?_, unit := ?_, dead := ?_, rhs := ?_
    priced := fun c => by
      rw [gstep_oe hwf hl e c]; exact priced_step hwf hl hpv0 obar t.oe c (h.priced c) (h.priced e) }
  · have := priced_step hwf hl hpv0 (R k) (fun _ => 0) c (by rw [← h.ref k hk c hc, sub_self])
      (by rw [← h.ref k hk e he', sub_self])
    rw [zero_mul, sub_zero] at this
    exact sub_eq_zero.mp this.symm
  · intro i hi
    have : (stepTab t l e).e i = fun c =>
        if i = l then t.e l c * (1 / t.e l e) else t.e i c - t.e i e * (t.e l c * (1 / t.e l e)) :=
      funext fun c => gstep_e hwf hl e i hi c
    rw [this]
    by_cases hil : i = l
    · simp only [hil, if_true]; exact (h.rowS l hl).smul _
    · simp only [hil, if_false]; exact (h.rowS i hi).sub_mul ((h.rowS l hl).smul _) _
  · intro i hi k hk hkl'
    rw [gstep_bs hwf hl e k] at hkl' ⊢
    rw [gstep_e hwf hl e i hi]
    by_cases hkl : k = l
    · rw [if_pos hkl]
      by_cases hil : i = l
      · rw [if_pos hil, hinv, if_pos (hil.trans hkl.symm)]
      · rw [if_neg hil, hinv, if_neg (fun e => hil (e.trans hkl))]; ring
    · rw [if_neg hkl] at hkl' ⊢
      have hlk : t.e l (t.bs k) = 0 := by rw [h.unit l hl k hk hkl', if_neg (fun e => hkl e.symm)]
      rw [hlk]
      by_cases hil : i = l
      · rw [if_pos hil, if_neg (fun e => hkl (e.symm.trans hil))]; ring
      · rw [if_neg hil, h.unit i hi k hk hkl']; ring
  · intro i hi hdead c hc
    rw [gstep_bs hwf hl e i] at hdead
    have hil : i ≠ l := fun e' => by rw [if_pos e'] at hdead; exact hdead he
    rw [if_neg hil] at hdead
    rw [gstep_e hwf hl e i hi, if_neg hil, h.dead i hi hdead c hc, h.dead i hi hdead e he']
    ring
  · intro i hi
    rw [gstep_e hwf hl e i hi]
    rcases hside with ⟨hpv, hmin⟩ | hz0
    · split
      · exact mul_nonneg (h.rhs l hl) (one_div_pos.mpr hpv).le
      · exact ratio_rhs_nonneg hpv (h.rhs l hl) (h.rhs i hi) (hmin i hi)
    · rw [hz0]
      split
      · rw [zero_mul]
      · rw [zero_mul, mul_zero, sub_zero]; exact h.rhs i hi

end gstep

/-- what `_phase2` (at `eps = 0`) hands back from an invariant tableau -/
structure Phase2Post (P : LP) (L : ℕ) (R : ℕ → ℕ → ℚ) (obar : ℕ → ℚ) (r : P2) : Prop where
  inv : GInv P L R obar r.tab
  opt : r.status = .OPTIMAL → findEnter 0 r.tab = none
  unb : r.status = .UNBOUNDED → ∃ e, r.enter = some e ∧ findEnter 0 r.tab = some e ∧ findLeave 0 r.tab e = none
  status : r.status = .OPTIMAL ∨ r.status = .UNBOUNDED ∨ r.status = .MAX_ITER

theorem gphase2_spec {P : LP} {L : ℕ} {R : ℕ → ℕ → ℚ} {obar : ℕ → ℚ} :
    ∀ (fuel it : ℕ) (t : Tab), GInv P L R obar t → Phase2Post P L R obar (phase2 0 fuel it t)
  | 0, it, t, h => by
    have e0 : phase2 0 0 it t = ⟨.MAX_ITER, it, t, none⟩ := by rw [phase2]
    rw [e0]
    exact ⟨h, (fun e => by cases e), (fun e => by cases e), Or.inr (Or.inr rfl)⟩
  | fuel + 1, it, t, h => by
    cases he : findEnter 0 t with
    | none =>
      rw [phase2_none fuel it t he]
      exact ⟨h, fun _ => he, (fun e => by cases e), Or.inl rfl⟩
    | some e =>
      cases hl : findLeave 0 t e with
      | none =>
        rw [phase2_unb fuel it t he hl]
        exact ⟨h, (fun e => by cases e), fun _ => ⟨e, rfl, he, hl⟩, Or.inr (Or.inl rfl)⟩
      | some l =>
        rw [phase2_step fuel it t he hl]
        obtain ⟨he1, _, _⟩ := findEnter_some h.wf he
        obtain ⟨hl1, hpv, hmin⟩ := findLeave_some h.wf hl
        exact gphase2_spec fuel (it + 1) _ (gstep h hl1 he1 (ne_of_gt hpv) (Or.inl ⟨hpv, hmin⟩))

/-! `rayVal P t d` is the solution of the rows in which the non-basic column `d` has value `1` and the other non-basic
columns `0`: for an entering column the ray, for the right-hand-side column `d = L` minus the basic solution
(`rayVal_rhs`), so the facts about both are proved once.  The product of a row `v` with it is the entry at `d` of `v`
priced out on the basis (`sum_rayVal`), which the invariant knows for the objective (`priced`) and for the reference
rows (`ref`). -/
section gread
variable {P : LP} {L : ℕ} {R : ℕ → ℕ → ℚ} {obar : ℕ → ℚ} {t : Tab}

/-- the basic solution of `t`: at the basic column of row `i` the right-hand side of row `i`, `0` at the other columns -/
def bval (P : LP) (L : ℕ) (t : Tab) (c : ℕ) : ℚ :=
  ∑ i ∈ range P.m, if t.bs i = c then t.e i L else 0

theorem gbs_inj (h : GInv P L R obar t) {i k : ℕ} (hi : i < P.m) (hk : k < P.m) (hlk : t.bs k < L)
    (e : t.bs i = t.bs k) : i = k := by
  have := h.unit i hi k hk hlk
  rw [← e, h.unit i hi i hi (e ▸ hlk), if_pos rfl] at this
  by_contra hne
  rw [if_neg hne] at this
  exact one_ne_zero this

theorem bval_bs (h : GInv P L R obar t) {k : ℕ} (hk : k < P.m) (hlk : t.bs k < L) :
    bval P L t (t.bs k) = t.e k L := by
  unfold bval
  rw [Finset.sum_eq_single k]
  · simp
  · intro i hi hik
    rw [if_neg (fun e => hik (gbs_inj h (Finset.mem_range.mp hi) hk hlk e))]
  · intro hn; exact absurd (Finset.mem_range.mpr hk) hn

theorem bval_nonneg (h : GInv P L R obar t) (c : ℕ) : 0 ≤ bval P L t c := by
  unfold bval
  refine Finset.sum_nonneg fun i hi => ?_
  split
  · exact h.rhs i (Finset.mem_range.mp hi)
  · exact le_refl _

theorem bval_nonbasic (c : ℕ) (hc : ∀ i < P.m, t.bs i ≠ c) : bval P L t c = 0 := by
  unfold bval
  exact Finset.sum_eq_zero fun i hi => by rw [if_neg (hc i (Finset.mem_range.mp hi))]

theorem rayVal_self (e : ℕ) : rayVal P t e e = 1 := by unfold rayVal; rw [if_pos rfl]

theorem rayVal_rhs {c : ℕ} (hc : c ≠ L) : rayVal P t L c = -bval P L t c := by
  unfold rayVal bval
  rw [if_neg hc, ← Finset.sum_neg_distrib]
  exact Finset.sum_congr rfl fun i _ => by split <;> simp

theorem rayVal_last (h : GInv P L R obar t) {e : ℕ} (he : e < L) : rayVal P t e L = 0 := by
  unfold rayVal
  rw [if_neg (Nat.ne_of_gt he)]
  refine Finset.sum_eq_zero fun i hi => ?_
  split
  · rename_i hb
    rw [h.dead i (Finset.mem_range.mp hi) (by rw [hb]; exact Nat.lt_irrefl _) e
      (Nat.lt_succ_of_lt he), neg_zero]
  · rfl

theorem gsum_mul_comb (N : ℕ) (v g : ℕ → ℚ) :
    ∑ c ∈ range N, v c * (∑ i ∈ range P.m, if t.bs i = c then g i else 0) =
      ∑ k ∈ range P.m, if t.bs k < N then v (t.bs k) * g k else 0 := by
  simp only [Finset.mul_sum]
  rw [Finset.sum_comm]
  refine Finset.sum_congr rfl fun k _ => ?_
  by_cases hlk : t.bs k < N
  · rw [if_pos hlk, Finset.sum_eq_single (t.bs k)]
    · simp
    · intro c _ hc
      rw [if_neg (fun e => hc e.symm)]; ring
    · intro hn
      exact absurd (Finset.mem_range.mpr hlk) hn
  · rw [if_neg hlk]
    refine Finset.sum_eq_zero fun c hc => ?_
    rw [if_neg (fun (e : t.bs k = c) => hlk (by rw [e]; exact Finset.mem_range.mp hc))]; ring

theorem sum_rayVal (h : GInv P L R obar t) {e : ℕ} (he : e < L + 1)
    (hnb : ∀ i < P.m, t.bs i < L → t.bs i ≠ e) (v : ℕ → ℚ) :
    ∑ c ∈ range (L + 1), v c * rayVal P t e c = v e - ∑ k ∈ range P.m, v (t.bs k) * t.e k e := by
  -- `rayVal e c = [c = e] + ∑_i [bs i = c] (−T_ie)`: a row with `bs i = e` is dead, hence zero
  have hray : ∀ c, rayVal P t e c =
      (if c = e then 1 else 0) + ∑ i ∈ range P.m, if t.bs i = c then -(t.e i e) else 0 := by
    intro c
    unfold rayVal
    by_cases hce : c = e
    · rw [if_pos hce, if_pos hce, Finset.sum_eq_zero, add_zero]
      intro i hi
      split
      · rename_i hb
        have hd : ¬ t.bs i < L := fun hl => hnb i (Finset.mem_range.mp hi) hl (hb.trans hce)
        rw [h.dead i (Finset.mem_range.mp hi) hd e he, neg_zero]
      · rfl
    · rw [if_neg hce, if_neg hce, zero_add]
  have e1 : ∑ c ∈ range (L + 1), v c * (if c = e then (1 : ℚ) else 0) = v e := by
    rw [Finset.sum_eq_single e]
    · rw [if_pos rfl, mul_one]
    · intro c _ hc; rw [if_neg hc, mul_zero]
    · intro hn; exact absurd (Finset.mem_range.mpr he) hn
  rw [Finset.sum_congr rfl fun c _ => by rw [hray c, mul_add], Finset.sum_add_distrib, e1,
    gsum_mul_comb (L + 1) v (fun i => -(t.e i e)), sub_eq_add_neg, ← Finset.sum_neg_distrib]
  refine congrArg (v e + ·) (Finset.sum_congr rfl fun k hk => ?_)
  split
  · ring
  · rename_i hl
    rw [h.dead k (Finset.mem_range.mp hk) (fun hl' => hl (Nat.lt_succ_of_lt hl')) e he]; ring

theorem rows_rayVal (h : GInv P L R obar t) {e : ℕ} (he : e < L + 1)
    (hnb : ∀ i < P.m, t.bs i < L → t.bs i ≠ e) :
    ∀ k < P.m, ∑ c ∈ range (L + 1), R k c * rayVal P t e c = 0 := fun k hk => by
  rw [sum_rayVal h he hnb (R k), ← h.ref k hk e he, sub_self]

theorem obar_rayVal (h : GInv P L R obar t) {e : ℕ} (he : e < L + 1)
    (hnb : ∀ i < P.m, t.bs i < L → t.bs i ≠ e) :
    ∑ c ∈ range (L + 1), obar c * rayVal P t e c = t.oe e := by
  rw [sum_rayVal h he hnb obar, ← h.priced e]

theorem goe_nonneg (h : GInv P L R obar t) (hn : findEnter 0 t = none) {c : ℕ}
    (hc : c < L) : 0 ≤ t.oe c := by
  by_cases hb : ∃ i < P.m, t.bs i = c
  · obtain ⟨i, hi, rfl⟩ := hb
    rw [h.oe_basic hi hc]
  · exact findEnter_none h.wf hn c hc (fun i hi e => hb ⟨i, hi, e⟩)

/-- the slack part of the objective row as dual vector (phase 2) or Farkas vector (phase 1) -/
theorem oe_dual (h : GInv P L R obar t) (h0 : ∀ k < P.m, obar (P.n + k) = 0) :
    (∀ j < P.n, t.oe j = obar j + P.colDot (slackPart P.n P.m t.obj) j) ∧
    t.oe L = obar L + P.rhsDot (slackPart P.n P.m t.obj) := by
  have hs : ∀ g : ℕ → ℚ, sumTo P.m (fun k => vget (slackPart P.n P.m t.obj) k * g k)
      = ∑ k ∈ range P.m, (t.oe (P.n + k) - obar (P.n + k)) * g k := fun g => by
    rw [sumTo_congr fun k hk => by rw [vget_slack t P.n P.m hk, ← sub_zero (t.oe _), ← h0 k hk], sumTo_eq_range]
  exact ⟨fun j hj => sub_eq_iff_eq_add'.mp ((h.oe_rowSpace.cols j hj).trans (hs _).symm),
    sub_eq_iff_eq_add'.mp (h.oe_rowSpace.last.trans (hs _).symm)⟩

end gread

section read2
variable {P : LP} {t : Tab}

abbrev Inv2 (P : LP) (t : Tab) : Prop := GInv P (P.n + P.m) (origRow P) (wbar P) t

theorem wbar_sum (P : LP) (z : ℕ → ℚ) :
    ∑ c ∈ range (P.n + P.m + 1), wbar P c * z c = ∑ j ∈ range P.n, vget P.c j * z j := by
  rw [Finset.sum_range_succ, Finset.sum_range_add]
  have h1 : ∑ j ∈ range P.n, wbar P j * z j = ∑ j ∈ range P.n, vget P.c j * z j :=
    Finset.sum_congr rfl fun j hj => by rw [wbar_lt (Finset.mem_range.mp hj)]
  have h2 : ∑ k ∈ range P.m, wbar P (P.n + k) * z (P.n + k) = 0 :=
    Finset.sum_eq_zero fun k _ => by rw [wbar_ge]; ring
  have h3 : wbar P (P.n + P.m) = 0 := wbar_ge P.m
  rw [h1, h2, h3]; ring

theorem primal2 (h : Inv2 P t) {e : ℕ} (he : e < P.n + P.m + 1)
    (hnb : ∀ i < P.m, t.bs i < P.n + P.m → t.bs i ≠ e) {k : ℕ} (hk : k < P.m) :
    ∑ j ∈ range P.n, P.a k j * rayVal P t e j + rayVal P t e (P.n + k)
      + vget P.b k * rayVal P t e (P.n + P.m) = 0 := by
  have := rows_rayVal h he hnb k hk
  rwa [origRow_sum P k hk] at this

theorem objective2 (h : Inv2 P t) {e : ℕ} (he : e < P.n + P.m + 1)
    (hnb : ∀ i < P.m, t.bs i < P.n + P.m → t.bs i ≠ e) :
    ∑ j ∈ range P.n, vget P.c j * rayVal P t e j = t.oe e := by
  rw [← wbar_sum, obar_rayVal h he hnb]

theorem basic_primal2 (h : Inv2 P t) {k : ℕ} (hk : k < P.m) :
    ∑ j ∈ range P.n, P.a k j * bval P (P.n + P.m) t j + bval P (P.n + P.m) t (P.n + k)
      = vget P.b k := by
  have := primal2 h (e := P.n + P.m) (Nat.lt_succ_self _) (fun i _ hl => Nat.ne_of_lt hl) hk
  rw [Finset.sum_congr rfl fun j hj => by
      rw [rayVal_rhs (Nat.ne_of_lt (Nat.lt_add_right _ (Finset.mem_range.mp hj))), mul_neg],
    Finset.sum_neg_distrib, rayVal_rhs (Nat.ne_of_lt (Nat.add_lt_add_left hk _)), rayVal_self, mul_one, ← neg_add, neg_add_eq_zero] at this
  exact this

theorem basic_objective2 (h : Inv2 P t) :
    ∑ j ∈ range P.n, vget P.c j * bval P (P.n + P.m) t j = -t.oe (P.n + P.m) := by
  have := objective2 h (e := P.n + P.m) (Nat.lt_succ_self _) (fun i _ hl => Nat.ne_of_lt hl)
  rw [Finset.sum_congr rfl fun j hj => by
      rw [rayVal_rhs (Nat.ne_of_lt (Nat.lt_add_right _ (Finset.mem_range.mp hj))), mul_neg],
    Finset.sum_neg_distrib] at this
  exact neg_eq_iff_eq_neg.mp this

theorem idxOf_some_bs (hwf : t.WF P.m (P.n + P.m + 1)) {j i : ℕ} (hidx : t.basis.idxOf? j = some i) :
    i < P.m ∧ t.bs i = j := by
  obtain ⟨hi', hb, _⟩ := List.idxOf?_eq_some_iff.mp hidx
  refine ⟨hwf.basis_len ▸ hi', ?_⟩
  rw [Tab.bs, List.getD_eq_getElem _ _ hi']
  exact hb

theorem idxOf_none_bs (hwf : t.WF P.m (P.n + P.m + 1)) {j : ℕ} (hidx : t.basis.idxOf? j = none) :
    ∀ i < P.m, t.bs i ≠ j := fun i hi hb =>
  List.idxOf?_eq_none_iff.mp hidx ((mem_basis_iff hwf j).mpr ⟨i, hi, hb⟩)

theorem vget_extractX2 (h : Inv2 P t) {j : ℕ} (hj : j < P.n) :
    vget (extractX t P.n) j = bval P (P.n + P.m) t j := by
  unfold vget extractX
  rw [getD_map_range _ _ hj]
  cases hidx : t.basis.idxOf? j with
  | none =>
    simp only []
    exact (bval_nonbasic j (idxOf_none_bs h.wf hidx)).symm
  | some i =>
    simp only []
    obtain ⟨hi, hbi⟩ := idxOf_some_bs h.wf hidx
    rw [lastR_eq h.wf hi, ← hbi]
    exact (bval_bs h hi (by rw [hbi]; exact Nat.lt_add_right _ hj)).symm

theorem vget_extractRay2 (h : Inv2 P t) (e : ℕ) {j : ℕ} (hj : j < P.n) :
    vget (extractRay t P.n e) j = rayVal P t e j := by
  unfold vget extractRay rayVal
  rw [getD_map_range _ _ hj]
  by_cases hje : j = e
  · rw [if_pos hje, if_pos hje]
  · rw [if_neg hje, if_neg hje]
    cases hidx : t.basis.idxOf? j with
    | none =>
      simp only []
      symm
      refine Finset.sum_eq_zero fun i hi => ?_
      rw [if_neg (idxOf_none_bs h.wf hidx i (Finset.mem_range.mp hi))]
    | some i =>
      simp only []
      obtain ⟨hi, hbi⟩ := idxOf_some_bs h.wf hidx
      rw [Finset.sum_eq_single i]
      · rw [if_pos hbi]; rfl
      · intro k hk hki
        rw [if_neg]
        intro hbk
        exact hki (gbs_inj h (Finset.mem_range.mp hk) hi (by rw [hbi]; exact Nat.lt_add_right _ hj) (hbk.trans hbi.symm))
      · intro hn; exact absurd (Finset.mem_range.mpr hi) hn

theorem basic_feasible2 (h : Inv2 P t) : chkFeasible P (extractX t P.n) = true := by
  unfold chkFeasible
  simp only [Bool.and_eq_true, allTo_iff_lt, decide_eq_true_eq]
  refine ⟨fun j hj => ?_, fun i hi => ?_⟩
  · rw [vget_extractX2 h hj]; exact bval_nonneg h j
  · unfold LP.rowDot
    rw [sumTo_congr fun j hj => by rw [vget_extractX2 h hj], sumTo_eq_range, ← basic_primal2 h hi]
    exact le_add_of_nonneg_right (bval_nonneg h (P.n + i))

theorem cert_optimal2 (h : Inv2 P t) (hn : findEnter 0 t = none) :
    chkOptimal P (extractX t P.n) (slackPart P.n P.m t.obj) = true := by
  unfold chkOptimal
  simp only [Bool.and_eq_true, allTo_iff_lt, decide_eq_true_eq]
  obtain ⟨hd1, hd2⟩ := oe_dual h fun k _ => wbar_ge k
  refine ⟨⟨⟨basic_feasible2 h, ?_⟩, ?_⟩, ?_⟩
  · intro k hk; rw [vget_slack t P.n P.m hk]; exact goe_nonneg h hn (Nat.add_lt_add_left hk _)
  · intro j hj
    rw [← wbar_lt hj, ← hd1 j hj]
    exact goe_nonneg h hn (Nat.lt_add_right _ hj)
  · unfold LP.objAt
    rw [sumTo_congr (n := P.n) fun j hj => by rw [vget_extractX2 h hj], sumTo_eq_range, basic_objective2 h,
      ← zero_add (P.rhsDot _), ← wbar_ge (P := P) P.m]
    exact congrArg Neg.neg hd2

theorem cert_unbounded2 (h : Inv2 P t) {e : ℕ} (hs : findEnter 0 t = some e)
    (hl : findLeave 0 t e = none) :
    chkUnbounded P (extractX t P.n) (extractRay t P.n e) = true := by
  obtain ⟨he, hnb, hneg⟩ := findEnter_some h.wf hs
  have hnb' : ∀ i < P.m, t.bs i < P.n + P.m → t.bs i ≠ e := fun i hi _ => hnb i hi
  have hle := findLeave_none h.wf hl
  unfold chkUnbounded
  simp only [Bool.and_eq_true, allTo_iff_lt, decide_eq_true_eq]
  have hd : ∀ j < P.n, vget (extractRay t P.n e) j = rayVal P t e j := fun j hj => vget_extractRay2 h e hj
  refine ⟨⟨⟨basic_feasible2 h, ?_⟩, ?_⟩, ?_⟩
  · intro j hj; rw [hd j hj]; exact rayVal_nonneg e j hle
  · intro i hi
    unfold LP.rowDot
    rw [sumTo_congr fun j hj => by rw [hd j hj], sumTo_eq_range]
    have := primal2 h (Nat.lt_succ_of_lt he) hnb' hi
    rw [rayVal_last h he, mul_zero, add_zero] at this
    rw [eq_neg_of_add_eq_zero_left this]
    exact neg_nonpos.mpr (rayVal_nonneg e (P.n + i) hle)
  · unfold LP.objAt
    rw [sumTo_congr fun j hj => by rw [hd j hj], sumTo_eq_range,
      objective2 h (Nat.lt_succ_of_lt he) hnb']
    exact hneg

end read2

end Solvor.Lp
