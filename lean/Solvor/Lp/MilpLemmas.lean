import Solvor.Lp.Lemmas
import Mathlib.Data.List.GetD
import Mathlib.Data.List.Forall2
import Mathlib.Data.List.Perm.Subperm
import Solvor.Lp.Binary
/-! Lp: helper lemmas for C04 (`roundDist`, fixing rows, certified box, assignments, fold-min, the rows
`_detect_binary` looks for). -/
namespace Solvor.Lp
open Finset

theorem roundDist_eq (v : ℚ) : roundDist v = min (v - v.floor) (v.floor + 1 - v) := by
  unfold roundDist
  simp only []
  split
  · rename_i h; rw [min_eq_left (by linarith)]
  · rename_i h; rw [min_eq_right (by linarith)]; ring

theorem roundDist_le_abs (v : ℚ) (z : ℤ) : roundDist v ≤ |v - z| := by
  rw [roundDist_eq]
  rcases le_or_gt z v.floor with hz | hz
  · have hz' : (z : ℚ) ≤ (v.floor : ℚ) := by exact_mod_cast hz
    exact (min_le_left _ _).trans ((sub_le_sub_left hz' v).trans (le_abs_self _))
  · have hz' : ((v.floor : ℤ) : ℚ) + 1 ≤ (z : ℚ) := by exact_mod_cast hz
    rw [abs_sub_comm]
    exact (min_le_right _ _).trans ((sub_le_sub_right hz' v).trans (le_abs_self _))

theorem roundDist_attained (v : ℚ) : ∃ z : ℤ, |v - z| = roundDist v := by
  have h2 : v < ((v.floor + 1 : ℤ) : ℚ) := Rat.lt_floor_add_one v
  push_cast at h2
  rw [roundDist_eq]
  rcases min_choice (v - v.floor) (v.floor + 1 - v) with h | h
  · exact ⟨v.floor, by rw [h, abs_of_nonneg (sub_nonneg.mpr (Rat.floor_le v))]⟩
  · refine ⟨v.floor + 1, ?_⟩
    push_cast
    rw [h, abs_sub_comm, abs_of_nonneg (sub_nonneg.mpr h2.le)]

theorem roundDist_le_iff (v eps : ℚ) : roundDist v ≤ eps ↔ ∃ z : ℤ, |v - z| ≤ eps := by
  constructor
  · intro h; obtain ⟨z, hz⟩ := roundDist_attained v; exact ⟨z, by rw [hz]; exact h⟩
  · rintro ⟨z, hz⟩; exact le_trans (roundDist_le_abs v z) hz

/-- `Feasible` with `ℕ`-indexed vectors (only entries `< n` matter) -/
def FeasN (P : LP) (x : ℕ → ℚ) : Prop :=
  (∀ j < P.n, 0 ≤ x j) ∧ ∀ i < P.m, sumTo P.n (fun j => P.a i j * x j) ≤ vget P.b i

/-- a point of the specification read at a `ℕ` index (`0` outside `n`): index lists such as `ints` are `List ℕ`, in range
only by hypothesis -/
def extN {n : ℕ} (x : Fin n → ℚ) : ℕ → ℚ := fun j => if h : j < n then x ⟨j, h⟩ else 0

theorem extN_fin {n : ℕ} (x : Fin n → ℚ) (j : Fin n) : extN x j = x j := by
  unfold extN; simp

theorem feasible_iff_feasN (P : LP) (x : Fin P.n → ℚ) : P.toF.Feasible x ↔ FeasN P (extN x) := by
  unfold LPF.Feasible FeasN
  have e : ∀ i : ℕ, sumTo P.n (fun j => P.a i j * extN x j) = ∑ j : Fin P.n, P.a i j * x j := by
    intro i; rw [sumTo_eq_sum]
    exact Finset.sum_congr rfl fun j _ => by rw [extN_fin]
  constructor
  · rintro ⟨h1, h2⟩
    refine ⟨fun j hj => ?_, fun i hi => ?_⟩
    · have := h1 ⟨j, hj⟩; rwa [← extN_fin x ⟨j, hj⟩] at this
    · rw [e]; exact h2 ⟨i, hi⟩
  · rintro ⟨h1, h2⟩
    refine ⟨fun j => ?_, fun i => ?_⟩
    · have := h1 j j.isLt; rwa [extN_fin] at this
    · have := h2 i i.isLt; rw [e] at this; exact this

def rowLe (n : ℕ) (x : ℕ → ℚ) (p : List ℚ × ℚ) : Prop := sumTo n (fun j => p.1.getD j 0 * x j) ≤ p.2

theorem forall_getD_iff {α : Type} (l : List α) (d : α) (Q : α → Prop) :
    (∀ k < l.length, Q (l.getD k d)) ↔ ∀ p ∈ l, Q p := by
  rw [List.forall_mem_iff_getElem]
  exact forall₂_congr fun k hk => by rw [List.getD_eq_getElem _ _ hk]

theorem forall_lt_add (a b : ℕ) (Q : ℕ → Prop) :
    (∀ i < a + b, Q i) ↔ (∀ i < a, Q i) ∧ ∀ k < b, Q (a + k) :=
  ⟨fun h => ⟨fun i hi => h i (Nat.lt_add_right b hi), fun _ hk => h _ (Nat.add_lt_add_left hk a)⟩,
    fun ⟨h1, h2⟩ i hi => (Nat.lt_or_ge i a).elim (h1 i) fun hge =>
      Nat.add_sub_cancel' hge ▸ h2 (i - a) (Nat.sub_lt_left_of_lt_add hge hi)⟩

theorem getD_append_map {α β : Type} (xs : List β) (F : List α) (f : α → β) (d : β) (d' : α) (hd : f d' = d)
    (i : ℕ) : (xs ++ F.map f).getD i d =
      if i < xs.length then xs.getD i d else f (F.getD (i - xs.length) d') := by
  subst hd
  split
  · rename_i h; exact List.getD_append _ _ _ _ h
  · rename_i h; rw [List.getD_append_right _ _ _ _ (Nat.le_of_not_lt h), List.getD_map]

theorem feasN_append (P : LP) (F : List (List ℚ × ℚ)) (hwf : P.A.length = P.b.length) (x : ℕ → ℚ) :
    FeasN ⟨P.A ++ F.map (·.1), P.b ++ F.map (·.2), P.c⟩ x ↔ FeasN P x ∧ ∀ p ∈ F, rowLe P.n x p := by
  rw [← forall_getD_iff F ([], 0) (rowLe P.n x)]
  unfold FeasN
  have hm : (⟨P.A ++ F.map (·.1), P.b ++ F.map (·.2), P.c⟩ : LP).m = P.m + F.length := by
    simp [LP.m]
  have ha : ∀ i j, (⟨P.A ++ F.map (·.1), P.b ++ F.map (·.2), P.c⟩ : LP).a i j =
      if i < P.m then P.a i j else (F.getD (i - P.m) ([], 0)).1.getD j 0 := fun i j => by
    simp only [LP.a, LP.m, getD_append_map P.A F (·.1) [] ([], 0) rfl i, hwf,
      apply_ite (fun r : List ℚ => r.getD j 0)]
    rfl
  have hb : ∀ i, vget (P.b ++ F.map (·.2)) i =
      if i < P.m then vget P.b i else (F.getD (i - P.m) ([], 0)).2 := fun i =>
    getD_append_map P.b F (·.2) 0 ([], 0) rfl i
  show (_ ∧ ∀ i < (⟨P.A ++ F.map (·.1), P.b ++ F.map (·.2), P.c⟩ : LP).m, _) ↔ _
  rw [hm, forall_lt_add, and_assoc]
  refine and_congr_right fun _ => and_congr (forall₂_congr fun i hi => ?_) (forall₂_congr fun k _ => ?_)
  · rw [sumTo_congr (fun j _ => by rw [ha, if_pos hi]), hb, if_pos hi]; rfl
  · have hk : ¬ P.m + k < P.m := Nat.not_lt.mpr (Nat.le_add_right _ _)
    rw [sumTo_congr (fun j _ => by rw [ha, if_neg hk, Nat.add_sub_cancel_left]), hb, if_neg hk,
      Nat.add_sub_cancel_left]
    rfl

theorem getD_negV (l : List ℚ) (k : ℕ) : (negV l).getD k 0 = -(l.getD k 0) := by
  unfold negV
  have := List.getD_map (l := l) (d := (0 : ℚ)) (n := k) (fun t => -t)
  simp only [neg_zero] at this
  exact this

theorem sumTo_unit (n j : ℕ) (x : ℕ → ℚ) (hj : j < n) :
    sumTo n (fun k => (unitV n j).getD k 0 * x k) = x j := by
  rw [sumTo_congr (g := fun k => (if k = j then (1 : ℚ) else 0) * x k)
    (fun k hk => by rw [getD_unitV n j k hk])]
  rw [sumTo_eq_sum, Finset.sum_eq_single (⟨j, hj⟩ : Fin n)]
  · simp
  · intro b _ hb
    have : (b : ℕ) ≠ j := fun h => hb (Fin.ext h)
    simp [this]
  · intro h; exact absurd (Finset.mem_univ _) h

theorem sumTo_neg (n : ℕ) (f : ℕ → ℚ) : sumTo n (fun k => -f k) = -sumTo n f := by
  rw [sumTo_eq_range, sumTo_eq_range, Finset.sum_neg_distrib]

theorem rowLe_unit (n j : ℕ) (hj : j < n) (x : ℕ → ℚ) (v : ℚ) :
    rowLe n x (unitV n j, v) ↔ x j ≤ v := by
  unfold rowLe; simp only []; rw [sumTo_unit n j x hj]

theorem rowLe_negUnit (n j : ℕ) (hj : j < n) (x : ℕ → ℚ) (v : ℚ) :
    rowLe n x (negV (unitV n j), -v) ↔ v ≤ x j := by
  unfold rowLe; simp only []
  rw [sumTo_congr (g := fun k => -((unitV n j).getD k 0 * x k))
    (fun k _ => by rw [getD_negV]; ring), sumTo_neg, sumTo_unit n j x hj]
  exact neg_le_neg_iff

theorem fixPairs_forall (n : ℕ) (x : ℕ → ℚ) : ∀ (ints : List ℕ) (a : List ℤ),
    ints.length = a.length → (∀ j ∈ ints, j < n) →
    ((∀ p ∈ fixPairs n ints a, rowLe n x p) ↔ List.Forall₂ (fun j (v : ℤ) => x j = (v : ℚ)) ints a)
  | [], [], _, _ => by simp [fixPairs]
  | [], _ :: _, h, _ => by simp at h
  | _ :: _, [], h, _ => by simp at h
  | j :: js, v :: vs, h, hj => by
    have hjn : j < n := hj j List.mem_cons_self
    have ih := fixPairs_forall n x js vs (by simpa using h)
      (fun k hk => hj k (List.mem_cons_of_mem _ hk))
    simp only [fixPairs, List.forall_mem_cons, List.forall₂_cons]
    rw [rowLe_unit n j hjn, rowLe_negUnit n j hjn, ih]
    constructor
    · rintro ⟨h1, h2, h3⟩; exact ⟨le_antisymm h1 h2, h3⟩
    · rintro ⟨h1, h3⟩; exact ⟨h1.le, h1.ge, h3⟩

theorem boxOk_sound (P : LP) (j u : ℕ) (y : Vec) (h : boxOk P j u y = true) (x : Fin P.n → ℚ)
    (hx : P.toF.Feasible x) (z : ℤ) (hz : extN x j = (z : ℚ)) : 0 ≤ z ∧ z ≤ (u : ℤ) := by
  unfold boxOk at h
  simp only [Bool.and_eq_true, allTo_iff, decide_eq_true_eq] at h
  obtain ⟨⟨⟨hj, hy⟩, hd⟩, hfl⟩ := h
  let jf : Fin P.n := ⟨j, hj⟩
  have hxj : x jf = (z : ℚ) := by rw [← hz]; exact (extN_fin x jf).symm
  constructor
  · have := hx.1 jf; rw [hxj] at this; exact_mod_cast this
  · -- `x_j ≤ (Aᵀy)·x ≤ y·b`
    have hd' : ∀ k : Fin P.n, (if k = jf then (1 : ℚ) else 0) ≤ ∑ i, vecF P.m y i * P.toF.A i k := by
      intro k
      have := hd k
      rw [colDot_eq] at this
      by_cases hk : k = jf
      · rw [if_pos hk]; rwa [if_pos (by rw [hk] : (k : ℕ) = j)] at this
      · rw [if_neg hk]; rwa [if_neg (fun e => hk (Fin.ext e) : (k : ℕ) ≠ j)] at this
    have e : x jf = ∑ k, (if k = jf then (1 : ℚ) else 0) * x k := by
      rw [Finset.sum_eq_single jf (fun b _ hb => by rw [if_neg hb, zero_mul])
        (fun h => absurd (Finset.mem_univ _) h), if_pos rfl, one_mul]
    have h1 : x jf ≤ ∑ i, vecF P.m y i * P.toF.b i :=
      (e ▸ Finset.sum_le_sum fun k _ => mul_le_mul_of_nonneg_right (hd' k) (hx.1 k)).trans
        (dual_le P.toF x (vecF P.m y) P.toF.b hx.2 hy)
    rw [hxj, ← rhsDot_eq] at h1
    exact le_trans (Rat.le_floor_iff.mpr h1) hfl

theorem chkBox_forall₂ (P : LP) : ∀ (ints ub : List ℕ) (ys : List Vec), chkBox P ints ub ys = true →
    List.Forall₂ (fun j u => ∃ y, boxOk P j u y = true) ints ub
  | [], [], [], _ => List.Forall₂.nil
  | j :: js, u :: us, y :: ys, h => by
    simp only [chkBox, Bool.and_eq_true] at h
    exact List.Forall₂.cons ⟨y, h.1⟩ (chkBox_forall₂ P js us ys h.2)
  | [], [], _ :: _, h => by simp [chkBox] at h
  | [], _ :: _, _, h => by simp [chkBox] at h
  | _ :: _, [], _, h => by simp [chkBox] at h
  | _ :: _, _ :: _, [], h => by simp [chkBox] at h

theorem chkBox_length (P : LP) (ints ub : List ℕ) (ys : List Vec) (h : chkBox P ints ub ys = true) :
    ints.length = ub.length :=
  (chkBox_forall₂ P ints ub ys h).length_eq

theorem chkBox_sound (P : LP) (x : Fin P.n → ℚ) (hx : P.toF.Feasible x) {ints ub : List ℕ}
    (h : List.Forall₂ (fun j u => ∃ y, boxOk P j u y = true) ints ub) :
    (∀ j ∈ ints, ∃ z : ℤ, extN x j = (z : ℚ)) →
    ∃ a : List ℤ, List.Forall₂ (fun j (v : ℤ) => extN x j = (v : ℚ)) ints a ∧
      List.Forall₂ (fun (v : ℤ) (u : ℕ) => 0 ≤ v ∧ v ≤ (u : ℤ)) a ub := by
  induction h with
  | nil => exact fun _ => ⟨[], List.Forall₂.nil, List.Forall₂.nil⟩
  | cons hy _ ih =>
    intro hint
    obtain ⟨y, hy⟩ := hy
    obtain ⟨z, hz⟩ := hint _ List.mem_cons_self
    obtain ⟨a, ha1, ha2⟩ := ih fun k hk => hint k (List.mem_cons_of_mem _ hk)
    exact ⟨z :: a, List.Forall₂.cons hz ha1, List.Forall₂.cons (boxOk_sound P _ _ y hy x hx z hz) ha2⟩

theorem mem_assignments_iff : ∀ (ub : List ℕ) (a : List ℤ),
    a ∈ assignments ub ↔ List.Forall₂ (fun (v : ℤ) (u : ℕ) => 0 ≤ v ∧ v ≤ (u : ℤ)) a ub
  | [], a => by simp [assignments]
  | u :: us, a => by
    simp only [assignments, List.mem_flatMap, List.mem_range, List.mem_map]
    constructor
    · rintro ⟨v, hv, r, hr, rfl⟩
      exact List.Forall₂.cons ⟨Int.natCast_nonneg v, by omega⟩ ((mem_assignments_iff us r).1 hr)
    · intro h
      cases h with
      | cons hb ht =>
        rename_i v vs
        exact ⟨v.toNat, by omega, vs, (mem_assignments_iff us vs).2 ht, by rw [Int.toNat_of_nonneg hb.1]⟩

theorem foldl_best (P : LP) (l : List (List ℤ × LpOut)) :
    match List.foldl (bestStep P) none l with
    | none => ∀ r ∈ l, r.2.status ≠ .OPTIMAL
    | some (v, x) => (∃ r ∈ l, r.2.status = .OPTIMAL ∧ x = r.2.x ∧ v = P.objAt r.2.x) ∧
        ∀ r ∈ l, r.2.status = .OPTIMAL → v ≤ P.objAt r.2.x := by
  induction l using List.reverseRecOn with
  | nil => intro r hr; cases hr
  | append_singleton l r ih =>
    rw [List.foldl_append, List.foldl_cons, List.foldl_nil]
    have mem : ∀ r', r' ∈ l ++ [r] ↔ r' ∈ l ∨ r' = r := fun r' => by
      rw [List.mem_append, List.mem_singleton]
    generalize List.foldl (bestStep P) none l = prev at ih ⊢
    by_cases hs : r.2.status = .OPTIMAL
    · cases prev with
      | none =>
        simp only [bestStep, if_pos hs, better]
        refine ⟨⟨r, (mem r).mpr (Or.inr rfl), hs, rfl, rfl⟩, fun r' hr' hs' => ?_⟩
        rcases (mem r').mp hr' with h | rfl
        · exact absurd hs' (ih r' h)
        · exact le_refl _
      | some p =>
        obtain ⟨v, x⟩ := p
        obtain ⟨⟨r0, hr0, h0⟩, hmin⟩ := ih
        simp only [bestStep, if_pos hs, better]
        by_cases hlt : P.objAt r.2.x < v
        · rw [if_pos hlt]
          refine ⟨⟨r, (mem r).mpr (Or.inr rfl), hs, rfl, rfl⟩, fun r' hr' hs' => ?_⟩
          rcases (mem r').mp hr' with h | rfl
          · exact hlt.le.trans (hmin r' h hs')
          · exact le_refl _
        · rw [if_neg hlt]
          refine ⟨⟨r0, (mem r0).mpr (Or.inl hr0), h0⟩, fun r' hr' hs' => ?_⟩
          rcases (mem r').mp hr' with h | rfl
          · exact hmin r' h hs'
          · exact not_lt.mp hlt
    · simp only [bestStep, if_neg hs]
      cases prev with
      | none =>
        intro r' hr'
        rcases (mem r').mp hr' with h | rfl
        · exact ih r' h
        · exact hs
      | some p =>
        obtain ⟨v, x⟩ := p
        obtain ⟨⟨r0, hr0, h0⟩, hmin⟩ := ih
        refine ⟨⟨r0, (mem r0).mpr (Or.inl hr0), h0⟩, fun r' hr' hs' => ?_⟩
        rcases (mem r').mp hr' with h | rfl
        · exact hmin r' h hs'
        · exact absurd hs' hs

theorem forall₂_left_exists {α β : Type} {R : α → β → Prop} {l₁ : List α} {l₂ : List β}
    (h : List.Forall₂ R l₁ l₂) : ∀ a ∈ l₁, ∃ b, R a b :=
  ((List.forall₂_and_left _ _).mp (h.imp fun _ b hab => ⟨⟨b, hab⟩, hab⟩)).1

theorem feasible_fix_iff (P : LP) (hwf : P.A.length = P.b.length) (ints : List ℕ) (a : List ℤ)
    (hlen : ints.length = a.length) (hints : ∀ j ∈ ints, j < P.n) (x : Fin P.n → ℚ) :
    (P.fix ints a).toF.Feasible x ↔
      P.toF.Feasible x ∧ List.Forall₂ (fun j (v : ℤ) => extN x j = (v : ℚ)) ints a := by
  rw [feasible_iff_feasN P x, ← fixPairs_forall P.n (extN x) ints a hlen hints, ← feasN_append P _ hwf (extN x)]
  exact feasible_iff_feasN (P.fix ints a) x

theorem fixFeasible_milp (P : LP) (hwf : P.A.length = P.b.length) (ints : List ℕ) (a : List ℤ)
    (hlen : ints.length = a.length) (hints : ∀ j ∈ ints, j < P.n) (x : Fin P.n → ℚ)
    (h : (P.fix ints a).toF.Feasible x) : P.toF.MilpFeasible (intSet P.n ints) x := by
  obtain ⟨hf, hfa⟩ := (feasible_fix_iff P hwf ints a hlen hints x).mp h
  refine ⟨hf, fun j hj => ?_⟩
  obtain ⟨z, hz⟩ := forall₂_left_exists hfa j.val hj
  exact ⟨z, by rw [← hz, extN_fin]⟩

theorem milp_fixFeasible (P : LP) (hwf : P.A.length = P.b.length) (ints ub : List ℕ) (ys : List Vec)
    (hints : ∀ j ∈ ints, j < P.n) (hbox : chkBox P ints ub ys = true) (x : Fin P.n → ℚ)
    (h : P.toF.MilpFeasible (intSet P.n ints) x) :
    ∃ a ∈ assignments ub, (P.fix ints a).toF.Feasible x := by
  have hint : ∀ j ∈ ints, ∃ z : ℤ, extN x j = (z : ℚ) := by
    intro j hj
    obtain ⟨z, hz⟩ := h.2 ⟨j, hints j hj⟩ hj
    exact ⟨z, by rw [← hz]; exact extN_fin x ⟨j, hints j hj⟩⟩
  obtain ⟨a, ha1, ha2⟩ := chkBox_sound P x h.1 (chkBox_forall₂ P ints ub ys hbox) hint
  exact ⟨a, (mem_assignments_iff ub a).2 ha2,
    (feasible_fix_iff P hwf ints a ha1.length_eq hints x).mpr ⟨h.1, ha1⟩⟩

theorem nodup_eraseDups : ∀ (k : ℕ) (l : List ℕ), l.length ≤ k → l.eraseDups.Nodup
  | _, [], _ => by simp
  | 0, _ :: _, h => by simp at h
  | k + 1, a :: as, h => by
    rw [List.eraseDups_cons, List.nodup_cons]
    constructor
    · rw [List.mem_eraseDups, List.mem_filter]
      simp
    · refine nodup_eraseDups k _ (le_trans (List.length_filter_le _ _) ?_)
      simpa using h

theorem int_eq_zero_of_abs_le {q eps : ℚ} (hq : ∃ z : ℤ, q = z) (h : |q| ≤ eps) (heps : eps < 1) : q = 0 := by
  obtain ⟨z, rfl⟩ := hq
  have : |z| < 1 := by
    have : ((|z| : ℤ) : ℚ) < 1 := by rw [Int.cast_abs]; exact lt_of_le_of_lt h heps
    exact_mod_cast this
  rw [Int.abs_lt_one_iff.mp this]; simp

theorem int_eq_one_of_abs_le {q eps : ℚ} (hq : ∃ z : ℤ, q = z) (h : |q - 1| ≤ eps) (heps : eps < 1) : q = 1 :=
  sub_eq_zero.mp (int_eq_zero_of_abs_le (by obtain ⟨z, hz⟩ := hq; exact ⟨z - 1, by rw [hz]; push_cast; ring⟩) h heps)

theorem boundedVars_spec (P : LP) (ints : List ℕ) (eps : ℚ) (j : ℕ) (hj : j ∈ boundedVars P ints eps) :
    ∃ i < P.m, |vget P.b i - 1| ≤ eps ∧ rowNz P eps i = [j] ∧ j ∈ ints ∧ |P.a i j - 1| < eps := by
  unfold boundedVars at hj
  rw [List.mem_filterMap] at hj
  obtain ⟨i, hi, hf⟩ := hj
  rw [List.mem_range] at hi
  refine ⟨i, hi, ?_⟩
  split at hf
  · cases hf
  · rename_i hb
    rw [absR_eq] at hb
    split at hf
    · rename_i j' hnz
      split at hf
      · rename_i hc
        cases hf
        simp only [Bool.and_eq_true, List.contains_eq_mem, decide_eq_true_eq, absR_eq] at hc
        exact ⟨not_lt.mp hb, hnz, hc.1, hc.2⟩
      · cases hf
    · cases hf

end Solvor.Lp
