import Solvor.Lp.Lemmas
import Mathlib.Data.List.GetD
import Mathlib.Algebra.BigOperators.Group.Finset.Piecewise
import Mathlib.Algebra.BigOperators.Intervals
/-! Lp/Certifies: the operations of the simplex mirror at `eps = 0`, described entry by entry on well-formed
tableaux, and the row space of `[A I | b]` that the rows of every tableau stay in. -/
namespace Solvor.Lp
open Finset

/-- the tableau as total functions (`0` outside): entry `(i, c)` of the rows, here; entry `c` of the objective row,
`Tab.oe`; the basic column of row `i`, `Tab.bs`.  The invariants speak of a tableau through these three only. -/
def Tab.e (t : Tab) (i c : ℕ) : ℚ := (t.rows.getD i []).getD c 0
def Tab.oe (t : Tab) (c : ℕ) : ℚ := t.obj.getD c 0
def Tab.bs (t : Tab) (i : ℕ) : ℕ := t.basis.getD i 0

structure Tab.WF (t : Tab) (m W : ℕ) : Prop where
  rows_len : t.rows.length = m
  row_len : ∀ r ∈ t.rows, r.length = W
  obj_len : t.obj.length = W
  basis_len : t.basis.length = m

theorem Tab.WF.of_getD {t : Tab} {m W : ℕ} (hr : t.rows.length = m)
    (hrow : ∀ i < m, (t.rows.getD i []).length = W) (ho : t.obj.length = W) (hb : t.basis.length = m) :
    t.WF m W := by
  refine ⟨hr, fun r hmem => ?_, ho, hb⟩
  obtain ⟨i, hi, rfl⟩ := List.mem_iff_getElem.mp hmem
  rw [← List.getD_eq_getElem _ [] hi]; exact hrow i (hr ▸ hi)

theorem absR_nonneg (a : ℚ) : 0 ≤ absR a := by rw [absR_eq]; exact abs_nonneg a
theorem absR_pos_iff (a : ℚ) : absR a > 0 ↔ a ≠ 0 := by rw [absR_eq]; exact abs_pos

theorem getD_rows_len {t : Tab} {m W : ℕ} (h : t.WF m W) {i : ℕ} (hi : i < m) :
    (t.rows.getD i []).length = W :=
  h.row_len _ (getD_mem (h.rows_len.symm ▸ hi) [])

theorem getD_map_mul (l : List ℚ) (a : ℚ) (c : ℕ) : (l.map (· * a)).getD c 0 = l.getD c 0 * a := by
  have h := List.getD_map l 0 (n := c) (· * a)
  simp only [zero_mul] at h
  exact h

theorem getD_zipWith_sub (row prow : List ℚ) (f : ℚ) (c : ℕ) (hl : row.length = prow.length) :
    (List.zipWith (fun a p => a - f * p) row prow).getD c 0 = row.getD c 0 - f * prow.getD c 0 := by
  rw [List.getD_eq_getElem?_getD, List.getElem?_zipWith, List.getD_eq_getElem?_getD,
    List.getD_eq_getElem?_getD]
  by_cases hc : c < row.length
  · have hc' : c < prow.length := hl ▸ hc
    rw [List.getElem?_eq_getElem hc, List.getElem?_eq_getElem hc']
    simp
  · have hc' : ¬ c < prow.length := hl ▸ hc
    rw [List.getElem?_eq_none (not_lt.mp hc), List.getElem?_eq_none (not_lt.mp hc')]
    simp

theorem seg3_getD (a b : List ℚ) (x : ℚ) (c : ℕ) :
    (a ++ b ++ [x]).getD c 0 =
      if c < a.length then a.getD c 0
      else if c < a.length + b.length then b.getD (c - a.length) 0
      else if c = a.length + b.length then x else 0 := by
  by_cases h1 : c < a.length
  · rw [if_pos h1, List.append_assoc, List.getD_append _ _ _ _ h1]
  · rw [if_neg h1]
    by_cases h2 : c < a.length + b.length
    · rw [if_pos h2, List.append_assoc, List.getD_append_right _ _ _ _ (not_lt.mp h1),
        List.getD_append _ _ _ _ (Nat.sub_lt_left_of_lt_add (Nat.not_lt.mp h1) h2)]
    · rw [if_neg h2, List.getD_append_right _ _ _ _ (by rw [List.length_append]; exact Nat.not_lt.mp h2),
        List.length_append]
      by_cases h3 : c = a.length + b.length
      · rw [if_pos h3, h3, Nat.sub_self]; rfl
      · rw [if_neg h3]
        exact List.getD_eq_default _ _
          (Nat.sub_pos_of_lt (lt_of_le_of_ne (Nat.not_lt.mp h2) (Ne.symm h3)))

theorem seg2_getD (a : List ℚ) (x : ℚ) (c : ℕ) :
    (a ++ [x]).getD c 0 = if c < a.length then a.getD c 0 else if c = a.length then x else 0 := by
  have := seg3_getD a [] x c
  rw [List.append_nil, List.length_nil, Nat.add_zero] at this
  rw [this]
  by_cases h1 : c < a.length
  · rw [if_pos h1, if_pos h1]
  · rw [if_neg h1, if_neg h1, if_neg h1]

theorem getD_take (l : List ℚ) (k c : ℕ) (hc : c < k) : (l.take k).getD c 0 = l.getD c 0 := by
  rw [List.getD_eq_getElem?_getD, List.getElem?_take, if_pos hc, List.getD_eq_getElem?_getD]

/-- the local `elim` of `pivot` (the row update of `_pivot`, objective row included) at `eps = 0` -/
theorem elim_getD (row prow : List ℚ) (col c : ℕ) (hl : row.length = prow.length) :
    (let f := row.getD col 0
     if absR f > 0 then List.zipWith (fun a p => a - f * p) row prow else row).getD c 0
      = row.getD c 0 - row.getD col 0 * prow.getD c 0 := by
  simp only []
  split
  · exact getD_zipWith_sub row prow _ c hl
  · rename_i h
    rw [not_not.mp (mt (absR_pos_iff _).mpr h)]; ring

theorem elim_length (row prow : List ℚ) (col : ℕ) (hl : row.length = prow.length) :
    (let f := row.getD col 0
     if absR f > 0 then List.zipWith (fun a p => a - f * p) row prow else row).length = row.length := by
  simp only []
  split
  · simp [List.length_zipWith, hl]
  · rfl

section pivot
variable {t : Tab} {m W : ℕ}

theorem scaled_row_len (h : t.WF m W) {r : ℕ} (hr : r < m) (a : ℚ) :
    ((t.rows.getD r []).map (· * a)).length = W := (List.length_map _).trans (getD_rows_len h hr)

/-- `_pivot` at `eps = 0` never skips: the right-hand side is the `else` branch of `pivot` -/
theorem pivot_unfold (t : Tab) (r col : ℕ) :
    pivot 0 t r col =
      { t with
        rows := t.rows.mapIdx (fun i row => if i = r then (t.rows.getD r []).map (· * (1 / t.e r col)) else
          (let f := row.getD col 0
           if absR f > 0 then List.zipWith (fun a p => a - f * p) row
             ((t.rows.getD r []).map (· * (1 / t.e r col))) else row)),
        obj := (let f := t.obj.getD col 0
           if absR f > 0 then List.zipWith (fun a p => a - f * p) t.obj
             ((t.rows.getD r []).map (· * (1 / t.e r col))) else t.obj) } := by
  unfold pivot
  simp only []
  have : ¬ absR ((t.rows.getD r []).getD col 0) < 0 := not_lt.mpr (absR_nonneg _)
  rw [if_neg this]
  rfl

theorem pivot_wf (h : t.WF m W) (r col : ℕ) (hr : r < m) : (pivot 0 t r col).WF m W := by
  rw [pivot_unfold]
  have hp := scaled_row_len h hr (1 / t.e r col)
  refine ⟨List.length_mapIdx.trans h.rows_len, ?_, ?_, h.basis_len⟩
  · intro row hrow
    obtain ⟨i, hi, rfl⟩ := List.mem_iff_getElem.mp hrow
    rw [List.getElem_mapIdx]
    have hi' : i < t.rows.length := List.length_mapIdx ▸ hi
    have hlen : (t.rows[i]).length = W := h.row_len _ (List.getElem_mem hi')
    split
    · exact hp
    · rw [elim_length _ _ _ (by rw [hlen, hp])]; exact hlen
  · simp only []
    rw [elim_length _ _ _ (by rw [h.obj_len, hp])]; exact h.obj_len

theorem pivot_bs (r col i : ℕ) : (pivot 0 t r col).bs i = t.bs i := by
  rw [pivot_unfold]; rfl

theorem pivot_e (h : t.WF m W) (r col : ℕ) (hr : r < m) (i : ℕ) (hi : i < m) (c : ℕ) :
    (pivot 0 t r col).e i c =
      if i = r then t.e r c * (1 / t.e r col) else t.e i c - t.e i col * (t.e r c * (1 / t.e r col)) := by
  rw [pivot_unfold]
  have hp := scaled_row_len h hr (1 / t.e r col)
  simp only [Tab.e]
  rw [getD_mapIdx _ (h.rows_len.symm ▸ hi) []]
  split
  · rename_i hir
    subst hir
    rw [getD_map_mul]
  · rw [elim_getD _ _ _ _ (by rw [getD_rows_len h hi]; exact hp.symm), getD_map_mul]

theorem pivot_oe (h : t.WF m W) (r col : ℕ) (hr : r < m) (c : ℕ) :
    (pivot 0 t r col).oe c = t.oe c - t.oe col * (t.e r c * (1 / t.e r col)) := by
  rw [pivot_unfold]
  have hp := scaled_row_len h hr (1 / t.e r col)
  simp only [Tab.oe, Tab.e]
  rw [elim_getD _ _ _ _ (by rw [h.obj_len]; exact hp.symm), getD_map_mul]

end pivot

section rules
variable {t : Tab} {m W L : ℕ}

theorem setBasis_e (r col i c : ℕ) : (setBasis t r col).e i c = t.e i c := rfl
theorem setBasis_oe (r col c : ℕ) : (setBasis t r col).oe c = t.oe c := rfl
theorem setBasis_wf (h : t.WF m W) (r col : ℕ) : (setBasis t r col).WF m W :=
  ⟨h.rows_len, h.row_len, h.obj_len, by simp [setBasis, h.basis_len]⟩
theorem setBasis_bs (h : t.WF m W) (r col : ℕ) (hr : r < m) (i : ℕ) :
    (setBasis t r col).bs i = if i = r then col else t.bs i := by
  simp only [setBasis, Tab.bs, List.getD_eq_getElem?_getD, List.getElem?_set, h.basis_len, hr, if_true]
  by_cases hir : i = r
  · subst hir; simp
  · rw [if_neg (fun e => hir e.symm), if_neg hir]

theorem lastR_eq (h : t.WF m (L + 1)) {i : ℕ} (hi : i < m) :
    lastR (t.rows.getD i []) = t.e i L := by
  unfold lastR Tab.e
  rw [List.getLastD_eq_getLast?, List.getLast?_eq_getElem?, getD_rows_len h hi, Nat.add_sub_cancel]
  exact (List.getD_eq_getElem?_getD).symm

theorem lastR_obj (h : t.WF m (L + 1)) : lastR t.obj = t.oe L := by
  unfold lastR Tab.oe
  rw [List.getLastD_eq_getLast?, List.getLast?_eq_getElem?, h.obj_len, Nat.add_sub_cancel, List.getD_eq_getElem?_getD]

theorem mem_basis_iff (h : t.WF m W) (j : ℕ) : j ∈ t.basis ↔ ∃ i < m, t.bs i = j := by
  constructor
  · intro hj
    obtain ⟨i, hi, rfl⟩ := List.mem_iff_getElem.mp hj
    exact ⟨i, h.basis_len ▸ hi, List.getD_eq_getElem _ _ hi⟩
  · rintro ⟨i, hi, rfl⟩
    exact getD_mem (h.basis_len.symm ▸ hi) 0

theorem findEnter_none (h : t.WF m (L + 1)) (hn : findEnter 0 t = none) :
    ∀ j < L, (∀ i < m, t.bs i ≠ j) → 0 ≤ t.oe j := by
  intro j hj hnb
  unfold findEnter at hn
  rw [List.find?_eq_none] at hn
  have := hn j (by rw [List.mem_range, h.obj_len, Nat.add_sub_cancel]; exact hj)
  simp only [Bool.and_eq_true, Bool.not_eq_true', decide_eq_true_eq, not_and, neg_zero, not_lt,
    List.contains_eq_mem, decide_eq_false_iff_not] at this
  refine this ?_
  intro hmem
  obtain ⟨i, hi, hb⟩ := (mem_basis_iff h j).mp hmem
  exact hnb i hi hb

theorem findEnter_some (h : t.WF m (L + 1)) {e : ℕ} (hs : findEnter 0 t = some e) :
    e < L ∧ (∀ i < m, t.bs i ≠ e) ∧ t.oe e < 0 := by
  unfold findEnter at hs
  have hp := List.find?_some hs
  have hm := List.mem_of_find?_eq_some hs
  rw [List.mem_range, h.obj_len, Nat.add_sub_cancel] at hm
  simp only [Bool.and_eq_true, Bool.not_eq_true', decide_eq_true_eq, neg_zero,
    List.contains_eq_mem, decide_eq_false_iff_not] at hp
  refine ⟨hm, fun i hi hb => hp.1 ((mem_basis_iff h e).mpr ⟨i, hi, hb⟩), hp.2⟩

/-- invariant of the ratio-test loop of `findLeave` after the rows `< k`; the state is (leaving row, least ratio) -/
def LInv (t : Tab) (L e k : ℕ) : Option ℕ × Option ℚ → Prop
  | (none, none) => ∀ i < k, ¬ t.e i e > 0
  | (some l, some r) => l < k ∧ t.e l e > 0 ∧ r = t.e l L / t.e l e ∧
      ∀ i < k, t.e i e > 0 → r ≤ t.e i L / t.e i e
  | _ => False

theorem leaveStep_inv (h : t.WF m (L + 1)) (e k : ℕ) (hk : k < m) (st : Option ℕ × Option ℚ)
    (hst : LInv t L e k st) : LInv t L e (k + 1) (leaveStep 0 t e st k) := by
  unfold leaveStep
  simp only []
  rw [lastR_eq h hk]
  have hae : (t.rows.getD k []).getD e 0 = t.e k e := rfl
  rw [hae]
  by_cases ha : t.e k e > 0
  · rw [if_pos ha]
    rcases st with ⟨l, mr⟩
    cases mr with
    | none =>
      cases l with
      | some l => exact hst.elim
      | none =>
        simp only [LInv] at hst ⊢
        exact ⟨Nat.lt_succ_self k, ha, trivial,
          Nat.forall_lt_succ_right.mpr ⟨fun i h1 hpos => absurd hpos (hst i h1), fun _ => le_refl _⟩⟩
    | some mr =>
      cases l with
      | none => exact hst.elim
      | some l =>
        simp only [LInv] at hst
        obtain ⟨hl, hle, hmr, hmin⟩ := hst
        simp only [sub_zero]
        by_cases hlt : t.e k L / t.e k e < mr
        · rw [if_pos hlt]
          simp only [LInv]
          exact ⟨Nat.lt_succ_self k, ha, trivial, Nat.forall_lt_succ_right.mpr
            ⟨fun i h1 hpos => le_trans hlt.le (hmin i h1 hpos), fun _ => le_refl _⟩⟩
        · rw [if_neg hlt]
          have keep : LInv t L e (k + 1) (some l, some mr) := by
            simp only [LInv]
            exact ⟨Nat.lt_succ_of_lt hl, hle, hmr, Nat.forall_lt_succ_right.mpr ⟨hmin, fun _ => not_lt.mp hlt⟩⟩
          by_cases heq : absR (t.e k L / t.e k e - mr) ≤ 0
          · rw [if_pos heq]
            have hz : t.e k L / t.e k e = mr := by
              have := le_antisymm heq (absR_nonneg _)
              rw [absR_eq, abs_eq_zero] at this; exact sub_eq_zero.mp this
            split
            · simp only [LInv]
              exact ⟨Nat.lt_succ_self k, ha, hz.symm, Nat.forall_lt_succ_right.mpr ⟨hmin, fun _ => hz.ge⟩⟩
            · exact keep
          · rw [if_neg heq]; exact keep
  · rw [if_neg ha]
    rcases st with ⟨l, mr⟩
    cases l <;> cases mr <;> simp only [LInv] at hst ⊢
    · exact Nat.forall_lt_succ_right.mpr ⟨hst, ha⟩
    · obtain ⟨hl, hle, hmr, hmin⟩ := hst
      exact ⟨Nat.lt_succ_of_lt hl, hle, hmr, Nat.forall_lt_succ_right.mpr ⟨hmin, fun hpos => absurd hpos ha⟩⟩

theorem foldl_leave_inv (h : t.WF m (L + 1)) (e : ℕ) :
    LInv t L e m ((List.range m).foldl (leaveStep 0 t e) (none, none)) :=
  foldl_range_inv (LInv t L e) (leaveStep 0 t e) (none, none) (fun _ hi => absurd hi (Nat.not_lt_zero _)) m
    fun k st hk => leaveStep_inv h e k hk st

theorem findLeave_none (h : t.WF m (L + 1)) {e : ℕ} (hn : findLeave 0 t e = none) :
    ∀ i < m, t.e i e ≤ 0 := by
  have := foldl_leave_inv h e
  unfold findLeave at hn
  rw [h.rows_len] at hn
  generalize (List.range m).foldl (leaveStep 0 t e) (none, none) = st at this hn
  rcases st with ⟨l, mr⟩
  simp only at hn
  subst hn
  cases mr with
  | none => intro i hi; exact not_lt.mp (this i hi)
  | some r => exact this.elim

theorem findLeave_some (h : t.WF m (L + 1)) {e l : ℕ} (hs : findLeave 0 t e = some l) :
    l < m ∧ t.e l e > 0 ∧ ∀ i < m, t.e i e > 0 → t.e l L / t.e l e ≤ t.e i L / t.e i e := by
  have := foldl_leave_inv h e
  unfold findLeave at hs
  rw [h.rows_len] at hs
  generalize (List.range m).foldl (leaveStep 0 t e) (none, none) = st at this hs
  rcases st with ⟨l', mr⟩
  simp only at hs
  subst hs
  cases mr with
  | none => exact this.elim
  | some r =>
    obtain ⟨h1, h2, h3, h4⟩ := this
    exact ⟨h1, h2, fun i hi hp => h3 ▸ h4 i hi hp⟩

end rules

/-- row `k` of `[A I | b]` -/
def origRow (P : LP) (k c : ℕ) : ℚ :=
  if c < P.n then P.a k c else if c < P.n + P.m then (if c - P.n = k then 1 else 0) else vget P.b k

theorem origRow_lt (P : LP) (k : ℕ) {c : ℕ} (hc : c < P.n) : origRow P k c = P.a k c := by
  rw [origRow, if_pos hc]

theorem origRow_slack (P : LP) (k : ℕ) {i : ℕ} (hi : i < P.m) :
    origRow P k (P.n + i) = if i = k then 1 else 0 := by
  rw [origRow, if_neg (Nat.not_lt.mpr (Nat.le_add_right _ _)), if_pos (Nat.add_lt_add_left hi _),
    Nat.add_sub_cancel_left]

theorem origRow_last (P : LP) (k : ℕ) : origRow P k (P.n + P.m) = vget P.b k := by
  rw [origRow, if_neg (Nat.not_lt.mpr (Nat.le_add_right _ _)), if_neg (Nat.lt_irrefl _)]

/-- `v` is a combination of the rows of `[A I | b]`, its multipliers read in its own slack columns; `L` is the
right-hand-side column (further columns may stand between the slack block and it) -/
structure InSW (P : LP) (L : ℕ) (v : ℕ → ℚ) : Prop where
  cols : ∀ j < P.n, v j = ∑ k ∈ range P.m, v (P.n + k) * P.a k j
  last : v L = ∑ k ∈ range P.m, v (P.n + k) * vget P.b k

theorem InSW.smul {P : LP} {L : ℕ} {v : ℕ → ℚ} (hv : InSW P L v) (g : ℚ) : InSW P L (fun c => v c * g) := by
  constructor
  · intro j hj
    rw [hv.cols j hj, Finset.sum_mul]
    exact Finset.sum_congr rfl fun k _ => by ring
  · rw [hv.last, Finset.sum_mul]
    exact Finset.sum_congr rfl fun k _ => by ring

theorem InSW.sub_mul {P : LP} {L : ℕ} {u v : ℕ → ℚ} (hu : InSW P L u) (hv : InSW P L v) (f : ℚ) :
    InSW P L (fun c => u c - f * v c) := by
  constructor
  · intro j hj
    rw [hu.cols j hj, hv.cols j hj, Finset.mul_sum, ← Finset.sum_sub_distrib]
    exact Finset.sum_congr rfl fun k _ => by ring
  · rw [hu.last, hv.last, Finset.mul_sum, ← Finset.sum_sub_distrib]
    exact Finset.sum_congr rfl fun k _ => by ring

theorem InSW.zero (P : LP) (L : ℕ) : InSW P L (fun _ => 0) := by
  constructor <;> simp

/-- `InSW` at the last column `n+m` of the phase-2 tableau -/
def InS (P : LP) (v : ℕ → ℚ) : Prop :=
  (∀ j < P.n, v j = ∑ k ∈ range P.m, v (P.n + k) * P.a k j) ∧
  v (P.n + P.m) = ∑ k ∈ range P.m, v (P.n + k) * vget P.b k

theorem InS.sub_smul {P : LP} {u v : ℕ → ℚ} (hu : InS P u) (hv : InS P v) (f g : ℚ) :
    InS P (fun c => u c - f * (v c * g)) :=
  have h := InSW.sub_mul (L := P.n + P.m) ⟨hu.1, hu.2⟩ (InSW.smul ⟨hv.1, hv.2⟩ g) f
  ⟨h.cols, h.last⟩

theorem InS.smul {P : LP} {v : ℕ → ℚ} (hv : InS P v) (g : ℚ) : InS P (fun c => v c * g) :=
  have h := InSW.smul (L := P.n + P.m) ⟨hv.1, hv.2⟩ g
  ⟨h.cols, h.last⟩

/-- the objective row of `initTab` (`initTab_oe`), `c` on the structural columns and `0` on the slack and right-hand-side
columns: the `obar` of `GInv` in phase 2 (`Inv2`) -/
def wbar (P : LP) (c : ℕ) : ℚ := if c < P.n then vget P.c c else 0

/-- the pivoting iteration of `_phase2` -/
def stepTab (t : Tab) (l e : ℕ) : Tab := setBasis (pivot 0 t l e) l e

theorem origRow_sum (P : LP) (k : ℕ) (hk : k < P.m) (z : ℕ → ℚ) :
    ∑ c ∈ range (P.n + P.m + 1), origRow P k c * z c =
      ∑ j ∈ range P.n, P.a k j * z j + z (P.n + k) + vget P.b k * z (P.n + P.m) := by
  rw [Finset.sum_range_succ, Finset.sum_range_add, origRow_last,
    Finset.sum_congr rfl fun j hj => by rw [origRow_lt P k (Finset.mem_range.mp hj)],
    Finset.sum_eq_single_of_mem k (Finset.mem_range.mpr hk) fun i hi hik => by
      rw [origRow_slack P k (Finset.mem_range.mp hi), if_neg hik, zero_mul],
    origRow_slack P k hk, if_pos rfl, one_mul]

section read
variable {P : LP} {t : Tab}

theorem vget_slack (t : Tab) (n m : ℕ) {k : ℕ} (hk : k < m) :
    vget (slackPart n m t.obj) k = t.oe (n + k) := by
  unfold vget Tab.oe slackPart
  rw [List.getD_eq_getElem?_getD, List.getElem?_take, if_pos hk, List.getElem?_drop,
    List.getD_eq_getElem?_getD]

/-- ray direction of variable `c` when column `e` enters -/
def rayVal (P : LP) (t : Tab) (e c : ℕ) : ℚ :=
  if c = e then 1 else ∑ i ∈ range P.m, if t.bs i = c then -(t.e i e) else 0

theorem wbar_lt {j : ℕ} (hj : j < P.n) : wbar P j = vget P.c j := by simp [wbar, hj]
theorem wbar_ge (k : ℕ) : wbar P (P.n + k) = 0 := by
  have : ¬ (P.n + k < P.n) := Nat.not_lt.mpr (Nat.le_add_right _ _)
  simp [wbar, this]

theorem rayVal_nonneg (e c : ℕ) (hle : ∀ i < P.m, t.e i e ≤ 0) : 0 ≤ rayVal P t e c := by
  unfold rayVal
  split
  · norm_num
  · refine Finset.sum_nonneg fun i hi => ?_
    split
    · exact neg_nonneg.mpr (hle i (Finset.mem_range.mp hi))
    · exact le_refl _

end read

open Solvor.Gen (Status)

theorem phase2_none (fuel it : ℕ) (t : Tab) (h : findEnter 0 t = none) :
    phase2 0 (fuel + 1) it t = ⟨.OPTIMAL, it, t, none⟩ := by
  rw [phase2, h]

theorem phase2_unb (fuel it : ℕ) (t : Tab) {e : ℕ} (h : findEnter 0 t = some e)
    (hl : findLeave 0 t e = none) : phase2 0 (fuel + 1) it t = ⟨.UNBOUNDED, it, t, some e⟩ := by
  rw [phase2, h]; simp only []; rw [hl]

theorem phase2_step (fuel it : ℕ) (t : Tab) {e l : ℕ} (h : findEnter 0 t = some e)
    (hl : findLeave 0 t e = some l) : phase2 0 (fuel + 1) it t = phase2 0 fuel (it + 1) (stepTab t l e) := by
  rw [phase2, h]; simp only []; rw [hl]; rfl

theorem initTab_row (P : LP) {i : ℕ} (hi : i < P.m) :
    (initTab P.c P.A P.b).rows.getD i [] = P.A.getD i [] ++ unitV P.m i ++ [vget P.b i] :=
  getD_map_range _ _ hi

theorem initTab_e (P : LP) (hA : ∀ i < P.m, (P.A.getD i []).length = P.n) {i : ℕ} (hi : i < P.m)
    {c : ℕ} (hc : c < P.n + P.m + 1) : (initTab P.c P.A P.b).e i c = origRow P i c := by
  unfold Tab.e origRow
  rw [initTab_row P hi, seg3_getD, hA i hi, show (unitV P.m i).length = P.m by simp [unitV]]
  by_cases h1 : c < P.n
  · rw [if_pos h1, if_pos h1]; rfl
  · rw [if_neg h1, if_neg h1]
    by_cases h2 : c < P.n + P.m
    · rw [if_pos h2, if_pos h2, getD_unitV _ _ _ (Nat.sub_lt_left_of_lt_add (Nat.not_lt.mp h1) h2)]
    · rw [if_neg h2, if_neg h2, if_pos (Nat.le_antisymm (Nat.lt_succ_iff.mp hc) (Nat.not_lt.mp h2))]

theorem initTab_oe (P : LP) (c : ℕ) : (initTab P.c P.A P.b).oe c = wbar P c := by
  unfold Tab.oe initTab wbar
  simp only []
  by_cases h1 : c < P.n
  · rw [if_pos h1, List.getD_append _ _ _ _ h1]; rfl
  · rw [if_neg h1, List.getD_append_right _ _ _ _ (by show P.c.length ≤ c; exact not_lt.mp h1)]
    exact getD_replicate_self _ _ _

theorem initTab_bs (P : LP) {i : ℕ} (hi : i < P.m) : (initTab P.c P.A P.b).bs i = P.n + i :=
  (getD_map_range _ _ hi).trans (Nat.add_comm _ _)

theorem initTab_wf (P : LP) (hA : ∀ i < P.m, (P.A.getD i []).length = P.n) :
    (initTab P.c P.A P.b).WF P.m (P.n + P.m + 1) := by
  refine Tab.WF.of_getD ((List.length_map _).trans List.length_range) (fun i hi => ?_) ?_
    ((List.length_map _).trans List.length_range)
  · rw [initTab_row P hi, List.length_append, List.length_append, hA i hi]
    simp [unitV]
  · show (P.c ++ zeros (P.b.length + 1)).length = P.n + P.m + 1
    rw [List.length_append, zeros, List.length_replicate]; rfl

end Solvor.Lp
