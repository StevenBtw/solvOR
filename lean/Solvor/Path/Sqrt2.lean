import Mathlib.Analysis.Real.Sqrt
import Solvor.Path.Lemmas
/-! Path: `ℤ[√2]` — the Bool order of `Model.lean` (comparison by squaring) is the order of the
real numbers `a + b·√2`; hence `Z2` satisfies `OrdW` and the certificate theorems apply to the
grid graphs of `astar_grid`.

All comparisons come down to `y ≤ s` with `s = b·√2` of known sign: for `0 ≤ s` it says `y ≤ 0` or
`y² ≤ s²`, for `s ≤ 0` it says `y ≤ 0` and `s² ≤ y²`; and `s² = 2b²` is rational. -/
namespace Solvor.Path

/-- the real number a pair stands for -/
noncomputable def Z2.ev (x : Z2) : ℝ := (x.a : ℝ) + (x.b : ℝ) * Real.sqrt 2

theorem le_iff_sq_of_nonneg {y s : ℝ} (hs : 0 ≤ s) : y ≤ s ↔ y ≤ 0 ∨ y * y ≤ s * s := by
  rw [← abs_le_iff_mul_self_le, abs_of_nonneg hs]
  exact ⟨fun h => (le_total y 0).imp_right fun hy => by rwa [abs_of_nonneg hy],
    fun h => h.elim (fun hy => hy.trans hs) (le_abs_self y).trans⟩

theorem le_iff_sq_of_nonpos {y s : ℝ} (hs : s ≤ 0) : y ≤ s ↔ y ≤ 0 ∧ s * s ≤ y * y := by
  rw [← abs_le_iff_mul_self_le, abs_of_nonpos hs]
  exact ⟨fun h => ⟨h.trans hs, by rw [abs_of_nonpos (h.trans hs)]; exact neg_le_neg h⟩,
    fun ⟨hy, h⟩ => by rw [abs_of_nonpos hy] at h; exact neg_le_neg_iff.mp h⟩

theorem mul_sqrt2_mul_self (b : ℝ) : b * Real.sqrt 2 * (b * Real.sqrt 2) = 2 * (b * b) := by
  rw [mul_mul_mul_comm, Real.mul_self_sqrt zero_le_two, mul_comm]

theorem le_mul_sqrt2_of_nonneg {y b : ℝ} (hb : 0 ≤ b) :
    y ≤ b * Real.sqrt 2 ↔ y ≤ 0 ∨ y * y ≤ 2 * (b * b) := by
  rw [le_iff_sq_of_nonneg (mul_nonneg hb (Real.sqrt_nonneg 2)), mul_sqrt2_mul_self]

theorem le_mul_sqrt2_of_nonpos {y b : ℝ} (hb : b ≤ 0) :
    y ≤ b * Real.sqrt 2 ↔ y ≤ 0 ∧ 2 * (b * b) ≤ y * y := by
  rw [le_iff_sq_of_nonpos (mul_nonpos_of_nonpos_of_nonneg hb (Real.sqrt_nonneg 2)), mul_sqrt2_mul_self]

theorem mul_sqrt2_le_of_nonneg {y b : ℝ} (hb : 0 ≤ b) :
    b * Real.sqrt 2 ≤ y ↔ 0 ≤ y ∧ 2 * (b * b) ≤ y * y := by
  rw [← neg_le_neg_iff, ← neg_mul, le_mul_sqrt2_of_nonpos (neg_nonpos.mpr hb), neg_mul_neg, neg_mul_neg,
    neg_nonpos]

theorem mul_sqrt2_le_of_nonpos {y b : ℝ} (hb : b ≤ 0) :
    b * Real.sqrt 2 ≤ y ↔ 0 ≤ y ∨ y * y ≤ 2 * (b * b) := by
  rw [← neg_le_neg_iff, ← neg_mul, le_mul_sqrt2_of_nonneg (neg_nonneg.mpr hb), neg_mul_neg, neg_mul_neg,
    neg_nonpos]

theorem Z2.nonneg_iff (x : Z2) : Z2.nonneg x = true ↔ 0 ≤ x.ev := by
  rw [Z2.ev, ← neg_le_iff_add_nonneg', Z2.nonneg]
  by_cases hb : 0 ≤ x.b
  · rw [le_mul_sqrt2_of_nonneg (Int.cast_nonneg hb), if_pos hb, if_pos hb, neg_mul_neg, neg_nonpos]
    by_cases ha : 0 ≤ x.a
    · rw [if_pos ha]; exact iff_of_true rfl (Or.inl (Int.cast_nonneg ha))
    · rw [if_neg ha, decide_eq_true_eq, or_iff_right (not_le.mpr (Int.cast_lt_zero.mpr (not_le.mp ha)))]
      norm_cast
  · rw [le_mul_sqrt2_of_nonpos (Int.cast_nonpos.mpr (le_of_not_ge hb)), if_neg hb, if_neg hb, neg_mul_neg,
      neg_nonpos]
    by_cases ha : 0 ≤ x.a
    · rw [if_pos ha, decide_eq_true_eq, and_iff_right (Int.cast_nonneg ha)]
      norm_cast
    · rw [if_neg ha]
      exact iff_of_false Bool.false_ne_true fun h => ha (Int.cast_nonneg_iff.mp h.1)

theorem Z2.ev_add (x y : Z2) : (x + y).ev = x.ev + y.ev := by
  show Z2.ev ⟨x.a + y.a, x.b + y.b⟩ = _
  simp only [Z2.ev]; push_cast; ring

theorem Z2.ev_zero : (0 : Z2).ev = 0 := by
  show Z2.ev ⟨0, 0⟩ = 0
  simp [Z2.ev]

theorem Z2.ev_sub (x y : Z2) : Z2.ev ⟨y.a - x.a, y.b - x.b⟩ = y.ev - x.ev := by
  simp only [Z2.ev, Int.cast_sub]; ring

theorem Z2.le_iff_ev (x y : Z2) : x ≤ y ↔ x.ev ≤ y.ev :=
  (Z2.nonneg_iff _).trans (by rw [Z2.ev_sub, sub_nonneg])

instance : OrdW Z2 where
  le_refl := fun a => (Z2.le_iff_ev a a).mpr (le_refl _)
  le_trans := fun h1 h2 => (Z2.le_iff_ev _ _).mpr (le_trans ((Z2.le_iff_ev _ _).mp h1) ((Z2.le_iff_ev _ _).mp h2))
  add_le_add_right := fun c h => by
    rw [Z2.le_iff_ev, Z2.ev_add, Z2.ev_add]
    exact add_le_add_left ((Z2.le_iff_ev _ _).mp h) _
  add_assoc := fun a b c => congrArg₂ Z2.mk (Int.add_assoc ..) (Int.add_assoc ..)
  zero_add := fun a => congrArg₂ Z2.mk (Int.zero_add _) (Int.zero_add _)
  add_zero := fun a => congrArg₂ Z2.mk (Int.add_zero _) (Int.add_zero _)

theorem ratLeSqrt2_iff (y : Rat) (b : Int) : ratLeSqrt2 y b = true ↔ (y : ℝ) ≤ (b : ℝ) * Real.sqrt 2 := by
  unfold ratLeSqrt2
  split
  · next hb =>
    rw [le_mul_sqrt2_of_nonneg (Int.cast_nonneg hb), Bool.or_eq_true, decide_eq_true_eq, decide_eq_true_eq]
    norm_cast
  · next hb =>
    rw [le_mul_sqrt2_of_nonpos (Int.cast_nonpos.mpr (le_of_not_ge hb)), Bool.and_eq_true, decide_eq_true_eq,
      decide_eq_true_eq]
    norm_cast

theorem sqrt2LeRat_iff (b : Int) (y : Rat) : sqrt2LeRat b y = true ↔ (b : ℝ) * Real.sqrt 2 ≤ (y : ℝ) := by
  unfold sqrt2LeRat
  split
  · next hb =>
    rw [mul_sqrt2_le_of_nonneg (Int.cast_nonneg hb), Bool.and_eq_true, decide_eq_true_eq, decide_eq_true_eq]
    norm_cast
  · next hb =>
    rw [mul_sqrt2_le_of_nonpos (Int.cast_nonpos.mpr (le_of_not_ge hb)), Bool.or_eq_true, decide_eq_true_eq,
      decide_eq_true_eq]
    norm_cast

theorem abs_sub_div_le_iff {c e s T : ℝ} (hs : 0 < s) : |c - e / s| ≤ T ↔ |c * s - e| ≤ T * s := by
  rw [← mul_le_mul_iff_of_pos_right hs, ← abs_of_pos hs, ← abs_mul, abs_of_pos hs, sub_mul,
    div_mul_cancel₀ _ hs.ne']

theorem abs_sub_le_iff_bounds {x w t : ℝ} : |x - w| ≤ t ↔ x - t ≤ w ∧ w ≤ x + t :=
  abs_sub_le_iff.trans (and_congr sub_le_comm sub_le_iff_le_add')

end Solvor.Path
