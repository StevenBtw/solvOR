import Solvor.Path.BFAcyc
/-! Path: `n - 1` rounds of Bellman-Ford suffice (`rounds_suffice`): if no negative cycle is reachable they leave no
relaxable edge, because `k` rounds bound every walk of at most `k` edges and walks are shortened to at most `n - 1` edges
by removing non-negative cycles.  Hence `bf_unbounded_neg_cycle`, the direction of `bf_rounds_bound` that counts rounds. -/
namespace Solvor.Path

inductive WalkL (E : List (Edge Int)) : Nat → Nat → List (Edge Int) → Prop
  | nil (u : Nat) : WalkL E u u []
  | cons {u v t : Nat} {w : Int} {es : List (Edge Int)} : (u, v, w) ∈ E → WalkL E v t es →
      WalkL E u t ((u, v, w) :: es)

def wsum (es : List (Edge Int)) : Int := (es.map (·.2.2)).sum

/-- the nodes visited, start included -/
def nodesOf (u : Nat) (es : List (Edge Int)) : List Nat := u :: es.map (·.2.1)

theorem nodesOf_cons (u u' v : Nat) (w : Int) (es : List (Edge Int)) :
    nodesOf u ((u', v, w) :: es) = u :: nodesOf v es := rfl

theorem wsum_append (a b : List (Edge Int)) : wsum (a ++ b) = wsum a + wsum b := by
  simp [wsum, List.sum_append]

theorem wsum_single (e : Edge Int) : wsum [e] = e.2.2 := by simp [wsum]

theorem wsum_cons (e : Edge Int) (a : List (Edge Int)) : wsum (e :: a) = e.2.2 + wsum a := by
  simp [wsum]

theorem WalkL.walk {E : List (Edge Int)} {u t : Nat} {es : List (Edge Int)} (h : WalkL E u t es) :
    Walk E u t (wsum es) := by
  induction h with
  | nil u => exact Walk.nil u
  | cons he _ ih => rw [wsum_cons]; exact Walk.cons he ih

theorem Walk.toL {E : List (Edge Int)} {u t : Nat} {c : Int} (h : Walk E u t c) :
    ∃ es, WalkL E u t es ∧ wsum es = c := by
  induction h with
  | nil u => exact ⟨[], WalkL.nil u, rfl⟩
  | cons he _ ih =>
    obtain ⟨es, h1, h2⟩ := ih
    exact ⟨_ :: es, WalkL.cons he h1, by rw [wsum_cons, h2]⟩

theorem WalkL.append {E : List (Edge Int)} {u v t : Nat} {a b : List (Edge Int)} (h1 : WalkL E u v a)
    (h2 : WalkL E v t b) : WalkL E u t (a ++ b) := by
  induction h1 with
  | nil u => exact h2
  | cons he _ ih => exact WalkL.cons he (ih h2)

theorem WalkL.snoc_cases {E : List (Edge Int)} {u t : Nat} {es : List (Edge Int)} (h : WalkL E u t es) :
    es = [] ∧ u = t ∨ ∃ es0 x w, es = es0 ++ [(x, t, w)] ∧ WalkL E u x es0 ∧ (x, t, w) ∈ E := by
  induction h with
  | nil u => left; exact ⟨rfl, rfl⟩
  | @cons u v t w es he hw ih =>
    right
    rcases ih with ⟨h1, h2⟩ | ⟨es0, x, w', h1, h2, h3⟩
    · subst h1; subst h2
      exact ⟨[], u, w, rfl, WalkL.nil u, he⟩
    · exact ⟨(u, v, w) :: es0, x, w', by rw [h1]; rfl, WalkL.cons he h2, h3⟩

theorem WalkL.split {E : List (Edge Int)} {u t : Nat} {es : List (Edge Int)} (h : WalkL E u t es) {x : Nat}
    (hx : x ∈ nodesOf u es) : ∃ a b, es = a ++ b ∧ WalkL E u x a ∧ WalkL E x t b := by
  induction h with
  | nil u =>
    simp [nodesOf] at hx; subst hx
    exact ⟨[], [], rfl, WalkL.nil _, WalkL.nil _⟩
  | @cons u v t w es he hw ih =>
    by_cases hxu : x = u
    · subst hxu
      exact ⟨[], _, rfl, WalkL.nil _, WalkL.cons he hw⟩
    · rw [nodesOf_cons] at hx
      obtain ⟨a, b, h1, h2, h3⟩ := ih ((List.mem_cons.mp hx).resolve_left hxu)
      exact ⟨(u, v, w) :: a, b, by rw [h1]; rfl, WalkL.cons he h2, h3⟩

theorem nodesOf_lt {E : List (Edge Int)} {n : Nat} (hE : ∀ e ∈ E, e.2.1 < n) {u t : Nat} {es : List (Edge Int)}
    (h : WalkL E u t es) (hu : u < n) : ∀ x ∈ nodesOf u es, x < n := by
  induction h with
  | nil u => intro x hx; simp [nodesOf] at hx; subst hx; exact hu
  | @cons u v t w es he hw ih =>
    intro x hx
    rw [nodesOf_cons] at hx
    rcases List.mem_cons.mp hx with h | h
    · rw [h]; exact hu
    · exact ih (hE _ he) x h

theorem nodesOf_reach {E : List (Edge Int)} {u t : Nat} {es : List (Edge Int)} (h : WalkL E u t es) :
    ∀ x ∈ nodesOf u es, Reach E u x := by
  intro x hx
  obtain ⟨a, _, _, h2, _⟩ := h.split hx
  exact ⟨_, h2.walk⟩

theorem WalkL.shorten1 {E : List (Edge Int)} {u t : Nat} {es : List (Edge Int)} (h : WalkL E u t es)
    (hnn : ∀ x ∈ nodesOf u es, ∀ c, Walk E x x c → 0 ≤ c) (hdup : ¬ (nodesOf u es).Nodup) :
    ∃ es', WalkL E u t es' ∧ es'.length < es.length ∧ wsum es' ≤ wsum es := by
  induction h with
  | nil u => simp [nodesOf] at hdup
  | @cons u v t w es he hw ih =>
    rw [nodesOf_cons, List.nodup_cons] at hdup
    by_cases hu : u ∈ nodesOf v es
    · obtain ⟨a, b, h1, h2, h3⟩ := hw.split hu
      have hcyc : Walk E u u (wsum ((u, v, w) :: a)) := (WalkL.cons he h2).walk
      have h0 := hnn u (by rw [nodesOf_cons]; exact List.mem_cons_self) _ hcyc
      refine ⟨b, h3, by rw [h1]; simp; omega, ?_⟩
      rw [wsum_cons, h1, wsum_append]
      rw [wsum_cons] at h0
      simp only at h0 ⊢
      omega
    · have hd' : ¬ (nodesOf v es).Nodup := fun h => hdup ⟨hu, h⟩
      obtain ⟨es', h1, h2, h3⟩ := ih (fun x hx => hnn x (by rw [nodesOf_cons]; exact List.mem_cons_of_mem _ hx)) hd'
      exact ⟨(u, v, w) :: es', WalkL.cons he h1, by simp; omega, by rw [wsum_cons, wsum_cons]; omega⟩

theorem WalkL.shorten {E : List (Edge Int)} {n : Nat} (hE : ∀ e ∈ E, e.2.1 < n) :
    ∀ (k : Nat) {u t : Nat} {es : List (Edge Int)}, es.length ≤ k → WalkL E u t es → u < n →
      NoNegCycle E u →
      ∃ es', WalkL E u t es' ∧ es'.length + 1 ≤ n ∧ wsum es' ≤ wsum es := by
  intro k
  induction k with
  | zero =>
    intro u t es hk h hu _
    have : es = [] := List.eq_nil_of_length_eq_zero (by omega)
    subst this
    exact ⟨[], h, by simp; omega, Int.le_refl _⟩
  | succ k ih =>
    intro u t es hk h hu hnn
    by_cases hlen : es.length + 1 ≤ n
    · exact ⟨es, h, hlen, Int.le_refl _⟩
    · have hdup : ¬ (nodesOf u es).Nodup := by
        intro hnd
        have := nodup_length_le hnd (nodesOf_lt hE h hu)
        simp [nodesOf] at this
        omega
      obtain ⟨es1, h1, h2, h3⟩ := h.shorten1 (fun x hx => hnn x (nodesOf_reach h x hx)) hdup
      obtain ⟨es', h4, h5, h6⟩ := ih (by omega) h1 hu hnn
      exact ⟨es', h4, h5, by omega⟩

theorem sweep_spec {n : Nat} (E : List (Edge Int)) (st : BFSt) (hlen : st.dist.length = n) :
    TabLe st.dist (bfRound E st).1.dist ∧
      ∀ e ∈ E, e.2.1 < n → ∀ du, look st.dist e.1 = some du →
        ∃ dv, look (bfRound E st).1.dist e.2.1 = some dv ∧ dv ≤ du + e.2.2 := by
  refine (fold_decreasing (fun a b : BFSt × Bool => TabLe a.1.dist b.1.dist) (fun a => TabLe.refl _) TabLe.trans
    (I := fun acc => acc.1.dist.length = n) (ok := fun _ => True)
    (Q := fun e a b => e.2.1 < n → ∀ du, look a.1.dist e.1 = some du → ∃ dv, look b.1.dist e.2.1 = some dv ∧ dv ≤ du + e.2.2)
    (hstep := fun acc e _ hlen => ?_) (hpost := fun e a b c h hm hvn du hdu => ?_)
    (hpre := fun e a a1 b hm h hvn du hdu => ?_) E (st, false) (fun _ _ => trivial) hlen).2
  · by_cases hr : relaxable acc.1.dist e = true
    · rw [if_pos hr]
      obtain ⟨du, hdu, _⟩ := relaxable_iff.mp hr
      refine ⟨by rw [relax_eq hdu, List.length_set]; exact hlen, relax_mono hr, fun hvn du' hdu' => ?_⟩
      rw [hdu] at hdu'; cases hdu'
      exact ⟨du + e.2.2, by rw [relax_eq hdu]; exact look_set_eq _ _ _ (by rw [hlen]; exact hvn), Int.le_refl _⟩
    · rw [if_neg hr]
      exact ⟨hlen, TabLe.refl _, fun _ du hdu => not_relaxable ((Bool.not_eq_true _).mp hr) hdu⟩
  · obtain ⟨dv, hdv, hle⟩ := h hvn du hdu
    obtain ⟨dv', hdv', hle'⟩ := hm _ dv hdv
    exact ⟨dv', hdv', Int.le_trans hle' hle⟩
  · obtain ⟨du1, hdu1, l1⟩ := hm _ du hdu
    obtain ⟨dv, hdv, hle⟩ := h hvn du1 hdu1
    exact ⟨dv, hdv, Int.le_trans hle (Int.add_le_add_right l1 _)⟩

theorem fold_no_update (L : List (Edge Int)) : ∀ (acc : BFSt × Bool),
    (L.foldl (fun (acc : BFSt × Bool) e =>
      if relaxable acc.1.dist e then (relax acc.1 e, true) else acc) acc).2 = false →
    acc.2 = false ∧ (L.foldl (fun (acc : BFSt × Bool) e =>
      if relaxable acc.1.dist e then (relax acc.1 e, true) else acc) acc).1 = acc.1 ∧
      ∀ e ∈ L, relaxable acc.1.dist e = false := by
  induction L with
  | nil => intro acc h; exact ⟨h, rfl, by simp⟩
  | cons e L ih =>
    intro acc h
    rw [List.foldl_cons] at h ⊢
    by_cases hr : relaxable acc.1.dist e = true
    · simp only [hr, if_true] at h
      have := (ih _ h).1
      cases this
    · simp only [hr] at h ⊢
      obtain ⟨h1, h2, h3⟩ := ih acc h
      refine ⟨h1, h2, ?_⟩
      intro e' he'
      rcases List.mem_cons.mp he' with h' | h'
      · rw [h']; simpa using hr
      · exact h3 e' h'

def Bounded (E : List (Edge Int)) (s k : Nat) (st : BFSt) : Prop :=
  ∀ v es, WalkL E s v es → es.length ≤ k → ∃ d, look st.dist v = some d ∧ d ≤ wsum es

theorem bounded_round {E : List (Edge Int)} {n s k : Nat} (hE : ∀ e ∈ E, e.2.1 < n) {st : BFSt}
    (inv : BFInv E n s st) (hb : Bounded E s k st) : Bounded E s (k + 1) (bfRound E st).1 := by
  intro v es hw hlen
  rcases hw.snoc_cases with ⟨h1, h2⟩ | ⟨es0, x, w, h1, h2, h3⟩
  · subst h1; subst h2
    obtain ⟨c0, hc0, hle⟩ := inv.start
    obtain ⟨d', hd', hl⟩ := (sweep_spec E st inv.len_d).1 s c0 hc0
    exact ⟨d', hd', by simp [wsum]; omega⟩
  · subst h1
    have hl0 : es0.length ≤ k := by simp at hlen; omega
    obtain ⟨du, hdu, hle⟩ := hb x es0 h2 hl0
    obtain ⟨dv, hdv, hle2⟩ := (sweep_spec E st inv.len_d).2 (x, v, w) h3 (hE _ h3) du hdu
    refine ⟨dv, hdv, ?_⟩
    rw [wsum_append, wsum_single]
    simp only at hle2 ⊢
    omega

/-- `k` more rounds bound the walks of `k` more edges, unless a round changed nothing and the loop left early: then no edge
is relaxable any more -/
theorem bounded_rounds {E : List (Edge Int)} {n s : Nat} (hE : ∀ e ∈ E, e.2.1 < n) :
    ∀ (k k0 : Nat) (st : BFSt), BFInv E n s st → Bounded E s k0 st →
      E.any (relaxable (bfRounds E k st).dist) = false ∨ Bounded E s (k0 + k) (bfRounds E k st) := by
  intro k
  induction k with
  | zero => intro k0 st _ hb; right; exact hb
  | succ k ih =>
    intro k0 st inv hb
    simp only [bfRounds]
    have inv1 : BFInv E n s (bfRound E st).1 := bfRound_inv _ (fun _ _ he inv hr => bfInv_relax inv he hr) st inv
    by_cases hu : (bfRound E st).2 = true
    · simp only [hu, if_true]
      have := ih (k0 + 1) _ inv1 (bounded_round hE inv hb)
      rcases this with h | h
      · left; exact h
      · right; rw [show k0 + (k + 1) = k0 + 1 + k by omega]; exact h
    · have hu' : (bfRound E st).2 = false := by simpa using hu
      rw [if_neg hu]
      left
      obtain ⟨_, h2, h3⟩ := fold_no_update E (st, false) hu'
      have h2' : (bfRound E st).1 = st := h2
      rw [h2']
      exact List.any_eq_false.mpr fun e he => by rw [h3 e he]; exact Bool.false_ne_true

theorem rounds_suffice {E : List (Edge Int)} {n s : Nat} (hs : s < n) (hE : ∀ e ∈ E, e.2.1 < n) (hnn : NoNegCycle E s) :
    E.any (relaxable (bfRounds E (n - 1) (bfInit n s)).dist) = false := by
  have inv := bfInv_rounds (E := E) (n - 1) (bfInit n s) (bfInv_init E hs)
  have hb0 : Bounded E s 0 (bfInit n s) := by
    intro v es hw hlen
    have : es = [] := List.eq_nil_of_length_eq_zero (by omega)
    subst this
    cases hw
    obtain ⟨c0, hc0, hle⟩ := (bfInv_init E hs).start
    exact ⟨c0, hc0, by simp [wsum]; exact hle⟩
  rcases bounded_rounds hE (n - 1) 0 (bfInit n s) (bfInv_init E hs) hb0 with h | hb
  · exact h
  · -- a relaxable edge at the end of the walk behind its tail's entry: shortened, that walk is bounded by the head's entry
    refine List.any_eq_false.mpr fun e he hr => ?_
    obtain ⟨du, hdu, hcase⟩ := relaxable_iff.mp hr
    obtain ⟨es, hes, hsum⟩ := (inv.real e.1 du hdu).toL
    have hw : WalkL E s e.2.1 (es ++ [(e.1, e.2.1, e.2.2)]) :=
      hes.append (WalkL.cons (by simpa using he) (WalkL.nil _))
    obtain ⟨es', h1, h2, h3⟩ := WalkL.shorten hE _ (Nat.le_refl _) hw hs hnn
    have hl' : es'.length ≤ 0 + (n - 1) := by omega
    obtain ⟨dv, hdv, hle⟩ := hb e.2.1 es' h1 hl'
    rw [wsum_append, hsum, wsum_single] at h3
    dsimp only at h3
    rcases hcase with h0 | ⟨dv', h4, h5⟩
    · rw [hdv] at h0; cases h0
    · rw [hdv] at h4; cases h4; omega

theorem bf_unbounded_neg_cycle {E : List (Edge Int)} {n s : Nat} (target : Option Nat) (hs : s < n)
    (hE : ∀ e ∈ E, e.2.1 < n) (hu : (bellmanFord n E s target).status = .UNBOUNDED) :
    ∃ x c, Reach E s x ∧ Walk E x x c ∧ c < 0 := by
  apply Classical.byContradiction
  intro hno
  have hnn : NoNegCycle E s := by
    intro x hx c hc
    apply Classical.byContradiction
    intro hneg
    exact hno ⟨x, c, hx, hc, by omega⟩
  rw [bellmanFord, bfFinish_quiet target (rounds_suffice hs hE hnn) (no_par_cycle hs hnn)] at hu
  cases target with
  | none => cases hu
  | some t =>
    dsimp only at hu
    split at hu <;> cases hu

end Solvor.Path
