import Solvor.Path.Lemmas
/-! Path: the BFS / DFS mirror (`searchLoop`): the parent tree and the tree invariant through one scan of an adjacency
list, the BFS layering, and what the loop and the call return. -/
namespace Solvor.Path

theorem mem_succOf {W : Type} {E : List (Edge W)} {u v : Nat} :
    v ∈ succOf E u ↔ ∃ w, (u, v, w) ∈ E := by
  simp only [succOf, List.mem_map]
  exact ⟨fun ⟨⟨_, w⟩, h, e⟩ => ⟨w, mem_adjOf.mp (e ▸ h)⟩, fun ⟨w, h⟩ => ⟨(v, w), mem_adjOf.mpr h, rfl⟩⟩

theorem mem_unitE {W : Type} {E : List (Edge W)} {u v : Nat} {w : W} (h : (u, v, w) ∈ E) :
    (u, v, (1 : Int)) ∈ unitE E := by
  simp only [unitE, List.mem_map]
  exact ⟨(u, v, w), h, rfl⟩

theorem unitE_weight {W : Type} {E : List (Edge W)} {e : Edge Int} (h : e ∈ unitE E) :
    e.2.2 = 1 ∧ ∃ w, (e.1, e.2.1, w) ∈ E := by
  simp only [unitE, List.mem_map] at h
  obtain ⟨⟨a, b, c⟩, hm, rfl⟩ := h
  exact ⟨rfl, c, hm⟩

theorem edgeCost_unitE {W : Type} {E : List (Edge W)} {u v : Nat} {w : W} (h : (u, v, w) ∈ E) :
    edgeCost (unitE E) u v = some 1 := by
  obtain ⟨m, hm, _, hmm⟩ := edgeCost_min (mem_unitE h)
  have := (unitE_weight hmm).1
  simp only at this
  rw [hm, this]

section search
variable {W : Type} (E : List (Edge W)) (n s : Nat) (isGoal : Nat → Bool)

/-- `Chain E s par V v k`: following `par` from `v` reaches `s` after `k` steps, every step
being an edge of `E` and every node on the way lying in `V`. -/
inductive Chain (par : Tab Nat) (V : List Nat) : Nat → Nat → Prop
  | root : look par s = none → s ∈ V → Chain par V s 0
  | step {u v k : Nat} {w : W} : look par v = some u → (u, v, w) ∈ E → v ∈ V → Chain par V u k →
      Chain par V v (k + 1)

variable {E n s isGoal}

theorem Chain.mem {par : Tab Nat} {V : List Nat} {v k : Nat} (h : Chain E s par V v k) : v ∈ V := by
  cases h with
  | root _ h => exact h
  | step _ _ h _ => exact h

theorem Chain.extend {par : Tab Nat} {V : List Nat} {v k : Nat} (h : Chain E s par V v k) (nb : Nat)
    (x : Option Nat) (hnb : nb ∉ V) : Chain E s (par.set nb x) (nb :: V) v k := by
  induction h with
  | root h0 hs =>
    refine Chain.root ?_ (List.mem_cons_of_mem _ hs)
    rw [look_set_ne _ _ _ _ (fun e => hnb (by rw [e]; exact hs))]; exact h0
  | step hp he hv _ ih =>
    refine Chain.step ?_ he (List.mem_cons_of_mem _ hv) ih
    rw [look_set_ne _ _ _ _ (fun e => hnb (by rw [e]; exact hv))]; exact hp

theorem Chain.trail {par : Tab Nat} {V : List Nat} {v k : Nat} (h : Chain E s par V v k) :
    Trail (unitE E) s par v (k : Int) k := by
  induction h with
  | root h0 _ => exact Trail.root h0
  | step hp he _ _ ih => rw [Int.natCast_succ]; exact Trail.step hp (edgeCost_unitE he) ih

theorem Chain.unique {par : Tab Nat} {V : List Nat} {v k k' : Nat} (h : Chain E s par V v k)
    (h' : Chain E s par V v k') : k = k' := by
  induction h generalizing k' with
  | root h0 _ =>
    cases h' with
    | root _ _ => rfl
    | step hp _ _ _ => rw [h0] at hp; cases hp
  | step hp _ _ _ ih =>
    cases h' with
    | root h0 _ => rw [h0] at hp; cases hp
    | step hp' _ _ hc' =>
      rw [hp] at hp'; cases hp'
      rw [ih hc']

theorem Chain.walk {par : Tab Nat} {V : List Nat} {v k : Nat} (h : Chain E s par V v k) :
    Walk (unitE E) s v (k : Int) := by
  induction h with
  | root _ _ => exact Walk.nil s
  | step _ he _ _ ih =>
    have := Walk.snoc ih (mem_unitE he)
    rw [Int.natCast_succ]; exact this

/-- both `for neighbor in neighbors(current)` bodies, the frontier update being `push` -/
def discW (push : List Nat → Nat → List Nat) (cur : Nat) (st : SSt) (nb : Nat) : SSt :=
  if st.visited.contains nb then st
  else ⟨nb :: st.visited, st.parent.set nb (some cur), push st.frontier nb⟩

theorem bfsDiscover_eq : bfsDiscover = discW (fun fr nb => fr ++ [nb]) := rfl
theorem dfsDiscover_eq : dfsDiscover = discW (fun fr nb => nb :: fr) := rfl

structure PushOK (push : List Nat → Nat → List Nat) : Prop where
  mem : ∀ fr nb x, x ∈ push fr nb ↔ x ∈ fr ∨ x = nb
  nodup : ∀ fr nb, fr.Nodup → nb ∉ fr → (push fr nb).Nodup
  len : ∀ fr nb, (push fr nb).length = fr.length + 1

theorem pushOK_bfs : PushOK (fun fr nb => fr ++ [nb]) where
  mem := by intro fr nb x; simp
  nodup := by
    intro fr nb h hn
    rw [List.nodup_append]
    refine ⟨h, by simp, ?_⟩
    intro a ha b hb
    simp at hb; subst hb
    exact fun e => hn (e ▸ ha)
  len := by intro fr nb; simp

theorem pushOK_dfs : PushOK (fun fr nb => nb :: fr) where
  mem := by intro fr nb x; simp [or_comm]
  nodup := by intro fr nb h hn; exact List.nodup_cons.mpr ⟨hn, h⟩
  len := by intro fr nb; simp

/-- the invariant may mention the remaining fuel -/
theorem searchLoop_rule (disc : Nat → SSt → Nat → SSt) (succ : Nat → List Nat) (I : Nat → SSt → Prop)
    (hstep : ∀ k st cur rest, I (k + 1) st → st.frontier = cur :: rest → isGoal cur = false →
      I k ((succ cur).foldl (disc cur) { st with frontier := rest })) :
    ∀ (fuel : Nat) (st : SSt), I fuel st →
      match searchLoop disc succ isGoal fuel st with
      | .found cur st' => ∃ k st0 rest, I k st0 ∧ st0.frontier = cur :: rest ∧ isGoal cur = true ∧
          st' = { st0 with frontier := rest }
      | .exhausted st' => (∃ k, I k st') ∧ st'.frontier = []
      | .cutoff st' => I 0 st' := by
  intro fuel
  induction fuel with
  | zero => intro st hI; exact hI
  | succ k ih =>
    intro st hI
    unfold searchLoop
    cases hf : st.frontier with
    | nil => exact ⟨⟨_, hI⟩, hf⟩
    | cons cur rest =>
      dsimp only
      by_cases hg : isGoal cur = true
      · rw [if_pos hg]
        exact ⟨_, st, rest, hI, hf, hg, rfl⟩
      · rw [if_neg hg]
        exact ih _ (hstep k st cur rest hI hf ((Bool.not_eq_true _).mp hg))

/-- The tree invariant shared by BFS and DFS.  `ex` marks the node whose adjacency list is being
scanned (its out-edges are not all handled yet). -/
structure SInvG (E : List (Edge W)) (n s : Nat) (isGoal : Nat → Bool) (ex : Nat → Prop) (st : SSt) : Prop where
  plen : st.parent.length = n
  s_vis : s ∈ st.visited
  vis_lt : ∀ v ∈ st.visited, v < n
  nodup : st.visited.Nodup
  fr_nodup : st.frontier.Nodup
  fr_vis : ∀ v ∈ st.frontier, v ∈ st.visited
  chain : ∀ v ∈ st.visited, ∃ k, Chain E s st.parent st.visited v k ∧ k < st.visited.length
  closed : ∀ u ∈ st.visited, u ∉ st.frontier → ¬ ex u → ∀ e ∈ E, e.1 = u → e.2.1 ∈ st.visited
  nongoal : ∀ u ∈ st.visited, u ∉ st.frontier → isGoal u = false

abbrev SInv (E : List (Edge W)) (n s : Nat) (isGoal : Nat → Bool) (st : SSt) : Prop :=
  SInvG E n s isGoal (fun _ => False) st

theorem sinv_closed {st : SSt} (inv : SInv E n s isGoal st) {u : Nat} (hu : u ∈ st.visited) (hf : u ∉ st.frontier)
    {e : Edge W} (he : e ∈ E) (heu : e.1 = u) : e.2.1 ∈ st.visited :=
  inv.closed u hu hf (fun h => h) e he heu

/-- `cur` has been popped (it is visited) and its adjacency list is being scanned -/
structure Scanning (E : List (Edge W)) (n s : Nat) (isGoal : Nat → Bool) (ex : Nat → Prop) (cur : Nat) (st : SSt) :
    Prop where
  inv : SInvG E n s isGoal ex st
  vis : cur ∈ st.visited

theorem sinv_init (hs : s < n) : SInv E n s isGoal (searchInit n s) := by
  refine {
    plen := by simp [searchInit, Tab.empty]
    s_vis := by simp [searchInit]
    nodup := by simp [searchInit]
    fr_nodup := by simp [searchInit]
    fr_vis := by simp [searchInit]
    vis_lt := ?vis_lt, chain := ?chain, closed := ?closed, nongoal := ?nongoal }
  case vis_lt => intro v hv; simp [searchInit] at hv; omega
  case chain =>
    intro v hv
    simp [searchInit] at hv; subst hv
    exact ⟨0, Chain.root (look_empty _ _) (by simp [searchInit]), by simp [searchInit]⟩
  case closed => intro u hu hnf; simp [searchInit] at hu hnf; exact absurd hu hnf
  case nongoal => intro u hu hnf; simp [searchInit] at hu hnf; exact absurd hu hnf

variable {push : List Nat → Nat → List Nat}

/-- how scanning changes the state: visited set and frontier grow, by the same nodes -/
structure Grow (st st' : SSt) : Prop where
  vis : ∀ v ∈ st.visited, v ∈ st'.visited
  len : st'.visited.length + st.frontier.length = st.visited.length + st'.frontier.length
  fr : ∀ v ∈ st.frontier, v ∈ st'.frontier
  new : ∀ v ∈ st'.visited, v ∉ st.visited → v ∈ st'.frontier

theorem Grow.refl (st : SSt) : Grow st st := ⟨fun _ h => h, rfl, fun _ h => h, fun _ h h' => absurd h h'⟩

theorem Grow.trans {a b c : SSt} (h1 : Grow a b) (h2 : Grow b c) : Grow a c :=
  ⟨fun v h => h2.vis v (h1.vis v h), by have := h1.len; have := h2.len; omega, fun v h => h2.fr v (h1.fr v h),
    fun v hv hn => (Decidable.em (v ∈ b.visited)).elim (fun h => h2.fr v (h1.new v h hn)) (h2.new v hv)⟩

theorem disc_step (hp : PushOK push) (hE : ∀ e ∈ E, e.2.1 < n) {ex : Nat → Prop} {cur : Nat} (st : SSt) (nb : Nat)
    (he : ∃ w, (cur, nb, w) ∈ E) (h : Scanning E n s isGoal ex cur st) :
    Scanning E n s isGoal ex cur (discW push cur st nb) ∧
      Grow st (discW push cur st nb) ∧ nb ∈ (discW push cur st nb).visited := by
  obtain ⟨inv, hcv⟩ := h
  obtain ⟨w, he⟩ := he
  unfold discW
  by_cases hv : st.visited.contains nb = true
  · rw [if_pos hv]
    exact ⟨⟨inv, hcv⟩, Grow.refl st, List.contains_iff_mem.mp hv⟩
  · have hnv : nb ∉ st.visited := fun h => hv (List.contains_iff_mem.mpr h)
    rw [if_neg hv]
    have hnbn : nb < n := hE _ he
    have hnf : nb ∉ st.frontier := fun h => hnv (inv.fr_vis nb h)
    have hout : ∀ u, u ∉ push st.frontier nb → u ∉ st.frontier ∧ u ≠ nb := fun u huf =>
      ⟨fun h => huf ((hp.mem _ _ _).mpr (Or.inl h)), fun h => huf ((hp.mem _ _ _).mpr (Or.inr h))⟩
    refine ⟨{
      inv := {
        plen := by rw [List.length_set]; exact inv.plen
        s_vis := List.mem_cons_of_mem _ inv.s_vis
        nodup := List.nodup_cons.mpr ⟨hnv, inv.nodup⟩
        fr_nodup := hp.nodup _ _ inv.fr_nodup hnf
        vis_lt := ?vis_lt, fr_vis := ?fr_vis, chain := ?chain, closed := ?closed, nongoal := ?nongoal }
      vis := List.mem_cons_of_mem _ hcv },
      { vis := fun v h => List.mem_cons_of_mem _ h, fr := fun v h => (hp.mem _ _ _).mpr (Or.inl h), len := ?len, new := ?new },
      List.mem_cons_self⟩
    case vis_lt =>
      intro v hv'
      rcases List.mem_cons.mp hv' with h | h
      · rw [h]; exact hnbn
      · exact inv.vis_lt v h
    case fr_vis =>
      intro v hv'
      rcases (hp.mem _ _ _).mp hv' with h | h
      · exact List.mem_cons_of_mem _ (inv.fr_vis v h)
      · rw [h]; exact List.mem_cons_self
    case chain =>
      intro v hv'
      rcases List.mem_cons.mp hv' with h | h
      · subst h
        -- the chain of `nb` is that of `cur` and the edge `he`; every old chain survives, as `nb` was unvisited
        obtain ⟨k, hk, hkl⟩ := inv.chain cur hcv
        exact ⟨k + 1, Chain.step (look_set_eq _ _ _ (by rw [inv.plen]; exact hnbn)) he List.mem_cons_self
          (hk.extend v _ hnv), Nat.succ_lt_succ hkl⟩
      · obtain ⟨k, hk, hkl⟩ := inv.chain v h
        exact ⟨k, hk.extend nb _ hnv, Nat.lt_succ_of_lt hkl⟩
    case closed =>
      intro u hu huf hex e he' heu
      rcases List.mem_cons.mp hu with h | h
      · exact absurd h (hout u huf).2
      · exact List.mem_cons_of_mem _ (inv.closed u h (hout u huf).1 hex e he' heu)
    case nongoal =>
      intro u hu huf
      rcases List.mem_cons.mp hu with h | h
      · exact absurd h (hout u huf).2
      · exact inv.nongoal u h (hout u huf).1
    case len =>
      show (nb :: st.visited).length + st.frontier.length = st.visited.length + (push st.frontier nb).length
      rw [List.length_cons, hp.len]; omega
    case new =>
      intro v hv' hnv'
      rcases List.mem_cons.mp hv' with h | h
      · exact (hp.mem _ _ _).mpr (Or.inr h)
      · exact absurd h hnv'

theorem sinv_pop {st : SSt} {cur : Nat} {rest : List Nat} (inv : SInv E n s isGoal st)
    (hf : st.frontier = cur :: rest) (hg : isGoal cur = false) :
    Scanning E n s isGoal (· = cur) cur { st with frontier := rest } := by
  have hnd : (cur :: rest).Nodup := hf ▸ inv.fr_nodup
  have hfr : ∀ u, u ≠ cur → u ∉ rest → u ∉ st.frontier := fun u huc hur h =>
    (List.mem_cons.mp (hf ▸ h)).elim huc hur
  refine {
    inv := { inv with
      fr_nodup := (List.nodup_cons.mp hnd).2
      fr_vis := fun v hv => inv.fr_vis v (hf ▸ List.mem_cons_of_mem _ hv)
      closed := fun u hu hur hex => inv.closed u hu (hfr u hex hur) (fun h => h)
      nongoal := fun u hu hur => ?_ }
    vis := inv.fr_vis cur (hf ▸ List.mem_cons_self) }
  by_cases huc : u = cur
  · rw [huc]; exact hg
  · exact inv.nongoal u hu (hfr u huc hur)

theorem sinv_iter (hp : PushOK push) (hE : ∀ e ∈ E, e.2.1 < n) {st : SSt} {cur : Nat} {rest : List Nat}
    (inv : SInv E n s isGoal st) (hf : st.frontier = cur :: rest) (hg : isGoal cur = false) :
    let st' := (succOf E cur).foldl (discW push cur) { st with frontier := rest }
    SInv E n s isGoal st' ∧ Grow { st with frontier := rest } st' := by
  obtain ⟨⟨i, _⟩, g, m⟩ := fold_decreasing Grow Grow.refl Grow.trans (Q := fun nb _ b => nb ∈ b.visited)
    (hstep := disc_step (ex := (· = cur)) hp hE) (hpost := fun _ _ _ _ h g => g.vis _ h) (hpre := fun _ _ _ _ _ h => h)
    (succOf E cur) { st with frontier := rest } (fun nb h => mem_succOf.mp h) (sinv_pop inv hf hg)
  -- `cur`, exempted while it was scanned, now has all its successors visited
  refine ⟨{ i with closed := ?_ }, g⟩
  intro u hu huf _ e he heu
  by_cases huc : u = cur
  · apply m
    rw [mem_succOf]
    obtain ⟨a, b, c⟩ := e
    simp only at heu
    exact ⟨c, by rw [← huc, ← heu]; exact he⟩
  · exact i.closed u hu huf huc e he heu

end search

section bfs
variable {W : Type} {E : List (Edge W)} {n s : Nat} {isGoal : Nat → Bool}

/-- BFS layering: the queue holds depth-`D` nodes followed by depth-`D+1` nodes, popped nodes have
depth `≤ D` and their out-edges raise the depth by at most one. -/
structure BInv (E : List (Edge W)) (s : Nat) (dep : Nat → Nat) (D : Nat) (st : SSt) : Prop where
  dep_s : dep s = 0
  dchain : ∀ v ∈ st.visited, Chain E s st.parent st.visited v (dep v)
  layer : ∃ A B, st.frontier = A ++ B ∧ (∀ a ∈ A, dep a = D) ∧ (∀ b ∈ B, dep b = D + 1)
  proc_le : ∀ u ∈ st.visited, u ∉ st.frontier → dep u ≤ D
  edge : ∀ u ∈ st.visited, u ∉ st.frontier → ∀ e ∈ E, e.1 = u → dep e.2.1 ≤ dep u + 1

theorem BInv.vis_le {dep : Nat → Nat} {D : Nat} {st : SSt} (b : BInv E s dep D st) :
    ∀ v ∈ st.visited, dep v ≤ D + 1 := by
  intro v hv
  by_cases hf : v ∈ st.frontier
  · obtain ⟨A, B, hAB, hA, hB⟩ := b.layer
    rw [hAB] at hf
    rcases List.mem_append.mp hf with h | h
    · rw [hA v h]; exact Nat.le_succ D
    · exact Nat.le_of_eq (hB v h)
  · exact Nat.le_succ_of_le (b.proc_le v hv hf)

theorem BInv.fr_ge {dep : Nat → Nat} {D : Nat} {st : SSt} (b : BInv E s dep D st) :
    ∀ v ∈ st.frontier, D ≤ dep v := by
  intro v hf
  obtain ⟨A, B, hAB, hA, hB⟩ := b.layer
  rw [hAB] at hf
  rcases List.mem_append.mp hf with h | h
  · exact Nat.le_of_eq (hA v h).symm
  · rw [hB v h]; exact Nat.le_succ D

theorem BInv.bump {dep : Nat → Nat} {D : Nat} {st : SSt} (b : BInv E s dep D st)
    (h : ∀ A B, st.frontier = A ++ B → (∀ a ∈ A, dep a = D) → (∀ b ∈ B, dep b = D + 1) → A = []) :
    BInv E s dep (D + 1) st := by
  obtain ⟨A, B, hAB, hA, hB⟩ := b.layer
  have hAe := h A B hAB hA hB
  subst hAe
  refine .mk (dep_s := b.dep_s) (dchain := b.dchain) (layer := ⟨B, [], by simpa using hAB, hB, by simp⟩)
    (proc_le := ?_) (edge := b.edge)
  intro u hu huf
  exact Nat.le_succ_of_le (b.proc_le u hu huf)

/-- While BFS scans `cur` (depth `D`) every node it discovers has depth `D + 1`, so the depth function `dep'` can be
fixed beforehand (`D + 1` outside the set `V` visited so far): the queue is the rest `A` of the depth-`D` block
followed by depth-`D + 1` nodes. -/
structure BScan (E : List (Edge W)) (n s : Nat) (dep' : Nat → Nat) (D : Nat) (V A : List Nat)
    (cur : Nat) (st : SSt) : Prop where
  plen : st.parent.length = n
  vis : cur ∈ st.visited
  old : ∀ v ∈ V, v ∈ st.visited
  dchain : ∀ v ∈ st.visited, Chain E s st.parent st.visited v (dep' v)
  layer : ∃ B, st.frontier = A ++ B ∧ ∀ b ∈ B, dep' b = D + 1

theorem bfs_disc_step {dep' : Nat → Nat} {D : Nat} {V A : List Nat} {cur : Nat} (hE : ∀ e ∈ E, e.2.1 < n)
    (hnew : ∀ v, v ∉ V → dep' v = D + 1) (hdc : dep' cur = D) (st : SSt) (nb : Nat) (he : ∃ w, (cur, nb, w) ∈ E)
    (h : BScan E n s dep' D V A cur st) : BScan E n s dep' D V A cur (bfsDiscover cur st nb) := by
  unfold bfsDiscover
  by_cases hv : st.visited.contains nb = true
  · rw [if_pos hv]; exact h
  · have hnv : nb ∉ st.visited := fun hm => hv (List.contains_iff_mem.mpr hm)
    have hdn : dep' nb = D + 1 := hnew nb fun hm => hnv (h.old nb hm)
    obtain ⟨w, he⟩ := he
    obtain ⟨B, hfr, hB⟩ := h.layer
    rw [if_neg hv]
    refine .mk (plen := by rw [List.length_set]; exact h.plen) (vis := List.mem_cons_of_mem _ h.vis)
      (old := fun v hm => List.mem_cons_of_mem _ (h.old v hm)) (dchain := fun v hv' => ?_)
      (layer := ⟨B ++ [nb], by rw [hfr, List.append_assoc],
        fun b hb => (List.mem_append.mp hb).elim (hB b) fun hm => List.mem_singleton.mp hm ▸ hdn⟩)
    rcases List.mem_cons.mp hv' with hm | hm
    · rw [hm, hdn]
      exact Chain.step (look_set_eq _ _ _ (by rw [h.plen]; exact hE _ he)) he List.mem_cons_self
        (hdc ▸ (h.dchain cur h.vis).extend nb _ hnv)
    · exact (h.dchain v hm).extend nb _ hnv

/-- the head of the queue has the depth of the first block (after renaming `D` if that block is empty) -/
theorem BInv.head {dep : Nat → Nat} {D : Nat} {st : SSt} {cur : Nat} {rest : List Nat}
    (b : BInv E s dep D st) (hf : st.frontier = cur :: rest) :
    ∃ D0 A' B, BInv E s dep D0 st ∧ rest = A' ++ B ∧ dep cur = D0 ∧ (∀ a ∈ A', dep a = D0) ∧
      (∀ b ∈ B, dep b = D0 + 1) := by
  obtain ⟨A, B, hAB, hA, hB⟩ := b.layer
  cases A with
  | nil =>
    simp only [List.nil_append] at hAB
    have hB' : ∀ x ∈ cur :: rest, dep x = D + 1 := by rw [← hf, hAB]; exact hB
    refine ⟨D + 1, rest, [], ?_, by simp, hB' cur List.mem_cons_self,
      fun a ha => hB' a (List.mem_cons_of_mem _ ha), by simp⟩
    refine .mk (dep_s := b.dep_s) (dchain := b.dchain) (layer := ⟨cur :: rest, [], by simp [hf], hB', by simp⟩)
      (proc_le := ?_) (edge := b.edge)
    intro u hu huf
    exact Nat.le_succ_of_le (b.proc_le u hu huf)
  | cons a A' =>
    rw [hf] at hAB
    simp only [List.cons_append, List.cons.injEq] at hAB
    obtain ⟨h1, h2⟩ := hAB
    subst h1
    exact ⟨D, A', B, b, h2, hA cur List.mem_cons_self, fun a ha => hA a (List.mem_cons_of_mem _ ha), hB⟩

/-- one BFS iteration keeps the layering, for a depth function extended to the nodes discovered in it -/
theorem bfs_iter {dep : Nat → Nat} {D : Nat} (hE : ∀ e ∈ E, e.2.1 < n) {st : SSt} {cur : Nat} {rest : List Nat}
    (inv : SInv E n s isGoal st) (b : BInv E s dep D st) (hf : st.frontier = cur :: rest)
    (hg : isGoal cur = false) :
    ∃ dep' D', BInv E s dep' D' ((succOf E cur).foldl (bfsDiscover cur) { st with frontier := rest }) := by
  obtain ⟨D0, A', B, b0, hrest, hdc, hA', hB⟩ := b.head hf
  have hcv : cur ∈ st.visited := inv.fr_vis cur (hf ▸ List.mem_cons_self)
  have hit := sinv_iter pushOK_bfs hE inv hf hg
  rw [← bfsDiscover_eq] at hit
  obtain ⟨_, g⟩ := hit
  have hrv : ∀ v ∈ rest, v ∈ st.visited := fun v h => inv.fr_vis v (hf ▸ List.mem_cons_of_mem _ h)
  let dep' : Nat → Nat := fun v => if v ∈ st.visited then dep v else D0 + 1
  have ag : ∀ v ∈ st.visited, dep' v = dep v := fun v h => if_pos h
  have nwd : ∀ v, v ∉ st.visited → dep' v = D0 + 1 := fun v h => if_neg h
  have sc := foldl_inv (BScan E n s dep' D0 st.visited A' cur) (l := succOf E cur)
    (b := { st with frontier := rest })
    (.mk (plen := inv.plen) (vis := hcv) (old := fun _ h => h) (dchain := fun v h => ag v h ▸ b0.dchain v h)
      (layer := ⟨B, hrest, fun b hb => (ag b (hrv b (hrest ▸ List.mem_append_right _ hb))).trans (hB b hb)⟩))
    fun t nb hnb => bfs_disc_step hE nwd ((ag cur hcv).trans hdc) t nb (mem_succOf.mp hnb)
  obtain ⟨B', hfr', hB'⟩ := sc.layer
  have s0 : dep' s = 0 := (ag s inv.s_vis).trans b0.dep_s
  have ly : ∃ A B, ((succOf E cur).foldl (bfsDiscover cur) { st with frontier := rest }).frontier = A ++ B ∧
      (∀ a ∈ A, dep' a = D0) ∧ ∀ b ∈ B, dep' b = D0 + 1 :=
    ⟨A', B', hfr', fun a ha => (ag a (hrv a (hrest ▸ List.mem_append_left _ ha))).trans (hA' a ha), hB'⟩
  -- a processed node is `cur` or was processed before
  have old : ∀ u ∈ ((succOf E cur).foldl (bfsDiscover cur) { st with frontier := rest }).visited,
      u ∉ ((succOf E cur).foldl (bfsDiscover cur) { st with frontier := rest }).frontier →
      u ∈ st.visited ∧ (u ≠ cur → u ∉ st.frontier) := fun u hu huf =>
    have hold : u ∈ st.visited := Decidable.byContradiction fun h => huf (g.new u hu h)
    ⟨hold, fun huc h => (List.mem_cons.mp (hf ▸ h)).elim huc fun h => huf (g.fr u h)⟩
  refine ⟨dep', D0, .mk (dep_s := s0) (dchain := sc.dchain) (layer := ly) (proc_le := ?_) (edge := ?_)⟩
  · intro u hu huf
    obtain ⟨hold, hnf⟩ := old u hu huf
    rw [ag u hold]
    by_cases huc : u = cur
    · rw [huc, hdc]; exact Nat.le_refl _
    · exact b0.proc_le u hold (hnf huc)
  · intro u hu huf e he heu
    obtain ⟨hold, hnf⟩ := old u hu huf
    rw [ag u hold]
    by_cases huc : u = cur
    · rw [huc, hdc]
      by_cases hvo : e.2.1 ∈ st.visited
      · rw [ag _ hvo]; exact b0.vis_le _ hvo
      · rw [nwd _ hvo]; exact Nat.le_refl _
    · rw [ag _ (sinv_closed inv hold (hnf huc) he heu)]
      exact b0.edge u hold (hnf huc) e he heu

theorem binv_init (hs : s < n) : BInv E s (fun _ => 0) 0 (searchInit n s) := by
  refine .mk (dep_s := rfl) (dchain := ?_) (layer := ⟨[s], [], by simp [searchInit], by simp, by simp⟩)
    (proc_le := ?_) (edge := ?_)
  · intro v hv
    simp [searchInit] at hv; subst hv
    exact Chain.root (look_empty _ _) (by simp [searchInit])
  · intro u hu huf; simp [searchInit] at hu huf; exact absurd hu huf
  · intro u hu huf; simp [searchInit] at hu huf; exact absurd hu huf

theorem bfs_lower_bound {dep : Nat → Nat} {D : Nat} {st : SSt} {cur : Nat} {rest : List Nat}
    (inv : SInv E n s isGoal st) (b : BInv E s dep D st) (hf : st.frontier = cur :: rest) :
    ∀ t, isGoal t = true → ∀ c, Walk (unitE E) s t c → (dep cur : Int) ≤ c := by
  obtain ⟨D0, A', B, b0, hrest, hdc, hA', hB⟩ := b.head hf
  intro t ht c hw
  -- the depth capped at `dep cur` (and `dep cur` outside the visited set) is a potential
  let f : Nat → Nat := fun v => if v ∈ st.visited then min (dep v) D0 else D0
  have hle : ∀ v, f v ≤ D0 := fun v => by
    simp only [f]; split
    · exact Nat.min_le_right _ _
    · exact Nat.le_refl _
  -- unvisited nodes and queued nodes sit at the cap
  have hcap : ∀ v, (v ∈ st.visited → v ∈ st.frontier) → f v = D0 := by
    intro v hv
    simp only [f]
    split
    · next h => exact Nat.min_eq_right (b0.fr_ge v (hv h))
    · rfl
  have hfe : ∀ e ∈ E, f e.2.1 ≤ f e.1 + 1 := by
    intro e he
    by_cases hu : e.1 ∈ st.visited ∧ e.1 ∉ st.frontier
    · have hed : dep e.2.1 ≤ dep e.1 + 1 := b0.edge _ hu.1 hu.2 e he rfl
      simp only [f, if_pos hu.1, if_pos (sinv_closed inv hu.1 hu.2 he rfl)]
      omega
    · rw [hcap e.1 fun h => Decidable.not_not.mp fun hn => hu ⟨h, hn⟩]
      exact Nat.le_succ_of_le (hle e.2.1)
  have h1 := fn_potential_walk (fun v => (f v : Int)) (fun e he => by
    obtain ⟨h1, _, hm⟩ := unitE_weight he
    rw [h1]
    exact_mod_cast hfe _ hm) hw
  have hs0 : f s = 0 := by simp only [f, if_pos inv.s_vis, b0.dep_s, Nat.zero_min]
  have hft : f t = D0 := hcap t fun hv => Decidable.byContradiction fun htf => by
    have := inv.nongoal t hv htf
    rw [ht] at this; cases this
  simp only [hs0, hft, Int.natCast_zero, Int.zero_add] at h1
  rw [hdc]; exact h1

end bfs

section outcome
variable {W : Type} {E : List (Edge W)} {n s : Nat} {isGoal : Nat → Bool} {push : List Nat → Nat → List Nat}

/-- `J` is an extra invariant carried along (the BFS layering) -/
theorem search_outcome (hp : PushOK push) (hs : s < n) (hE : ∀ e ∈ E, e.2.1 < n) (J : SSt → Prop)
    (hJ0 : J (searchInit n s))
    (hJstep : ∀ st cur rest, SInv E n s isGoal st → J st → st.frontier = cur :: rest → isGoal cur = false →
      J ((succOf E cur).foldl (discW push cur) { st with frontier := rest })) (maxIter : Nat) :
    match searchLoop (discW push) (succOf E) isGoal maxIter (searchInit n s) with
    | .found cur st' => ∃ st0 rest, SInv E n s isGoal st0 ∧ J st0 ∧ st0.frontier = cur :: rest ∧
        isGoal cur = true ∧ st' = { st0 with frontier := rest }
    | .exhausted st' => SInv E n s isGoal st' ∧ st'.frontier = []
    | .cutoff st' => SInv E n s isGoal st' ∧ ¬ n < maxIter := by
  -- the fuel bounds the number of nodes still to be visited, so a cut-off needs `maxIter ≤ n`
  have h := searchLoop_rule (isGoal := isGoal) (discW push) (succOf E)
    (fun k st => (SInv E n s isGoal st ∧ J st) ∧ (n < maxIter → n + st.frontier.length < k + st.visited.length))
    (fun k st cur rest ⟨⟨inv, hJ⟩, hfuel⟩ hf hg => by
      obtain ⟨i, g⟩ := sinv_iter hp hE inv hf hg
      refine ⟨⟨i, hJstep st cur rest inv hJ hf hg⟩, fun hlt => ?_⟩
      have l := g.len
      have := hfuel hlt
      rw [hf, List.length_cons] at this
      dsimp only at l
      omega)
    maxIter (searchInit n s) ⟨⟨sinv_init hs, hJ0⟩, fun hlt => by simp only [searchInit, List.length_singleton]; omega⟩
  cases hout : searchLoop (discW push) (succOf E) isGoal maxIter (searchInit n s) with
  | found cur st' =>
    rw [hout] at h
    obtain ⟨_, st0, rest, ⟨⟨inv, hJ⟩, _⟩, hf, hg, he⟩ := h
    exact ⟨st0, rest, inv, hJ, hf, hg, he⟩
  | exhausted st' =>
    rw [hout] at h
    obtain ⟨⟨_, ⟨inv, _⟩, _⟩, hf⟩ := h
    exact ⟨inv, hf⟩
  | cutoff st' =>
    rw [hout] at h
    obtain ⟨⟨inv, _⟩, hfuel⟩ := h
    refine ⟨inv, fun hlt => ?_⟩
    have := hfuel hlt
    have := nodup_length_le inv.nodup inv.vis_lt
    omega

end outcome

section results
variable {W : Type} {E : List (Edge W)} {n s : Nat} {isGoal : Nat → Bool}
open Solvor.Gen (Status)

theorem result_found (okStatus : Status) {T : List Nat} {st0 : SSt} {cur : Nat} {rest : List Nat}
    (inv : SInv E n s isGoal st0) (hf : st0.frontier = cur :: rest) (hT : T.contains cur = true) :
    ∃ p k, searchResult okStatus false (.found cur { st0 with frontier := rest }) =
        ⟨okStatus, some p, some k, st0.visited⟩ ∧
      Chain E s st0.parent st0.visited cur k ∧ k + 1 = p.length ∧ pathOK (unitE E) s T p (k : Int) = true := by
  obtain ⟨k, hk, hkl⟩ := inv.chain cur (inv.fr_vis cur (hf ▸ List.mem_cons_self))
  obtain ⟨p, hr, hlen, hok⟩ := recon_pathOK hk.trail hkl hT
  refine ⟨p, k, ?_, hk, hlen.symm, hok⟩
  simp only [searchResult, hr, hlen]; simp

theorem reach_visited {st : SSt} (inv : SInv E n s isGoal st) (hf : st.frontier = []) {v : Nat} {c : Int}
    (hw : Walk (unitE E) s v c) : v ∈ st.visited :=
  hw.closed (P := (· ∈ st.visited)) (fun e he hu => (unitE_weight he).2.elim fun _ hm =>
    sinv_closed inv hu (by rw [hf]; simp) hm rfl) inv.s_vis

theorem result_exhausted {st : SSt} (inv : SInv E n s isGoal st) (hf : st.frontier = []) :
    ∀ t, isGoal t = true → ¬ Reach (unitE E) s t := by
  rintro t ht ⟨c, hw⟩
  have htv := reach_visited inv hf hw
  have := inv.nongoal t htv (by rw [hf]; simp)
  rw [ht] at this; cases this

theorem search_goal_outcome {push : List Nat → Nat → List Nat} {T : List Nat} (hp : PushOK push) (hs : s < n)
    (hE : ∀ e ∈ E, e.2.1 < n) (J : SSt → Prop) (hJ0 : J (searchInit n s))
    (hJstep : ∀ st cur rest, SInv E n s (fun v => T.contains v) st → J st → st.frontier = cur :: rest →
      T.contains cur = false → J ((succOf E cur).foldl (discW push cur) { st with frontier := rest }))
    (maxIter : Nat) (okStatus : Status) :
    let r := searchResult okStatus false
      (searchLoop (discW push) (succOf E) (fun v => T.contains v) maxIter (searchInit n s))
    (∃ st0 cur rest p k, SInv E n s (fun v => T.contains v) st0 ∧ J st0 ∧ st0.frontier = cur :: rest ∧
      r = ⟨okStatus, some p, some k, st0.visited⟩ ∧
      Chain E s st0.parent st0.visited cur k ∧ k + 1 = p.length ∧ pathOK (unitE E) s T p (k : Int) = true) ∨
    (r.status = .INFEASIBLE ∧ ∀ t ∈ T, ¬ Reach (unitE E) s t) ∨ (r.status = .MAX_ITER ∧ ¬ n < maxIter) := by
  dsimp only
  have h := search_outcome (E := E) (isGoal := fun v => T.contains v) hp hs hE J hJ0 hJstep maxIter
  cases hout : searchLoop (discW push) (succOf E) (fun v => T.contains v) maxIter (searchInit n s) with
  | found cur st' =>
    rw [hout] at h
    obtain ⟨st0, rest, inv, hJ, hf, hg, rfl⟩ := h
    obtain ⟨p, k, hres, hk, hlen, hok⟩ := result_found okStatus inv hf hg
    exact Or.inl ⟨st0, cur, rest, p, k, inv, hJ, hf, hres, hk, hlen, hok⟩
  | exhausted st' =>
    rw [hout] at h
    exact Or.inr (Or.inl ⟨rfl, fun t ht => result_exhausted h.1 h.2 t (List.contains_iff_mem.mpr ht)⟩)
  | cutoff st' =>
    rw [hout] at h
    exact Or.inr (Or.inr ⟨rfl, h.2⟩)

/-- the `goal is None` mode of `bfs` / `dfs` -/
theorem result_explore {st : SSt} (inv : SInv E n s isGoal st) :
    (∀ v ∈ st.visited, Reach (unitE E) s v) ∧ s ∈ st.visited ∧ st.visited.Nodup ∧
      (st.frontier = [] → ∀ v, Reach (unitE E) s v → v ∈ st.visited) := by
  refine ⟨fun v hv => ?_, inv.s_vis, inv.nodup, fun hf v ⟨c, hw⟩ => reach_visited inv hf hw⟩
  obtain ⟨k, hk, _⟩ := inv.chain v hv
  exact ⟨k, hk.walk⟩

end results

end Solvor.Path
