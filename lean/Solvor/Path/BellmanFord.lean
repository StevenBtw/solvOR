import Solvor.Path.Lemmas
/-! Path: the loop invariant of the Bellman-Ford mirror and what the detection round adds. -/
namespace Solvor.Path

structure BFInv (E : List (Edge Int)) (n s : Nat) (st : BFSt) : Prop where
  len_d : st.dist.length = n
  len_p : st.par.length = n
  real : ∀ v c, look st.dist v = some c → Walk E s v c
  /-- `≤ 0`, not `= 0`: a negative cycle through `s` lowers the start's entry -/
  start : ∃ c0, look st.dist s = some c0 ∧ c0 ≤ 0
  /-- `≤`, not `=`: the edge was tight when the pointer was set, and `dist` only decreases -/
  par_edge : ∀ v p, look st.par v = some p →
    ∃ w dp dv, (p, v, w) ∈ E ∧ look st.dist p = some dp ∧ look st.dist v = some dv ∧ dp + w ≤ dv
  root : ∀ v c, look st.par v = none → look st.dist v = some c → v = s

theorem bfInv_init (E : List (Edge Int)) {n s : Nat} (hs : s < n) : BFInv E n s (bfInit n s) := by
  have hd : ∀ v, look (bfInit n s).dist v = if v = s then some 0 else none := look_single hs 0
  refine {
    len_d := by rw [bfInit, List.length_set, length_empty]
    len_p := length_empty n
    real := ?real, start := ?start, par_edge := ?par_edge, root := ?root }
  case real =>
    intro v c h
    rw [hd] at h
    split at h
    · next e => subst e; cases h; exact Walk.nil _
    · cases h
  case start =>
    exact ⟨0, by rw [hd, if_pos rfl], Int.le_refl 0⟩
  case par_edge =>
    intro v p h
    rw [bfInit, look_empty] at h; cases h
  case root =>
    intro v c _ h
    rw [hd] at h
    split at h
    · next e => exact e
    · cases h

theorem relaxable_iff {dist : Tab Int} {e : Edge Int} :
    relaxable dist e = true ↔
      ∃ du, look dist e.1 = some du ∧ (look dist e.2.1 = none ∨ ∃ dv, look dist e.2.1 = some dv ∧ du + e.2.2 < dv) := by
  unfold relaxable
  cases hu : look dist e.1 with
  | none => simp
  | some du =>
    cases hv : look dist e.2.1 with
    | none => simp
    | some dv => simp

theorem relax_eq {st : BFSt} {e : Edge Int} {du : Int} (h : look st.dist e.1 = some du) :
    relax st e = ⟨st.dist.set e.2.1 (some (du + e.2.2)), st.par.set e.2.1 (some e.1)⟩ := by
  rw [relax, h]

theorem relax_out_of_range {st : BFSt} {n : Nat} (hd : st.dist.length = n) (hp : st.par.length = n)
    {e : Edge Int} (hv : ¬ e.2.1 < n) : relax st e = st := by
  unfold relax
  split
  · rfl
  · rw [List.set_eq_of_length_le (by rw [hd]; exact Nat.le_of_not_lt hv),
      List.set_eq_of_length_le (by rw [hp]; exact Nat.le_of_not_lt hv)]

theorem relax_mono {st : BFSt} {e : Edge Int} (hr : relaxable st.dist e = true) : TabLe st.dist (relax st e).dist := by
  intro v d hv
  obtain ⟨du, hdu, hcase⟩ := relaxable_iff.mp hr
  rw [relax_eq hdu]
  simp only [look_set]
  by_cases h : e.2.1 = v ∧ e.2.1 < st.dist.length
  · rw [if_pos h]
    rcases hcase with h0 | ⟨dv, h1, h2⟩
    · rw [h.1, hv] at h0; cases h0
    · rw [h.1, hv] at h1; cases h1
      exact ⟨du + e.2.2, rfl, Int.le_of_lt h2⟩
  · rw [if_neg h]; exact ⟨d, hv, Int.le_refl _⟩

theorem bfInv_relax {E : List (Edge Int)} {n s : Nat} {st : BFSt} (inv : BFInv E n s st) {e : Edge Int}
    (he : e ∈ E) (hr : relaxable st.dist e = true) : BFInv E n s (relax st e) := by
  obtain ⟨u, v, w⟩ := e
  obtain ⟨du, hdu, hcase⟩ := relaxable_iff.mp hr
  simp only at hdu hcase
  have mono : TabLe st.dist (st.dist.set v (some (du + w))) := by
    have := relax_mono hr
    rwa [relax_eq hdu] at this
  by_cases hv : v < n
  case neg => rw [relax_out_of_range inv.len_d inv.len_p hv]; exact inv
  case pos =>
  rw [relax_eq hdu]
  have hvd : v < st.dist.length := by rw [inv.len_d]; exact hv
  have hvp : v < st.par.length := by rw [inv.len_p]; exact hv
  have hD := look_set_lt hvd (some (du + w))
  have hP := look_set_lt hvp (some u)
  refine {
    len_d := by rw [List.length_set]; exact inv.len_d
    len_p := by rw [List.length_set]; exact inv.len_p
    real := ?real, start := ?start, par_edge := ?par_edge, root := ?root }
  case real =>
    intro x c h
    rw [hD] at h
    split at h
    · next e => subst e; cases h; exact Walk.snoc (inv.real u du hdu) he
    · exact inv.real x c h
  case start =>
    obtain ⟨c0, hc0, hle⟩ := inv.start
    obtain ⟨c', hc', hle'⟩ := mono s c0 hc0
    exact ⟨c', hc', Int.le_trans hle' hle⟩
  case par_edge =>
    intro x p h
    rw [hP] at h
    split at h
    · next e =>
      subst e; cases h
      obtain ⟨du', hdu', hle⟩ := mono u du hdu
      exact ⟨w, du', du + w, he, hdu', by rw [hD, if_pos rfl], Int.add_le_add_right hle w⟩
    · next hne =>
      obtain ⟨w', dp, dx, hmem, hdp, hdx, hle⟩ := inv.par_edge x p h
      obtain ⟨dp', hdp', hle'⟩ := mono p dp hdp
      exact ⟨w', dp', dx, hmem, hdp', by rw [hD, if_neg hne]; exact hdx,
        Int.le_trans (Int.add_le_add_right hle' w') hle⟩
  case root =>
    intro x c hp hd
    rw [hP] at hp
    rw [hD] at hd
    split at hp
    · cases hp
    · next hne => rw [if_neg hne] at hd; exact inv.root x c hp hd

theorem bfRound_inv {E : List (Edge Int)} (P : BFSt → Prop)
    (hstep : ∀ st, ∀ e ∈ E, P st → relaxable st.dist e = true → P (relax st e)) (st : BFSt) (h : P st) :
    P (bfRound E st).1 := by
  refine foldl_inv (l := E) (b := (st, false)) (fun acc : BFSt × Bool => P acc.1) h fun acc e he h => ?_
  split
  · next hr => exact hstep _ e he h hr
  · exact h

theorem bfRounds_inv {E : List (Edge Int)} (P : BFSt → Prop)
    (hstep : ∀ st, ∀ e ∈ E, P st → relaxable st.dist e = true → P (relax st e)) :
    ∀ (k : Nat) (st : BFSt), P st → P (bfRounds E k st) := by
  intro k
  induction k with
  | zero => exact fun st h => h
  | succ k ih =>
    intro st h
    have h1 := bfRound_inv P hstep st h
    rw [bfRounds]
    split
    · exact ih _ h1
    · exact h1

theorem bfInv_rounds {E : List (Edge Int)} {n s : Nat} : ∀ (k : Nat) (st : BFSt), BFInv E n s st →
    BFInv E n s (bfRounds E k st) :=
  bfRounds_inv _ fun _ _ he inv hr => bfInv_relax inv he hr

theorem not_relaxable {dist : Tab Int} {e : Edge Int} (h : relaxable dist e = false) {du : Int}
    (hu : look dist e.1 = some du) : ∃ dv, look dist e.2.1 = some dv ∧ dv ≤ du + e.2.2 := by
  have hr := Bool.eq_false_iff.mp h
  cases hv : look dist e.2.1 with
  | none => exact absurd (relaxable_iff.mpr ⟨du, hu, Or.inl hv⟩) hr
  | some dv => exact ⟨dv, rfl, Int.not_lt.mp fun hlt => hr (relaxable_iff.mpr ⟨du, hu, Or.inr ⟨dv, hv, hlt⟩⟩)⟩

theorem feasible_of_not_relaxable {E : List (Edge Int)} {dist : Tab Int}
    (h : E.any (relaxable dist) = false) : feasible E dist = true := by
  unfold feasible
  rw [List.all_eq_true]
  intro e he
  cases hu : look dist e.1 with
  | none => rfl
  | some du =>
    obtain ⟨dv, hv, hle⟩ := not_relaxable (Bool.eq_false_iff.mpr (List.any_eq_false.mp h e he)) hu
    simp only [hv, decide_eq_true hle]

theorem bfFinish_not_unbounded {n : Nat} {E : List (Edge Int)} {st : BFSt} {target : Option Nat}
    (h : (bfFinish n E st target).status ≠ .UNBOUNDED) :
    E.any (relaxable st.dist) = false ∧ hasParCycle n st.par = false := by
  unfold bfFinish at h
  split at h
  · exact absurd rfl h
  · split at h
    · exact absurd rfl h
    · exact ⟨(Bool.not_eq_true _).mp ‹_›, (Bool.not_eq_true _).mp ‹_›⟩

theorem bfFinish_quiet {n : Nat} {E : List (Edge Int)} {st : BFSt} (target : Option Nat)
    (hany : E.any (relaxable st.dist) = false) (hcyc : hasParCycle n st.par = false) :
    bfFinish n E st target =
      match target with
      | none => ⟨.OPTIMAL, st.dist, st.par, none, none⟩
      | some t =>
        match look st.dist t with
        | none => ⟨.INFEASIBLE, st.dist, st.par, none, none⟩
        | some c => ⟨.OPTIMAL, st.dist, st.par, reconIdx st.par (n + 1) t [], some c⟩ := by
  unfold bfFinish
  rw [hany, hcyc]
  rcases target with _ | t
  · rfl
  · cases look st.dist t <;> rfl

/-- Facts about the final tables when the detection round finds nothing. -/
structure BFFinal (E : List (Edge Int)) (s : Nat) (dist : Tab Int) (par : Tab Nat) : Prop where
  feas : feasible E dist = true
  start0 : look dist s = some 0
  real : ∀ v c, look dist v = some c → Walk E s v c
  tight : ∀ v p, look par v = some p →
    ∃ w dp, edgeCost E p v = some w ∧ look dist p = some dp ∧ look dist v = some (dp + w)
  root : ∀ v c, look par v = none → look dist v = some c → v = s

theorem bfFinal_of_inv {E : List (Edge Int)} {n s : Nat} {st : BFSt} (inv : BFInv E n s st)
    (h : E.any (relaxable st.dist) = false) : BFFinal E s st.dist st.par := by
  have hf := feasible_of_not_relaxable h
  obtain ⟨c0, hc0, hle0⟩ := inv.start
  have h0 : c0 = 0 := by
    obtain ⟨b, hb, hle⟩ := potential_walk hf (inv.real s c0 hc0) c0 hc0
    rw [hc0] at hb; cases hb; omega
  subst h0
  refine .mk (feas := hf) (start0 := hc0) (real := inv.real) (tight := ?_) (root := inv.root)
  intro v p hp
  obtain ⟨w, dp, dv, hmem, hdp, hdv, hle⟩ := inv.par_edge v p hp
  obtain ⟨m, hm, hmw, hmm⟩ := edgeCost_min hmem
  obtain ⟨b, hb, hble⟩ := feasible_edge hf hmm hdp
  rw [hdv] at hb; cases hb
  exact ⟨m, dp, hm, hdp, by rw [hdv]; congr 1; omega⟩

theorem BFFinal.trail {E : List (Edge Int)} {s : Nat} {dist : Tab Int} {par : Tab Nat}
    (F : BFFinal E s dist par) : ∀ (fuel v : Nat) (dv : Int), chainEnds par fuel v = true →
    look dist v = some dv → ∃ k, k < fuel ∧ Trail E s par v dv k := by
  intro fuel
  induction fuel with
  | zero => intro v dv h; cases h
  | succ fuel ih =>
    intro v dv h hd
    unfold chainEnds at h
    cases hp : look par v with
    | none =>
      have := F.root v dv hp hd
      subst this
      rw [F.start0] at hd; cases hd
      exact ⟨0, Nat.succ_pos _, Trail.root hp⟩
    | some p =>
      rw [hp] at h
      obtain ⟨w, dp, hw, hdp, hdv⟩ := F.tight v p hp
      rw [hd] at hdv; cases hdv
      obtain ⟨k, hk, ht⟩ := ih p dp h hdp
      exact ⟨k + 1, Nat.succ_lt_succ hk, Trail.step hp hw ht⟩

end Solvor.Path
