import Solvor.Path.Lemmas
/-! Path: loop invariant of the Dijkstra / A* mirror (`hLoop` at integer weights): whatever the heap
key (`fOf`: any heuristic, any weight) and the cut-offs, a returned path is a checked path whose
weights sum to the reported cost, and INFEASIBLE without `max_cost` means unreachable. -/
namespace Solvor.Path

section popMin
variable {W : Type} {N : Num W}

theorem popMin_none : ∀ {l : List (W × W × Nat × Nat)}, popMin N l = none ↔ l = []
  | [] => by simp [popMin]
  | x :: xs => by
    simp only [popMin]
    split
    · simp
    · split <;> simp

theorem popMin_mem : ∀ {l rest : List (W × W × Nat × Nat)} {m : W × W × Nat × Nat},
    popMin N l = some (m, rest) → ∀ x, x ∈ l ↔ x = m ∨ x ∈ rest
  | [], _, _, h => by simp [popMin] at h
  | x :: xs, rest, m, h => by
    rw [popMin] at h
    split at h
    · next hp => cases h; rw [popMin_none.mp hp]; simp
    · next m' rest' hp =>
      have ih := popMin_mem hp
      split at h <;> cases h <;> intro y <;> simp only [List.mem_cons, ih y]
      exact or_left_comm

theorem popMin_some {l rest : List (W × W × Nat × Nat)} {m : W × W × Nat × Nat} (h : popMin N l = some (m, rest)) :
    m ∈ l ∧ (∀ x ∈ rest, x ∈ l) ∧ (∀ x ∈ l, x = m ∨ x ∈ rest) :=
  have hm := popMin_mem h
  ⟨(hm m).mpr (Or.inl rfl), fun x hx => (hm x).mpr (Or.inr hx), fun x hx => (hm x).mp hx⟩

end popMin

/-- a heap entry `(f, g, counter, node)` -/
abbrev Ent := Int × Int × Nat × Nat

section chains
variable (E : List (Edge Int)) (s : Nat)

/-- `WChain E s g par C v c k`: following `par` from `v` reaches `s` in `k` steps through nodes of `C`,
each step an edge whose weight is the difference of the `g` values; `c = g v`. -/
inductive WChain (g : Tab Int) (par : Tab Nat) (C : List Nat) : Nat → Int → Nat → Prop
  | root : look par s = none → look g s = some 0 → WChain g par C s 0 0
  | step {u v k : Nat} {w cu : Int} : look par v = some u → u ∈ C → (u, v, w) ∈ E →
      look g u = some cu → look g v = some (cu + w) → WChain g par C u cu k →
      WChain g par C v (cu + w) (k + 1)

variable {E s}

theorem WChain.transfer {g g' : Tab Int} {par par' : Tab Nat} {C : List Nat} {x k : Nat} {c : Int}
    (h : WChain E s g par C x c k) {v : Nat} (hg : ∀ y, y ≠ v → look g' y = look g y)
    (hp : ∀ y, y ≠ v → look par' y = look par y) (hv : v ∉ C) (hx : x ≠ v) : WChain E s g' par' C x c k := by
  induction h with
  | root hp0 hg0 => exact WChain.root (by rw [hp _ hx]; exact hp0) (by rw [hg _ hx]; exact hg0)
  | @step u x k w cu hpx hu he hgu hgx _ ih =>
    have huv : u ≠ v := fun e => hv (e ▸ hu)
    exact WChain.step (by rw [hp _ hx]; exact hpx) hu he (by rw [hg _ huv]; exact hgu)
      (by rw [hg _ hx]; exact hgx) (ih huv)

theorem WChain.update {g : Tab Int} {par : Tab Nat} {C : List Nat} {x k : Nat} {c : Int}
    (h : WChain E s g par C x c k) (v : Nat) (a : Option Int) (b : Option Nat) (hv : v ∉ C) (hx : x ≠ v) :
    WChain E s (g.set v a) (par.set v b) C x c k :=
  h.transfer (fun _ hy => look_set_ne _ _ _ _ (Ne.symm hy)) (fun _ hy => look_set_ne _ _ _ _ (Ne.symm hy)) hv hx

theorem WChain.mono {g : Tab Int} {par : Tab Nat} {C C' : List Nat} {x k : Nat} {c : Int}
    (h : WChain E s g par C x c k) (hsub : ∀ u ∈ C, u ∈ C') : WChain E s g par C' x c k := by
  induction h with
  | root hp hg => exact WChain.root hp hg
  | step hp hu he hgu hgx _ ih => exact WChain.step hp (hsub _ hu) he hgu hgx ih

theorem WChain.g_eq {g : Tab Int} {par : Tab Nat} {C : List Nat} {x k : Nat} {c : Int}
    (h : WChain E s g par C x c k) : look g x = some c := by
  cases h with
  | root _ hg => exact hg
  | step _ _ _ _ hgx _ => exact hgx

theorem WChain.trail {g : Tab Int} {par : Tab Nat} {C : List Nat} {v k : Nat} {c : Int}
    (h : WChain E s g par C v c k)
    (rel : ∀ x u, look par x = some u → ∀ w', (u, x, w') ∈ E →
      ∃ gu gx, look g u = some gu ∧ look g x = some gx ∧ gx ≤ gu + w') : Trail E s par v c k := by
  induction h with
  | root hp _ => exact Trail.root hp
  | @step u v k w cu hp hu he hgu hgv _ ih =>
    obtain ⟨m, hm, hmw, hmm⟩ := edgeCost_min he
    obtain ⟨gu, gx, h1, h2, h3⟩ := rel v u hp m hmm
    rw [hgu] at h1; cases h1
    rw [hgv] at h2; cases h2
    have hmw' : m = w := by omega
    subst hmw'
    exact Trail.step hp hm ih

end chains

/-- `st'` is `st` with the open node `v` given the smaller entry `c` and the parent `p`, and `e0` pushed for it -/
structure Lowered (st st' : HSt Int) (v : Nat) (c : Int) (p : Nat) (e0 : Ent) : Prop where
  closed : st'.closed = st.closed
  heap : st'.heap = e0 :: st.heap
  node : e0.2.2.2 = v
  g_v : look st'.g v = some c
  g_other : ∀ x, x ≠ v → look st'.g x = look st.g x
  par_v : look st'.parent v = some p
  par_other : ∀ x, x ≠ v → look st'.parent x = look st.parent x
  len_g : st'.g.length = st.g.length
  len_p : st'.parent.length = st.parent.length
  open_v : v ∉ st.closed
  below : ∀ old, look st.g v = some old → c < old

section lowered
variable {st st' : HSt Int} {v p : Nat} {c : Int} {e0 : Ent} (L : Lowered st st' v c p e0)
include L

theorem Lowered.mono : TabLe st.g st'.g := by
  intro x a hx
  by_cases hxv : x = v
  · subst hxv; exact ⟨c, L.g_v, Int.le_of_lt (L.below a hx)⟩
  · exact ⟨a, by rw [L.g_other x hxv]; exact hx, Int.le_refl a⟩

theorem Lowered.closed_g {u : Nat} (hu : u ∈ st.closed) : look st'.g u = look st.g u :=
  L.g_other u fun e => L.open_v (e ▸ hu)

theorem Lowered.orig {x : Nat} {a : Int} (hx : look st'.g x = some a) : (x = v ∧ a = c) ∨ look st.g x = some a := by
  by_cases hxv : x = v
  · subst hxv; rw [L.g_v] at hx; exact Or.inl ⟨rfl, (Option.some.inj hx).symm⟩
  · rw [L.g_other x hxv] at hx; exact Or.inr hx

end lowered

section inv
/- `noCost` stands for "`max_cost` is `None`" (`hloop_inv` puts `maxCost = none` there): only then is every closed node
expanded; with a `max_cost` a pruned node is closed without its out-edges being looked at. -/
variable (E : List (Edge Int)) (n s : Nat) (isGoal : Nat → Bool) (noCost : Prop)

/-- `cur?` is the node whose adjacency list is being scanned (closed, but not yet relaxed). -/
structure HInv (cur? : Option Nat) (st : HSt Int) : Prop where
  len_g : st.g.length = n
  len_p : st.parent.length = n
  heap_g : ∀ e ∈ st.heap, ∃ c, look st.g e.2.2.2 = some c
  closed_nodup : st.closed.Nodup
  closed_g : ∀ u ∈ st.closed, ∃ c, look st.g u = some c
  start_g : look st.g s = some 0
  /-- right disjunct: the state before the first pop -/
  start_c : s ∈ st.closed ∨ (st.closed = [] ∧ ∀ e ∈ st.heap, e.2.2.2 = s)
  open_heap : ∀ v c, look st.g v = some c → v ∈ st.closed ∨ ∃ e ∈ st.heap, e.2.2.2 = v
  par_closed : ∀ v u, look st.parent v = some u → u ∈ st.closed
  /-- the two length bounds, with `|closed| ≤ n`, are the fuel `n + 1` that `hResult` gives `recon` -/
  chain : ∀ v c, look st.g v = some c →
    ∃ k, WChain E s st.g st.parent st.closed v c k ∧ (v ∈ st.closed → k < st.closed.length) ∧ k ≤ st.closed.length
  /-- makes the parent edge a cheapest parallel edge, as `pathCost` demands -/
  relaxed : ∀ v u, look st.parent v = some u → cur? ≠ some u → ∀ w', (u, v, w') ∈ E →
    ∃ gu gv, look st.g u = some gu ∧ look st.g v = some gv ∧ gv ≤ gu + w'
  /-- what INFEASIBLE ⇒ unreachable rests on -/
  expanded : noCost → ∀ u ∈ st.closed, cur? ≠ some u →
    isGoal u = false ∧ ∀ e ∈ E, e.1 = u → ∃ c, look st.g e.2.1 = some c

/-- while the adjacency list of the closed node `cur` (`c = g[cur]`) is scanned: its children are still open -/
structure HScan (cur : Nat) (c : Int) (st : HSt Int) : Prop where
  inv : HInv E n s isGoal noCost (some cur) st
  closed : cur ∈ st.closed
  g_cur : look st.g cur = some c
  open_child : ∀ x, look st.parent x = some cur → x ∉ st.closed

/-- the state right after `cur` has been popped and closed, `c = g[cur]` -/
structure HMid (cur : Nat) (c : Int) (st : HSt Int) : Prop where
  inv : HInv E n s isGoal noCost (some cur) st
  closed : cur ∈ st.closed
  g_cur : look st.g cur = some c
  no_child : ∀ x, look st.parent x ≠ some cur

variable {E n s isGoal noCost}

theorem HInv.closed_lt {cur? : Option Nat} {st : HSt Int} (inv : HInv E n s isGoal noCost cur? st) :
    ∀ u ∈ st.closed, u < n := fun u hu =>
  (inv.closed_g u hu).elim fun _ h => inv.len_g ▸ look_some_lt h

theorem HInv.start_closed {cur? : Option Nat} {st : HSt Int} (inv : HInv E n s isGoal noCost cur? st) {x : Nat}
    (hx : x ∈ st.closed) : s ∈ st.closed :=
  inv.start_c.elim id fun h => by rw [h.1] at hx; cases hx

theorem hinv_init (fOf : Int → Nat → Int) (hs : s < n) :
    HInv E n s isGoal noCost none (hInit intNum n fOf s) := by
  show HInv E n s isGoal noCost none
      ⟨(Tab.empty n).set s (some 0), Tab.empty n, [], [(fOf 0 s, 0, 0, s)], 1, 0, 0⟩
  have hg := look_single (α := Int) hs 0
  refine {
    len_g := by simp [length_empty]
    len_p := length_empty n
    closed_nodup := by simp
    closed_g := by simp
    start_g := by simp [hg]
    start_c := Or.inr ⟨rfl, by simp⟩
    heap_g := ?heap_g, open_heap := ?open_heap, par_closed := ?par_closed, chain := ?chain, relaxed := ?relaxed,
    expanded := ?expanded }
  case heap_g =>
    intro e he; simp at he; subst he; exact ⟨0, by simp [hg]⟩
  case open_heap =>
    intro v c h
    simp only [hg] at h
    split at h
    · next e => right; exact ⟨_, List.mem_singleton.mpr rfl, e.symm⟩
    · cases h
  case par_closed =>
    intro v u h; simp [look_empty] at h
  case chain =>
    intro v c h
    simp only [hg] at h
    split at h
    · next e =>
      subst e; cases h
      exact ⟨0, WChain.root (look_empty _ _) (by simp [hg]), by simp, by simp⟩
    · cases h
  case relaxed =>
    intro v u h; simp [look_empty] at h
  case expanded =>
    intro _ u hu; simp at hu

theorem HInv.lower {cur : Nat} {st st' : HSt Int} {v : Nat} {gcur w : Int} {e0 : Ent}
    (inv : HInv E n s isGoal noCost (some cur) st) (L : Lowered st st' v (gcur + w) cur e0)
    (hcc : cur ∈ st.closed) (hgc : look st.g cur = some gcur) (he : (cur, v, w) ∈ E) :
    HInv E n s isGoal noCost (some cur) st' := by
  have defd : ∀ x a, look st.g x = some a → ∃ a', look st'.g x = some a' := fun x a hx =>
    (L.mono x a hx).elim fun a' h => ⟨a', h.1⟩
  have hsc : s ∈ st.closed := inv.start_closed hcc
  refine {
    len_g := L.len_g.trans inv.len_g
    len_p := L.len_p.trans inv.len_p
    closed_nodup := L.closed ▸ inv.closed_nodup
    start_c := Or.inl (L.closed ▸ hsc)
    heap_g := ?heap_g, closed_g := ?closed_g, start_g := ?start_g, open_heap := ?open_heap, par_closed := ?par_closed,
    chain := ?chain, relaxed := ?relaxed, expanded := ?expanded }
  case heap_g =>
    intro e hm
    rcases List.mem_cons.mp (L.heap ▸ hm) with h | h
    · rw [h, L.node]; exact ⟨_, L.g_v⟩
    · exact (inv.heap_g e h).elim fun a ha => defd _ a ha
  case closed_g =>
    intro u hu
    rw [L.closed] at hu
    rw [L.closed_g hu]; exact inv.closed_g u hu
  case start_g =>
    rw [L.closed_g hsc]; exact inv.start_g
  case open_heap =>
    intro x a hx
    rw [L.closed, L.heap]
    by_cases hxv : x = v
    · exact Or.inr ⟨e0, List.mem_cons_self, L.node.trans hxv.symm⟩
    · rw [L.g_other x hxv] at hx
      exact (inv.open_heap x a hx).imp id fun ⟨e, hm, hn⟩ => ⟨e, List.mem_cons_of_mem _ hm, hn⟩
  case par_closed =>
    intro x u hx
    rw [L.closed]
    by_cases hxv : x = v
    · rw [hxv, L.par_v] at hx; cases hx; exact hcc
    · rw [L.par_other x hxv] at hx; exact inv.par_closed x u hx
  case chain =>
    intro x a hx
    rw [L.closed]
    by_cases hxv : x = v
    · rw [hxv, L.g_v] at hx
      cases hx
      -- the chain of `v` is that of `cur` and the edge `he`; `cur`'s survives the step, as the open `v` is not on it
      obtain ⟨k, hk, hks, _⟩ := inv.chain cur gcur hgc
      refine ⟨k + 1, ?_, fun h => absurd (hxv ▸ h) L.open_v, hks hcc⟩
      rw [hxv]
      exact WChain.step L.par_v hcc he (by rw [L.closed_g hcc]; exact hgc) L.g_v
        (hk.transfer L.g_other L.par_other L.open_v fun e => L.open_v (e ▸ hcc))
    · rw [L.g_other x hxv] at hx
      obtain ⟨k, hk, hks, hkl⟩ := inv.chain x a hx
      exact ⟨k, hk.transfer L.g_other L.par_other L.open_v hxv, hks, hkl⟩
  case relaxed =>
    intro x u hx hne w' he'
    by_cases hxv : x = v
    · rw [hxv, L.par_v] at hx; exact absurd hx hne
    · rw [L.par_other x hxv] at hx
      obtain ⟨gu, gx, h1, h2, h3⟩ := inv.relaxed x u hx hne w' he'
      exact ⟨gu, gx, by rw [L.closed_g (inv.par_closed x u hx)]; exact h1, by rw [L.g_other x hxv]; exact h2, h3⟩
  case expanded =>
    intro hn u hu hne
    obtain ⟨h1, h2⟩ := inv.expanded hn u (L.closed ▸ hu) hne
    exact ⟨h1, fun e he' heu => (h2 e he' heu).elim fun a ha => defd _ a ha⟩

/-- the out-edge `nb` of the scanned node is accounted for -/
def Handled (gcur : Int) (st : HSt Int) (nb : Nat × Int) : Prop :=
  nb.1 ∈ st.closed ∨ ∃ gv, look st.g nb.1 = some gv ∧ gv ≤ gcur + nb.2

theorem hRelax_cases (fOf : Int → Nat → Int) (cur : Nat) (gcur : Int) (st : HSt Int) (v : Nat) (w : Int) :
    (hRelax intNum fOf cur gcur st (v, w) = st ∧
      Handled gcur st (v, w)) ∨
    (v < st.g.length → v < st.parent.length →
      Lowered st (hRelax intNum fOf cur gcur st (v, w)) v (gcur + w) cur (fOf (gcur + w) v, gcur + w, st.counter, v)) := by
  unfold hRelax
  by_cases hc : st.closed.contains v = true
  · left; simp only [hc, if_true]; exact ⟨trivial, Or.inl (by simpa using hc)⟩
  · have hnc : v ∉ st.closed := by simpa using hc
    -- for any values `k r` of the `counter` and `rerelax` fields, which no invariant mentions: they unify with what `hRelax` wrote
    have key : (∀ old, look st.g v = some old → gcur + w < old) → ∀ k r : Nat, v < st.g.length → v < st.parent.length →
        Lowered st
          { st with
            g := st.g.set v (some (gcur + w)), parent := st.parent.set v (some cur),
            heap := (fOf (gcur + w) v, gcur + w, st.counter, v) :: st.heap, counter := k, rerelax := r }
          v (gcur + w) cur (fOf (gcur + w) v, gcur + w, st.counter, v) := fun hb _ _ hvg hvp =>
      have hG := look_set_lt hvg (some (gcur + w))
      have hP := look_set_lt hvp (some cur)
      .mk (closed := rfl) (heap := rfl) (node := rfl)
        (g_v := by rw [hG, if_pos rfl]) (g_other := fun x hx => by rw [hG, if_neg hx])
        (par_v := by rw [hP, if_pos rfl]) (par_other := fun x hx => by rw [hP, if_neg hx])
        (len_g := List.length_set) (len_p := List.length_set) (open_v := hnc) (below := hb)
    simp only [hc, intNum]
    cases hg : look st.g v with
    | none => right; simp only [Bool.false_eq_true, if_false, if_true]; exact key (fun _ h => by rw [hg] at h; cases h) _ _
    | some old =>
      by_cases hlt : gcur + w < old
      · right; simp only [hlt, decide_true, if_true, Bool.false_eq_true, if_false]
        exact key (fun _ h => by rw [hg] at h; cases h; exact hlt) _ _
      · left; simp only [hlt, decide_false]
        exact ⟨by simp, Or.inr ⟨old, hg, Int.not_lt.mp hlt⟩⟩

theorem HMid.scan {cur : Nat} {c : Int} {st : HSt Int} (mid : HMid E n s isGoal noCost cur c st) :
    HScan E n s isGoal noCost cur c st :=
  ⟨mid.inv, mid.closed, mid.g_cur, fun x h => absurd h (mid.no_child x)⟩

theorem hrelax_step (fOf : Int → Nat → Int) (hE : ∀ e ∈ E, e.2.1 < n) {cur : Nat} {gcur : Int} (st : HSt Int)
    (nb : Nat × Int) (he : (cur, nb.1, nb.2) ∈ E) (sc : HScan E n s isGoal noCost cur gcur st) :
    HScan E n s isGoal noCost cur gcur (hRelax intNum fOf cur gcur st nb) ∧
      ((hRelax intNum fOf cur gcur st nb).closed = st.closed ∧ TabLe st.g (hRelax intNum fOf cur gcur st nb).g) ∧
      Handled gcur (hRelax intNum fOf cur gcur st nb) nb := by
  obtain ⟨v, w⟩ := nb
  rcases hRelax_cases fOf cur gcur st v w with ⟨heq, hdone⟩ | hL
  · rw [heq]
    exact ⟨sc, ⟨rfl, TabLe.refl _⟩, hdone⟩
  · have hvn : v < n := hE _ he
    have L := hL (by rw [sc.inv.len_g]; exact hvn) (by rw [sc.inv.len_p]; exact hvn)
    refine ⟨⟨sc.inv.lower L sc.closed sc.g_cur he, L.closed ▸ sc.closed, ?_, fun x hx => ?_⟩,
      ⟨L.closed, L.mono⟩, Or.inr ⟨gcur + w, L.g_v, Int.le_refl _⟩⟩
    · rw [L.closed_g sc.closed]; exact sc.g_cur
    · rw [L.closed]
      by_cases hxv : x = v
      · rw [hxv]; exact L.open_v
      · rw [L.par_other x hxv] at hx; exact sc.open_child x hx

theorem hrelax_fold (fOf : Int → Nat → Int) (hE : ∀ e ∈ E, e.2.1 < n) {cur : Nat} {gcur : Int} (L : List (Nat × Int))
    (st : HSt Int) (hL : ∀ nb ∈ L, (cur, nb.1, nb.2) ∈ E) (sc : HScan E n s isGoal noCost cur gcur st) :
    let st' := L.foldl (hRelax intNum fOf cur gcur) st
    HScan E n s isGoal noCost cur gcur st' ∧ (st'.closed = st.closed ∧ TabLe st.g st'.g) ∧
      ∀ nb ∈ L, Handled gcur st' nb :=
  fold_decreasing (fun a b : HSt Int => b.closed = a.closed ∧ TabLe a.g b.g) (fun _ => ⟨rfl, TabLe.refl _⟩)
    (fun h1 h2 => ⟨h2.1.trans h1.1, h1.2.trans h2.2⟩)
    (Q := fun nb _ b => Handled gcur b nb)
    (hstep := hrelax_step fOf hE)
    (hpost := fun _ _ _ _ h hm => h.imp (hm.1 ▸ ·) fun ⟨gv, hgv, hle⟩ =>
      (hm.2 _ gv hgv).elim fun gv' h' => ⟨gv', h'.1, Int.le_trans h'.2 hle⟩)
    (hpre := fun _ _ _ _ _ h => h) L st hL sc

theorem hinv_skip {st : HSt Int} (inv : HInv E n s isGoal noCost none st) {e : Ent} {rest : List Ent}
    (hp : popMin intNum st.heap = some (e, rest)) (hc : e.2.2.2 ∈ st.closed) :
    HInv E n s isGoal noCost none { st with heap := rest } := by
  obtain ⟨hm, hsub, hcov⟩ := popMin_some hp
  refine { inv with
    heap_g := fun x hx => inv.heap_g x (hsub x hx), start_c := ?_, open_heap := ?_ }
  · rcases inv.start_c with h | ⟨h, _⟩
    · exact Or.inl h
    · rw [h] at hc; cases hc
  · intro v c hv
    rcases inv.open_heap v c hv with h | ⟨e', he', hn⟩
    · exact Or.inl h
    · rcases hcov e' he' with h | h
      · left; rw [← hn, h]; exact hc
      · right; exact ⟨e', h, hn⟩

theorem hinv_close {st : HSt Int} (inv : HInv E n s isGoal noCost none st) {e : Ent} {rest : List Ent}
    (hp : popMin intNum st.heap = some (e, rest)) (hc : e.2.2.2 ∉ st.closed) :
    HMid E n s isGoal noCost e.2.2.2 (gOf (hClose st e.2.2.2 rest) e.2.2.2 e.2.1) (hClose st e.2.2.2 rest) := by
  obtain ⟨hm, hsub, hcov⟩ := popMin_some hp
  obtain ⟨c, hgc⟩ := inv.heap_g e hm
  have hnp : ∀ x, look st.parent x ≠ some e.2.2.2 := fun x h => hc (inv.par_closed x _ h)
  have hgof : gOf (hClose st e.2.2.2 rest) e.2.2.2 e.2.1 = c := by
    unfold gOf
    rw [show (hClose st e.2.2.2 rest).g = st.g from rfl, hgc]
  rw [hgof]
  refine {
    inv := {
      len_g := inv.len_g
      len_p := inv.len_p
      heap_g := fun x hx => inv.heap_g x (hsub x hx)
      closed_nodup := List.nodup_cons.mpr ⟨hc, inv.closed_nodup⟩
      start_g := inv.start_g
      closed_g := ?closed_g, start_c := ?start_c, open_heap := ?open_heap, par_closed := ?par_closed, chain := ?chain,
      relaxed := ?relaxed, expanded := ?expanded }
    closed := List.mem_cons_self
    g_cur := hgc
    no_child := hnp }
  case closed_g =>
    intro u hu
    rcases List.mem_cons.mp hu with h | h
    · rw [h]; exact ⟨c, hgc⟩
    · exact inv.closed_g u h
  case start_c =>
    left
    rcases inv.start_c with h | ⟨_, h⟩
    · exact List.mem_cons_of_mem _ h
    · rw [h e hm]; exact List.mem_cons_self
  case open_heap =>
    intro v c' hv
    rcases inv.open_heap v c' hv with h | ⟨e', he', hn⟩
    · exact Or.inl (List.mem_cons_of_mem _ h)
    · rcases hcov e' he' with h | h
      · left; rw [← hn, h]; exact List.mem_cons_self
      · right; exact ⟨e', h, hn⟩
  case par_closed =>
    intro v u h; exact List.mem_cons_of_mem _ (inv.par_closed v u h)
  case chain =>
    intro v c' hv
    obtain ⟨k, hk, hks, hkl⟩ := inv.chain v c' hv
    refine ⟨k, hk.mono (fun u hu => List.mem_cons_of_mem _ hu), ?_, by simp [hClose]; omega⟩
    intro hvc
    simp only [hClose, List.length_cons]
    rcases List.mem_cons.mp hvc with h | h
    · omega
    · have := hks h; omega
  case relaxed =>
    intro v u h _ w' he'; exact inv.relaxed v u h (by simp) w' he'
  case expanded =>
    intro hn u hu hne
    rcases List.mem_cons.mp hu with h | h
    · exact absurd (by rw [h]) hne
    · exact inv.expanded hn u h (by simp)

theorem HInv.release {cur : Nat} {st : HSt Int} (inv : HInv E n s isGoal noCost (some cur) st)
    (hrel : ∀ v, look st.parent v = some cur → ∀ w', (cur, v, w') ∈ E →
      ∃ gu gv, look st.g cur = some gu ∧ look st.g v = some gv ∧ gv ≤ gu + w')
    (hexp : noCost → isGoal cur = false ∧ ∀ e ∈ E, e.1 = cur → ∃ c, look st.g e.2.1 = some c) :
    HInv E n s isGoal noCost none st := by
  refine { inv with relaxed := ?_, expanded := ?_ }
  · intro v u hp _ w' he'
    by_cases huc : u = cur
    · subst huc; exact hrel v hp w' he'
    · exact inv.relaxed v u hp (fun h => huc (Option.some.inj h).symm) w' he'
  · intro hn u hu _
    by_cases huc : u = cur
    · subst huc; exact hexp hn
    · exact inv.expanded hn u hu (fun h => huc (Option.some.inj h).symm)

theorem hinv_finish {cur : Nat} {gcur : Int} {st : HSt Int} (sc : HScan E n s isGoal noCost cur gcur st)
    (hg : isGoal cur = false)
    (hdone : ∀ nb ∈ adjOf E cur, Handled gcur st nb) :
    HInv E n s isGoal noCost none st := by
  obtain ⟨inv, hcc, hgc, hpc⟩ := sc
  refine inv.release (fun v hp w' he' => ?_) fun _ => ⟨hg, fun e he' heu => ?_⟩
  · rcases hdone (v, w') (mem_adjOf.mpr he') with h | ⟨gv, hgv, hle⟩
    · exact absurd h (hpc v hp)
    · exact ⟨gcur, gv, hgc, hgv, hle⟩
  · obtain ⟨a, b, c⟩ := e
    simp only at heu
    subst heu
    rcases hdone (b, c) (mem_adjOf.mpr he') with h | ⟨gv, hgv, _⟩
    · exact inv.closed_g b h
    · exact ⟨gv, hgv⟩

theorem hinv_prune {cur : Nat} {c : Int} {st : HSt Int} (hnc : ¬ noCost) (mid : HMid E n s isGoal noCost cur c st) :
    HInv E n s isGoal noCost none st :=
  mid.inv.release (fun v hp => absurd hp (mid.no_child v)) fun h => absurd h hnc

end inv

section loop
variable {E : List (Edge Int)} {n s : Nat} {isGoal : Nat → Bool}

/-- what `hLoop` returns; nothing is said of the two cut-offs -/
def HPost (maxCost : Option Int) (isGoal : Nat → Bool) (P : HSt Int → Prop) (Q : Nat → Int → HSt Int → Prop) :
    HOut Int → Prop
  | .found cur st' => ∃ c, Q cur c st' ∧ pruned intNum maxCost c = false ∧ isGoal cur = true
  | .infeasible st' => P st' ∧ st'.heap = []
  | _ => True

/-- Hoare rule for `hLoop` at integer weights: `P` holds at the head of the loop, `Q cur c` once `cur` has been
popped and closed with `g[cur] = c`. -/
theorem hLoop_rule {adj : Nat → List (Nat × Int)} {fOf : Int → Nat → Int} {maxIter : Nat} {maxCost : Option Int}
    (P : HSt Int → Prop) (Q : Nat → Int → HSt Int → Prop)
    (skip : ∀ st e rest, P st → popMin intNum st.heap = some (e, rest) → e.2.2.2 ∈ st.closed →
      P { st with heap := rest })
    (close : ∀ st e rest, P st → popMin intNum st.heap = some (e, rest) → e.2.2.2 ∉ st.closed →
      Q e.2.2.2 (gOf (hClose st e.2.2.2 rest) e.2.2.2 e.2.1) (hClose st e.2.2.2 rest))
    (prune : ∀ cur c st, Q cur c st → pruned intNum maxCost c = true → P st)
    (expand : ∀ cur c st, Q cur c st → pruned intNum maxCost c = false → isGoal cur = false →
      P ((adj cur).foldl (hRelax intNum fOf cur c) st)) :
    ∀ (fuel : Nat) (st : HSt Int), P st →
      HPost maxCost isGoal P Q (hLoop intNum adj fOf isGoal maxIter maxCost fuel st) := by
  intro fuel
  induction fuel with
  | zero => intro st _; trivial
  | succ k ih =>
    intro st hP
    unfold hLoop
    by_cases hit : st.iters < maxIter
    · rw [if_pos hit]
      cases hp : popMin intNum st.heap with
      | none => exact ⟨hP, popMin_none.mp hp⟩
      | some p =>
        obtain ⟨e, rest⟩ := p
        dsimp only
        by_cases hc : st.closed.contains e.2.2.2 = true
        · rw [if_pos hc]
          exact ih _ (skip st e rest hP hp (List.contains_iff_mem.mp hc))
        · rw [if_neg hc]
          have hQ := close st e rest hP hp (fun h => hc (List.contains_iff_mem.mpr h))
          generalize gOf (hClose st e.2.2.2 rest) e.2.2.2 e.2.1 = c at hQ ⊢
          by_cases hpr : pruned intNum maxCost c = true
          · rw [if_pos hpr]; exact ih _ (prune _ _ _ hQ hpr)
          · rw [if_neg hpr]
            by_cases hg : isGoal e.2.2.2 = true
            · rw [if_pos hg]; exact ⟨c, hQ, (Bool.not_eq_true _).mp hpr, hg⟩
            · rw [if_neg hg]
              exact ih _ (expand _ _ _ hQ ((Bool.not_eq_true _).mp hpr) ((Bool.not_eq_true _).mp hg))
    · rw [if_neg hit]; trivial

theorem hloop_inv (fOf : Int → Nat → Int) (maxIter : Nat) (maxCost : Option Int) (hE : ∀ e ∈ E, e.2.1 < n) :
    ∀ (fuel : Nat) (st : HSt Int), HInv E n s isGoal (maxCost = none) none st →
      HPost maxCost isGoal (HInv E n s isGoal (maxCost = none) none) (HMid E n s isGoal (maxCost = none))
        (hLoop intNum (adjOf E) fOf isGoal maxIter maxCost fuel st) :=
  hLoop_rule _ _ (fun _ _ _ inv hp hc => hinv_skip inv hp hc) (fun _ _ _ inv hp hc => hinv_close inv hp hc)
    (fun _ _ _ mid hpr => hinv_prune (fun h => by rw [h] at hpr; exact Bool.false_ne_true hpr) mid)
    (fun cur c st mid _ hg =>
      have ⟨sc, _, dn⟩ := hrelax_fold fOf hE (adjOf E cur) st (fun _ h => mem_adjOf.mp h) mid.scan
      hinv_finish sc hg dn)

end loop

section result
variable {E : List (Edge Int)} {n s : Nat}
open Solvor.Gen (Status)

theorem hresult_sound (T : List Nat) (maxCost : Option Int) (okStatus : Status)
    (hok : okStatus ≠ .INFEASIBLE ∧ okStatus ≠ .MAX_ITER) (out : HOut Int)
    (h : HPost maxCost T.contains (HInv E n s T.contains (maxCost = none) none)
      (HMid E n s T.contains (maxCost = none)) out) :
    let r := hResult n okStatus out
    (r.status = okStatus → ∃ p c, r.path = some p ∧ r.cost = some c ∧ pathOK E s T p c = true) ∧
      (r.status = .INFEASIBLE → maxCost = none → ∀ t ∈ T, ¬ Reach E s t) := by
  cases out with
  | found cur st' =>
    obtain ⟨c, ⟨inv, hcc, hgc, hnp⟩, _, hg⟩ := h
    obtain ⟨k, hk, hks, _⟩ := inv.chain cur c hgc
    have hlen : st'.closed.length ≤ n := nodup_length_le inv.closed_nodup inv.closed_lt
    have rel : ∀ x u, look st'.parent x = some u → ∀ w', (u, x, w') ∈ E →
        ∃ gu gx, look st'.g u = some gu ∧ look st'.g x = some gx ∧ gx ≤ gu + w' := by
      intro x u hp w' he
      refine inv.relaxed x u hp (fun h => hnp x ?_) w' he
      rw [hp]; exact h.symm
    obtain ⟨p, hr, _, hp⟩ := recon_pathOK (hk.trail rel) (fuel := n + 1) (by have := hks hcc; omega) hg
    exact ⟨fun _ => ⟨p, c, hr, hgc, hp⟩, fun h => absurd h hok.1⟩
  | infeasible st' =>
    obtain ⟨inv, hheap⟩ := h
    refine ⟨fun h => absurd h.symm hok.1, fun _ hmc t ht hreach => ?_⟩
    obtain ⟨c, hw⟩ := hreach
    -- with an empty heap every node that has a `g` is closed
    have hfin : ∀ v c, look st'.g v = some c → v ∈ st'.closed := by
      intro v c hv
      rcases inv.open_heap v c hv with h | ⟨e, he, _⟩
      · exact h
      · rw [hheap] at he; cases he
    have hsc : s ∈ st'.closed := hfin s 0 inv.start_g
    have htc : t ∈ st'.closed := hw.closed (P := (· ∈ st'.closed)) (fun e he hu =>
      ((inv.expanded hmc _ hu (by simp)).2 e he rfl).elim fun gv hgv => hfin _ gv hgv) hsc
    have := (inv.expanded hmc t htc (by simp)).1
    have ht' : T.contains t = true := by simpa using ht
    rw [ht'] at this; cases this
  | maxIter st' =>
    exact ⟨fun h => absurd h.symm hok.2, fun h => (by cases h)⟩
  | fuel =>
    exact ⟨fun h => absurd h.symm hok.2, fun h => (by cases h)⟩

theorem hsearch_sound (fOf : Int → Nat → Int) (T : List Nat) (maxIter : Nat) (maxCost : Option Int)
    (okStatus : Status) (hok : okStatus ≠ .INFEASIBLE ∧ okStatus ≠ .MAX_ITER) (hs : s < n) (hE : ∀ e ∈ E, e.2.1 < n) :
    let r := hSearch intNum n E.length (adjOf E) fOf s T.contains maxIter maxCost okStatus
    (r.status = okStatus → ∃ p c, r.path = some p ∧ r.cost = some c ∧ pathOK E s T p c = true) ∧
      (r.status = .INFEASIBLE → maxCost = none → ∀ t ∈ T, ¬ Reach E s t) :=
  hresult_sound T maxCost okStatus hok _
    (hloop_inv (E := E) (n := n) (s := s) (isGoal := T.contains) fOf maxIter maxCost hE (E.length + 2) _
      (hinv_init (noCost := maxCost = none) fOf hs))

end result

end Solvor.Path
