import Solvor.Path.Lemmas
/-! Path: the easy half of Floyd-Warshall — every finite entry of the mirror's matrix is the weight
of a real walk (so a negative diagonal entry exhibits a negative closed walk). -/
namespace Solvor.Path

theorem Mat.get_set (m : Mat) (i j i' j' : Nat) (v : Option Int) :
    Mat.get (Mat.set m i j v) i' j' =
      if i = i' ∧ j = j' ∧ i < m.length ∧ j < (List.getD m i []).length then v else Mat.get m i' j' := by
  unfold Mat.get Mat.set
  rw [getD_set]
  by_cases hi : i = i' ∧ i < m.length
  · obtain ⟨rfl, hl⟩ := hi
    rw [if_pos ⟨rfl, hl⟩, getD_set]
    by_cases hj : j = j' ∧ j < (List.getD m i []).length
    · rw [if_pos hj, if_pos ⟨rfl, hj.1, hl, hj.2⟩]
    · rw [if_neg hj, if_neg fun c => hj ⟨c.2.1, c.2.2.2⟩]
  · rw [if_neg hi, if_neg fun c => hi ⟨c.1, c.2.2.1⟩]
theorem Mat.get_set_cases {m : Mat} {i j i' j' : Nat} {v : Option Int} {c : Int}
    (h : Mat.get (Mat.set m i j v) i' j' = some c) :
    (i' = i ∧ j' = j ∧ v = some c) ∨ Mat.get m i' j' = some c := by
  rw [Mat.get_set] at h
  split at h
  · next hc => exact Or.inl ⟨hc.1.symm, hc.2.1.symm, h⟩
  · exact Or.inr h

def FWReal (E : List (Edge Int)) (m : Mat) : Prop := ∀ i j c, Mat.get m i j = some c → Walk E i j c

/-- the matrix `fwInit` starts from: 0 on the diagonal, `inf` elsewhere -/
abbrev fwMat0 (n : Nat) : Mat :=
  (List.range n).map fun i => (List.range n).map fun j => if i = j then some 0 else none

theorem Mat.get_fwMat0 (n i j : Nat) :
    Mat.get (fwMat0 n) i j = if i < n ∧ j < n ∧ i = j then some 0 else none := by
  unfold Mat.get fwMat0
  by_cases hi : i < n
  · rw [getD_map_range _ _ hi]
    by_cases hj : j < n
    · rw [getD_map_range _ _ hj]
      by_cases e : i = j
      · rw [if_pos e, if_pos ⟨hi, hj, e⟩]
      · rw [if_neg e, if_neg fun h => e h.2.2]
    · rw [getD_of_ge (by rw [List.length_map, List.length_range]; exact Nat.le_of_not_lt hj), if_neg fun h => hj h.2.1]
  · rw [getD_of_ge (d := ([] : List (Option Int))) (by rw [List.length_map, List.length_range]; exact Nat.le_of_not_lt hi),
      if_neg fun h => hi h.1]
    rfl

theorem fwReal_init0 (E : List (Edge Int)) (n : Nat) : FWReal E (fwMat0 n) := by
  intro i j c h
  rw [Mat.get_fwMat0] at h
  split at h
  · next hc => cases h; rw [hc.2.2]; exact Walk.nil j
  · cases h

theorem fwReal_put {E : List (Edge Int)} {m : Mat} (hr : FWReal E m) {u v : Nat} {w : Int} (he : (u, v, w) ∈ E) :
    FWReal E (fwPut m u v w) := by
  have hnew : FWReal E (Mat.set m u v (some w)) := by
    intro i j c h
    rcases Mat.get_set_cases h with ⟨hi, hj, hv⟩ | h'
    · subst hi; subst hj; cases hv
      have := Walk.single he
      rwa [Int.add_zero] at this
    · exact hr i j c h'
  unfold fwPut
  split
  · exact hnew
  · split
    · exact hnew
    · exact hr

theorem fwReal_relax {E : List (Edge Int)} {m : Mat} (hr : FWReal E m) (k i j : Nat) : FWReal E (fwRelax m k i j) := by
  unfold fwRelax
  split
  · intro i' j' c h
    rcases Mat.get_set_cases h with ⟨hi, hj, hv⟩ | h'
    · subst hi; subst hj
      cases hik : Mat.get m i' k with
      | none => simp [optAdd, hik] at hv
      | some x =>
        cases hkj : Mat.get m k j' with
        | none => simp [optAdd, hik, hkj] at hv
        | some y =>
          simp only [optAdd, hik, hkj, Option.some.injEq] at hv
          subst hv
          exact Walk.append (hr i' k x hik) (hr k j' y hkj)
    · exact hr i' j' c h'
  · exact hr

theorem fwReal_loop {E : List (Edge Int)} (n : Nat) {m : Mat} (hr : FWReal E m) : FWReal E (fwLoop n m) := by
  unfold fwLoop
  refine foldl_inv (FWReal E) hr fun m k _ hm => ?_
  refine foldl_inv (FWReal E) hm fun m i _ hm => ?_
  exact foldl_inv (FWReal E) hm fun m j _ hm => fwReal_relax hm k i j

theorem mem_symE {E : List (Edge Int)} {e : Edge Int} :
    e ∈ symE E ↔ ∃ e0 ∈ E, e = e0 ∨ e = (e0.2.1, e0.1, e0.2.2) := by
  simp only [symE, List.mem_flatMap, List.mem_cons, List.not_mem_nil, or_false]

theorem fwReal_init (n : Nat) (E : List (Edge Int)) (directed : Bool) :
    FWReal (if directed then E else symE E) (fwInit n E directed) := by
  unfold fwInit
  refine foldl_inv (l := E) (FWReal _) (fwReal_init0 _ n) fun m e he h => ?_
  cases directed with
  | true => exact fwReal_put h (by simpa using he)
  | false =>
    exact fwReal_put (fwReal_put h (mem_symE.mpr ⟨e, he, Or.inl rfl⟩)) (mem_symE.mpr ⟨e, he, Or.inr rfl⟩)

/-- some diagonal entry is negative: the test `floydWarshall` answers UNBOUNDED on -/
def NegDiag (n : Nat) (m : Mat) : Prop := ∃ i, i < n ∧ ∃ x, Mat.get m i i = some x ∧ x < 0

theorem floydWarshall_cases (n : Nat) (E : List (Edge Int)) (directed : Bool) :
    (NegDiag n (fwLoop n (fwInit n E directed)) ∧ floydWarshall n E directed = ⟨.UNBOUNDED, none⟩) ∨
    ((∀ i, i < n → ∀ d, Mat.get (fwLoop n (fwInit n E directed)) i i = some d → 0 ≤ d) ∧
      floydWarshall n E directed = ⟨.OPTIMAL, some (fwLoop n (fwInit n E directed))⟩) := by
  unfold floydWarshall
  dsimp only
  split
  · next hany =>
    obtain ⟨i, hi, hx⟩ := List.any_eq_true.mp hany
    refine Or.inl ⟨⟨i, List.mem_range.mp hi, ?_⟩, rfl⟩
    split at hx
    · next x hg => exact ⟨x, hg, of_decide_eq_true hx⟩
    · cases hx
  · next hany =>
    refine Or.inr ⟨fun i hi d hd => Int.not_lt.mp fun hneg => hany ?_, rfl⟩
    exact List.any_eq_true.mpr ⟨i, List.mem_range.mpr hi, by rw [hd]; exact decide_eq_true hneg⟩

end Solvor.Path
