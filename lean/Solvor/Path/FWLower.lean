import Solvor.Path.FloydWarshall
/-! Path: the lower-bound half of Floyd-Warshall — if no diagonal entry ends up negative, every entry is at most the
weight of every walk (induction on the phases over walks whose intermediate nodes are below `K`).  Entries are compared
in the order `OLe`, in which `none` is `+∞` and `optAddLt a b c` tests `a + b < c`. -/
namespace Solvor.Path

def Dim (m : Mat) (n : Nat) : Prop := m.length = n ∧ ∀ r ∈ m, r.length = n

theorem Dim.row {m : Mat} {n : Nat} (h : Dim m n) {i : Nat} (hi : i < n) : (List.getD m i []).length = n := by
  have hl : i < m.length := by rw [h.1]; exact hi
  rw [List.getD_eq_getElem?_getD, List.getElem?_eq_getElem hl]
  exact h.2 _ (List.getElem_mem hl)

theorem Mat.get_set_eq {m : Mat} {n i j : Nat} (h : Dim m n) (hi : i < n) (hj : j < n) (v : Option Int) :
    Mat.get (Mat.set m i j v) i j = v := by
  rw [Mat.get_set, if_pos ⟨rfl, rfl, h.1 ▸ hi, (h.row hi).symm ▸ hj⟩]

theorem Mat.get_set_ne {m : Mat} {i j i' j' : Nat} (v : Option Int) (hne : i ≠ i' ∨ j ≠ j') :
    Mat.get (Mat.set m i j v) i' j' = Mat.get m i' j' := by
  rw [Mat.get_set, if_neg fun c => hne.elim (· c.1) (· c.2.1)]

theorem Dim.set {m : Mat} {n : Nat} (h : Dim m n) (i j : Nat) (v : Option Int) : Dim (Mat.set m i j v) n := by
  unfold Mat.set
  by_cases hi : i < n
  · refine ⟨by simp [h.1], ?_⟩
    intro r hr
    rcases List.mem_or_eq_of_mem_set hr with h' | h'
    · exact h.2 r h'
    · rw [h', List.length_set]; exact h.row hi
  · rw [List.set_eq_of_length_le (by rw [h.1]; exact Nat.le_of_not_lt hi)]; exact h

theorem optAdd_mono {a a' b b' : Option Int} (ha : OLe a a') (hb : OLe b b') : OLe (optAdd a b) (optAdd a' b') := by
  intro z hz
  cases a' with
  | none => cases hz
  | some x =>
    cases b' with
    | none => cases hz
    | some y =>
      obtain ⟨x', hx', lx⟩ := ha x rfl
      obtain ⟨y', hy', ly⟩ := hb y rfl
      cases hz
      exact ⟨x' + y', by rw [hx', hy']; rfl, Int.add_le_add lx ly⟩

theorem optAddLt_true {a b c : Option Int} (h : optAddLt a b c = true) :
    ∃ s, optAdd a b = some s ∧ ∀ z, c = some z → s < z := by
  cases a with
  | none => cases h
  | some x =>
    cases b with
    | none => cases h
    | some y =>
      refine ⟨x + y, rfl, fun z hz => ?_⟩
      subst hz
      exact of_decide_eq_true h

theorem optAddLt_false {a b c : Option Int} (h : optAddLt a b c = false) : OLe c (optAdd a b) := by
  intro s hs
  cases a with
  | none => cases hs
  | some x =>
    cases b with
    | none => cases hs
    | some y =>
      cases hs
      cases c with
      | none => cases h
      | some z => exact ⟨z, rfl, Int.not_lt.mp (of_decide_eq_false h)⟩

/-- entries only decrease -/
def Mono (m m' : Mat) : Prop := ∀ a b, OLe (Mat.get m' a b) (Mat.get m a b)

theorem Mono.refl (m : Mat) : Mono m m := fun _ _ => OLe.refl _

theorem Mono.trans {m1 m2 m3 : Mat} (h1 : Mono m1 m2) (h2 : Mono m2 m3) : Mono m1 m3 :=
  fun a b => (h2 a b).trans (h1 a b)

theorem Mono.set {m : Mat} {n i j : Nat} {x : Int} (hd : Dim m n) (hi : i < n) (hj : j < n)
    (h : ∀ d, Mat.get m i j = some d → x ≤ d) : Mono m (Mat.set m i j (some x)) := by
  intro a b
  by_cases hab : i = a ∧ j = b
  · obtain ⟨rfl, rfl⟩ := hab
    rw [Mat.get_set_eq hd hi hj]
    exact fun d hd => ⟨x, rfl, h d hd⟩
  · rw [Mat.get_set_ne _ (Decidable.not_and_iff_not_or_not.mp hab)]
    exact OLe.refl _

/-- `m'` has the triangle through `k` of `m` at `(i, j)` -/
def Tri (k i j : Nat) (m m' : Mat) : Prop := OLe (Mat.get m' i j) (optAdd (Mat.get m i k) (Mat.get m k j))

theorem fwRelax_spec {m : Mat} {n k i j : Nat} (hd : Dim m n) (hi : i < n) (hj : j < n) :
    Dim (fwRelax m k i j) n ∧ Mono m (fwRelax m k i j) ∧ Tri k i j m (fwRelax m k i j) := by
  unfold fwRelax Tri
  by_cases hlt : optAddLt (Mat.get m i k) (Mat.get m k j) (Mat.get m i j) = true
  · rw [if_pos hlt]
    obtain ⟨s, hs, hc⟩ := optAddLt_true hlt
    rw [hs, Mat.get_set_eq hd hi hj]
    exact ⟨hd.set _ _ _, Mono.set hd hi hj fun d hab => Int.le_of_lt (hc d hab), OLe.refl _⟩
  · rw [if_neg hlt]
    exact ⟨hd, Mono.refl m, optAddLt_false ((Bool.not_eq_true _).mp hlt)⟩

theorem fw_inner {n k i : Nat} (hi : i < n) {m : Mat} (hd : Dim m n) :
    Dim ((List.range n).foldl (fun m j => fwRelax m k i j) m) n ∧
      Mono m ((List.range n).foldl (fun m j => fwRelax m k i j) m) ∧
      ∀ j, j < n → Tri k i j m ((List.range n).foldl (fun m j => fwRelax m k i j) m) := by
  obtain ⟨d1, m1, a1⟩ := fold_decreasing Mono Mono.refl Mono.trans (I := (Dim · n)) (ok := (· < n)) (Q := Tri k i)
    (hstep := fun m j hj hd => fwRelax_spec hd hi hj) (hpost := fun _ _ _ _ h hm => (hm _ _).trans h)
    (hpre := fun _ _ _ _ hm h => h.trans (optAdd_mono (hm _ _) (hm _ _)))
    (List.range n) m (fun j hj => List.mem_range.mp hj) hd
  exact ⟨d1, m1, fun j hj => a1 j (List.mem_range.mpr hj)⟩

def fwPhase (n : Nat) (m : Mat) (k : Nat) : Mat :=
  (List.range n).foldl (fun m i => (List.range n).foldl (fun m j => fwRelax m k i j) m) m

theorem fwLoop_eq (n : Nat) (m : Mat) : fwLoop n m = (List.range n).foldl (fwPhase n) m := rfl

theorem fwPhase_spec {n k : Nat} {m : Mat} (hd : Dim m n) :
    Dim (fwPhase n m k) n ∧ Mono m (fwPhase n m k) ∧
      ∀ i j, i < n → j < n → Tri k i j m (fwPhase n m k) := by
  obtain ⟨d1, m1, a1⟩ := fold_decreasing Mono Mono.refl Mono.trans (I := (Dim · n)) (ok := (· < n))
    (Q := fun i m m' => ∀ j, j < n → Tri k i j m m') (hstep := fun m i hi hd => fw_inner hi hd)
    (hpost := fun _ _ _ _ h hm j hj => (hm _ _).trans (h j hj))
    (hpre := fun _ _ _ _ hm h j hj => (h j hj).trans (optAdd_mono (hm _ _) (hm _ _)))
    (List.range n) m (fun i hi => List.mem_range.mp hi) hd
  exact ⟨d1, m1, fun i j hi hj => a1 i (List.mem_range.mpr hi) j hj⟩

/-- a walk whose intermediate nodes are all `< K` (`edge`: no intermediate node, so no bound on the end point) -/
inductive WalkK (E : List (Edge Int)) (K : Nat) : Nat → Nat → Int → Prop
  | nil (u : Nat) : WalkK E K u u 0
  | edge {u v : Nat} {w : Int} : (u, v, w) ∈ E → WalkK E K u v w
  | cons {u v t : Nat} {w c : Int} : (u, v, w) ∈ E → v < K → WalkK E K v t c → WalkK E K u t (w + c)

theorem Walk.toK {E : List (Edge Int)} {n : Nat} (hE : ∀ e ∈ E, e.2.1 < n) {u t : Nat} {c : Int}
    (h : Walk E u t c) : WalkK E n u t c := by
  induction h with
  | nil u => exact WalkK.nil u
  | cons he _ ih => exact WalkK.cons he (hE _ he) ih

theorem WalkK.decomp {E : List (Edge Int)} {K : Nat} (hloop : ∀ a, WalkK E K K K a → 0 ≤ a) {i j : Nat} {c : Int}
    (h : WalkK E (K + 1) i j c) :
    WalkK E K i j c ∨ ∃ a b, WalkK E K i K a ∧ WalkK E K K j b ∧ a + b ≤ c := by
  induction h with
  | nil u => left; exact WalkK.nil u
  | edge he => left; exact WalkK.edge he
  | @cons u v t w c he hv _ ih =>
    by_cases hvK : v < K
    · rcases ih with h1 | ⟨a, b, h1, h2, h3⟩
      · left; exact WalkK.cons he hvK h1
      · right; exact ⟨w + a, b, WalkK.cons he hvK h1, h2, by omega⟩
    · have hvK' : v = K := by omega
      subst hvK'
      right
      rcases ih with h1 | ⟨a, b, h1, h2, h3⟩
      · exact ⟨w, c, WalkK.edge he, h1, Int.le_refl _⟩
      · have := hloop a h1
        exact ⟨w, b, WalkK.edge he, h2, by omega⟩

/-- every entry bounds the walks with intermediate nodes below `K` -/
def PK (E : List (Edge Int)) (n K : Nat) (m : Mat) : Prop :=
  ∀ i j c, i < n → j < n → WalkK E K i j c → OLe (Mat.get m i j) (some c)

theorem pk_step {E : List (Edge Int)} {n K : Nat} {m : Mat} (hK : K < n) (hd : Dim m n) (hp : PK E n K m)
    (hdiag : ∀ d, Mat.get m K K = some d → 0 ≤ d) : PK E n (K + 1) (fwPhase n m K) := by
  obtain ⟨_, hm, ha⟩ := fwPhase_spec (k := K) hd
  have hloop : ∀ a, WalkK E K K K a → 0 ≤ a := fun a hw =>
    (hp K K a hK hK hw a rfl).elim fun d h => Int.le_trans (hdiag d h.1) h.2
  intro i j c hi hj hw
  rcases hw.decomp hloop with h1 | ⟨a, b, h1, h2, h3⟩
  · exact (hm i j).trans (hp i j c hi hj h1)
  · exact ((ha i j hi hj).trans (optAdd_mono (hp i K a hi hK h1) (hp K j b hK hj h2))).trans (OLe.some h3)

theorem NegDiag.mono {n : Nat} {m m' : Mat} (h : NegDiag n m) (hm : Mono m m') : NegDiag n m' :=
  h.elim fun i ⟨hi, x, hx, hneg⟩ => (hm i i x hx).elim fun x' h' => ⟨i, hi, x', h'.1, Int.lt_of_le_of_lt h'.2 hneg⟩

/-- The phase induction: after `k` phases every entry bounds the walks through nodes `< k`, unless some diagonal entry
has become negative (and then one stays negative, entries only decrease). -/
theorem fw_lower {E : List (Edge Int)} {n : Nat} {m0 : Mat} (hd : Dim m0 n) (h0 : PK E n 0 m0) :
    PK E n n (fwLoop n m0) ∨ NegDiag n (fwLoop n m0) :=
  fwLoop_eq n m0 ▸ (foldl_range_inv (fun k m => Dim m n ∧ (PK E n k m ∨ NegDiag n m)) (fwPhase n) m0 ⟨hd, Or.inl h0⟩ n
    fun k m hk ⟨hd, h⟩ => by
      obtain ⟨hd', hm, _⟩ := fwPhase_spec (k := k) hd
      refine ⟨hd', h.elim (fun hp => ?_) fun hneg => Or.inr (hneg.mono hm)⟩
      cases hkk : Mat.get m k k with
      | none => exact Or.inl (pk_step hk hd hp fun d h => by rw [hkk] at h; cases h)
      | some d =>
        by_cases hd0 : 0 ≤ d
        · exact Or.inl (pk_step hk hd hp fun d' h => by rw [hkk] at h; cases h; exact hd0)
        · exact Or.inr (NegDiag.mono ⟨k, hk, d, hkk, Int.not_le.mp hd0⟩ hm)).2

theorem fwPut_spec {m : Mat} {n u v : Nat} (w : Int) (hd : Dim m n) (hu : u < n) (hv : v < n) :
    Dim (fwPut m u v w) n ∧ Mono m (fwPut m u v w) ∧ OLe (Mat.get (fwPut m u v w) u v) (some w) := by
  have hset : ∀ h, Dim (Mat.set m u v (some w)) n ∧ Mono m (Mat.set m u v (some w)) ∧
      OLe (Mat.get (Mat.set m u v (some w)) u v) (some w) := fun h =>
    ⟨hd.set _ _ _, Mono.set hd hu hv h, by rw [Mat.get_set_eq hd hu hv]; exact OLe.refl _⟩
  unfold fwPut
  cases hg : Mat.get m u v with
  | none => exact hset fun d h => by rw [hg] at h; cases h
  | some x =>
    dsimp only
    split
    · next hlt => exact hset fun d h => by rw [hg] at h; cases h; exact Int.le_of_lt hlt
    · next hlt => exact ⟨hd, Mono.refl m, by rw [hg]; exact OLe.some (Int.not_lt.mp hlt)⟩

theorem fwInit0_spec (n : Nat) : Dim (fwMat0 n) n ∧ ∀ i, i < n → Mat.get (fwMat0 n) i i = some 0 := by
  unfold fwMat0
  refine ⟨⟨by simp, ?_⟩, ?_⟩
  · intro r hr
    simp only [List.mem_map] at hr
    obtain ⟨i, _, rfl⟩ := hr
    simp
  · intro i hi
    rw [Mat.get_fwMat0, if_pos ⟨hi, hi, rfl⟩]

theorem fwInit_spec (n : Nat) (E : List (Edge Int)) (directed : Bool) (hE : ∀ e ∈ E, e.1 < n ∧ e.2.1 < n) :
    Dim (fwInit n E directed) n ∧ PK (if directed then E else symE E) n 0 (fwInit n E directed) := by
  -- every processed edge bounds its entry (both entries if undirected), and entries only decrease afterwards
  have key := fold_decreasing Mono Mono.refl Mono.trans (I := (Dim · n))
    (step := fun m (e : Edge Int) =>
      let m := fwPut m e.1 e.2.1 e.2.2
      if directed then m else fwPut m e.2.1 e.1 e.2.2) (ok := fun e => e.1 < n ∧ e.2.1 < n)
    (Q := fun e _ m' => OLe (Mat.get m' e.1 e.2.1) (some e.2.2) ∧ (directed = false → OLe (Mat.get m' e.2.1 e.1) (some e.2.2)))
    (hstep := fun m e he hd => by
      obtain ⟨d1, m1, a1⟩ := fwPut_spec e.2.2 hd he.1 he.2
      cases directed with
      | true => exact ⟨d1, m1, a1, fun h => nomatch h⟩
      | false =>
        obtain ⟨d2, m2, a2⟩ := fwPut_spec e.2.2 d1 he.2 he.1
        exact ⟨d2, m1.trans m2, (m2 _ _).trans a1, fun _ => a2⟩)
    (hpost := fun _ _ _ _ h hm => ⟨(hm _ _).trans h.1, fun hd => (hm _ _).trans (h.2 hd)⟩) (hpre := fun _ _ _ _ _ h => h)
  obtain ⟨hd0, hdiag0⟩ := fwInit0_spec n
  obtain ⟨hd, hm, ha⟩ := key E _ hE hd0
  refine ⟨hd, ?_⟩
  intro i j c hi hj hw
  cases hw with
  | nil u => rw [← hdiag0 i hi]; exact hm i i
  | @edge u v w he =>
    cases directed with
    | true =>
      simp only [if_true] at he
      exact (ha _ he).1
    | false =>
      obtain ⟨e, heE, rfl | h⟩ := mem_symE.mp he
      · exact (ha _ heE).1
      · cases h; exact (ha _ heE).2 rfl
  | cons he hv _ => exact absurd hv (Nat.not_lt_zero _)

end Solvor.Path
