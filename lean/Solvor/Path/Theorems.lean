import Solvor.Path.Lemmas
import Solvor.Path.BellmanFord
import Solvor.Path.Search
import Solvor.Path.Sqrt2
import Solvor.Path.HSearch
import Solvor.Path.Dijkstra
import Solvor.Path.FloydWarshall
import Solvor.Path.BFRounds
import Solvor.Path.FWLower
/-! Path: the property theorems of C11.  The certificate theorems (checker accepts ⇒ property) hold for every graph and
every candidate answer; the others are about the mirrors of Model.lean, for every input.  A goal given as a value is the
goal set `T = [t]`, a goal predicate the set of nodes satisfying it. -/
namespace Solvor.Path
set_option linter.unusedSectionVars false
open Solvor.Gen (Status)

section certificates
variable {W : Type} [Add W] [Zero W] [LE W] [DecidableLE W] [DecidableEq W] [OrdW W]

/-- C11 `potential_lower_bound`: a potential accepted by the Bool checker `feasible` that is 0 at `s` bounds every walk
from `s` from below. -/
theorem potential_lower_bound {E : List (Edge W)} {d : Tab W} {s t : Nat} {c : W}
    (hf : feasible E d = true) (hs : look d s = some 0) (hw : Walk E s t c) :
    ∃ b, look d t = some b ∧ b ≤ c := by
  obtain ⟨b, hb, hle⟩ := potential_walk hf hw 0 hs
  exact ⟨b, hb, by rwa [OrdW.zero_add] at hle⟩

example : feasible [((0 : Nat), (1 : Nat), (2 : Int)), (1, 2, -1), (0, 2, 5), (2, 2, 0)] [some 0, some 2, some 1] = true ∧
    look ([some 0, some 2, some 1] : Tab Int) 0 = some 0 := by decide

omit [OrdW W] in
/-- C11 `path_upper_bound`: a path accepted by the Bool checker `pathOK` is a walk of the reported cost from `s` to a
goal node. -/
theorem path_upper_bound {E : List (Edge W)} {s : Nat} {T : List Nat} {path : List Nat} {cost : W}
    (h : pathOK E s T path cost = true) :
    ∃ t ∈ T, path.head? = some s ∧ path.getLast? = some t ∧ pathCost E path = some cost ∧ Walk E s t cost := by
  unfold pathOK at h
  simp only [Bool.and_eq_true, beq_iff_eq] at h
  obtain ⟨⟨hh, hl⟩, hc⟩ := h
  obtain ⟨u, t, hu, ht, hw⟩ := pathCost_walk hc
  rw [hu] at hh; cases hh
  rw [ht] at hl
  exact ⟨t, List.contains_iff_mem.mp hl, hu, ht, hc, hw⟩

example : pathOK [((0 : Nat), (1 : Nat), (2 : Int)), (0, 1, 1), (1, 2, -1), (0, 2, 5)] 0 [2] [0, 1, 2] 0 = true := by decide

/-- C11 `dist_exact_cert`: an answer accepted by `distCert` (potential + path) is exact. -/
theorem dist_exact_cert {E : List (Edge W)} {s : Nat} {T : List Nat} {pot : Tab W} {path : List Nat} {cost : W}
    (h : distCert E s T pot path cost = true) :
    IsGoalDist E s T cost ∧
      ∃ t ∈ T, path.head? = some s ∧ path.getLast? = some t ∧ pathCost E path = some cost ∧ IsDist E s t cost := by
  unfold distCert at h
  rw [Bool.and_eq_true] at h
  obtain ⟨t, ht, hh, hl, hc, hw⟩ := path_upper_bound h.2
  have hlow := lowerCert_sound h.1
  exact ⟨⟨⟨t, ht, hw⟩, hlow⟩, t, ht, hh, hl, hc, hw, hlow t ht⟩

example : distCert [((0 : Nat), (1 : Nat), (2 : Int)), (0, 1, 1), (1, 2, -1), (0, 2, 5)] 0 [2]
    [some 0, some 1, some 0] [0, 1, 2] 0 = true := by decide

omit [LE W] [DecidableLE W] [DecidableEq W] [OrdW W] in
/-- C11 `closed_set_unreachable`: a set accepted by the Bool checker `unreachCert` shows that no goal node is
reachable. -/
theorem closed_set_unreachable {E : List (Edge W)} {s : Nat} {T S : List Nat}
    (h : unreachCert E s T S = true) : ∀ t ∈ T, ¬ Reach E s t := by
  unfold unreachCert at h
  simp only [Bool.and_eq_true, List.all_eq_true, List.contains_iff_mem, Bool.not_eq_eq_eq_not,
    Bool.not_true] at h
  obtain ⟨⟨hs, hc⟩, hT⟩ := h
  rintro t ht ⟨c, hw⟩
  have := hT t ht
  simp only [List.contains_eq_mem, decide_eq_false_iff_not] at this
  exact this (closed_walk hc hw hs)

example : unreachCert [((0 : Nat), (1 : Nat), (2 : Int)), (1, 0, 1), (2, 1, 1)] 0 [2] [0, 1] = true := by decide

end certificates

/-- C11 `neg_cycle_cert`: a certificate accepted by `negCycleCert` shows that a negative cycle is reachable from `s`,
hence that there is no finite shortest distance. -/
theorem neg_cycle_cert {E : List (Edge Int)} {s : Nat} {p cyc : List Nat} (h : negCycleCert E s p cyc = true) :
    ∃ x, Reach E s x ∧ (∃ c, c < 0 ∧ Walk E x x c) ∧ ∀ B : Int, ∃ w, Walk E s x w ∧ w < B := by
  unfold negCycleCert at h
  simp only [Bool.and_eq_true, beq_iff_eq] at h
  obtain ⟨⟨⟨⟨⟨hh, hp⟩, hpl⟩, hcl⟩, hcs⟩, hneg⟩ := h
  obtain ⟨a, ha⟩ := Option.isSome_iff_exists.mp hp
  obtain ⟨u, x, hu, hx, hw1⟩ := pathCost_walk ha
  rw [hu] at hh; cases hh
  cases hcc : pathCost E cyc with
  | none => simp [hcc] at hneg
  | some c =>
    simp only [hcc, decide_eq_true_eq] at hneg
    obtain ⟨y, z, hy, hz, hw2⟩ := pathCost_walk hcc
    -- the path ends where the closed path starts and ends
    rw [hx, hy] at hpl; cases hpl
    rw [hy, hz] at hcl; cases hcl
    exact ⟨x, ⟨a, hw1⟩, ⟨c, hneg, hw2⟩, neg_cycle_unbounded hw1 hw2 hneg⟩

example : negCycleCert [((0 : Nat), (1 : Nat), (1 : Int)), (1, 2, -3), (2, 1, 1)] 0 [0, 1] [1, 2, 1] = true := by decide

/-- C11 `bellman_ford_correct` [C].  For every edge list (duplicates, self loops, negative weights, endpoints not even
required to be in range): if the mirror of `bellman_ford` (detection round and predecessor-cycle guard) does not answer
UNBOUNDED, `dist` is exact and no negative cycle is reachable (so: a reachable negative cycle ⇒ UNBOUNDED), and in
target mode status, objective and path are right, the path being accepted by `pathOK`.
(The converse is `bf_rounds_bound`; on every explored input it is also decided by `neg_cycle_cert` on the cycle the
model extracts.) -/
theorem bellman_ford_correct (n : Nat) (E : List (Edge Int)) (s : Nat) (target : Option Nat) (hs : s < n)
    (hnu : (bellmanFord n E s target).status ≠ .UNBOUNDED) :
    (∀ v c, look (bellmanFord n E s target).dist v = some c → IsDist E s v c) ∧
    (∀ v, look (bellmanFord n E s target).dist v = none → ¬ Reach E s v) ∧
    (∀ x c, Reach E s x → Walk E x x c → 0 ≤ c) ∧
    (target = none → (bellmanFord n E s target).status = .OPTIMAL) ∧
    (∀ t, target = some t →
      ((bellmanFord n E s target).status = .INFEASIBLE ↔ ¬ Reach E s t) ∧
      ((bellmanFord n E s target).status = .OPTIMAL ↔ Reach E s t) ∧
      (∀ c, (bellmanFord n E s target).cost = some c → IsDist E s t c) ∧
      (∀ p, (bellmanFord n E s target).path = some p →
        ∃ c, (bellmanFord n E s target).cost = some c ∧ pathOK E s [t] p c = true)) := by
  have inv := bfInv_rounds (E := E) (n - 1) (bfInit n s) (bfInv_init E hs)
  unfold bellmanFord at hnu ⊢
  generalize bfRounds E (n - 1) (bfInit n s) = st at inv hnu ⊢
  obtain ⟨hany, hcyc⟩ := bfFinish_not_unbounded hnu
  have F := bfFinal_of_inv inv hany
  have exact : ∀ v c, look st.dist v = some c → IsDist E s v c := by
    intro v c h
    refine ⟨F.real v c h, fun c' hw => ?_⟩
    obtain ⟨b, hb, hle⟩ := potential_lower_bound F.feas F.start0 hw
    rw [h] at hb; cases hb; exact hle
  have unreach : ∀ v, look st.dist v = none → ¬ Reach E s v := by
    rintro v h ⟨c, hw⟩
    obtain ⟨b, hb, _⟩ := potential_lower_bound F.feas F.start0 hw
    rw [h] at hb; cases hb
  have nocyc : ∀ x c, Reach E s x → Walk E x x c → 0 ≤ c := by
    rintro x c ⟨a, hw⟩ hc
    obtain ⟨b, hb, _⟩ := potential_lower_bound F.feas F.start0 hw
    obtain ⟨b', hb', hle⟩ := potential_walk F.feas hc b hb
    rw [hb] at hb'; cases hb'; omega
  rw [bfFinish_quiet target hany hcyc]
  cases target with
  | none => exact ⟨exact, unreach, nocyc, fun _ => rfl, (fun t ht => nomatch ht)⟩
  | some t =>
    dsimp only
    cases hd : look st.dist t with
    | none =>
      refine ⟨exact, unreach, nocyc, (fun h => nomatch h), ?_⟩
      rintro _ ⟨⟩
      exact ⟨⟨fun _ => unreach t hd, fun _ => rfl⟩, ⟨(fun h => nomatch h), fun h => absurd h (unreach t hd)⟩,
        (fun c h => nomatch h), (fun p h => nomatch h)⟩
    | some c =>
      have hreach : Reach E s t := ⟨c, F.real t c hd⟩
      refine ⟨exact, unreach, nocyc, (fun h => nomatch h), ?_⟩
      rintro _ ⟨⟩
      refine ⟨⟨(fun h => nomatch h), fun h => absurd hreach h⟩, ⟨fun _ => hreach, fun _ => rfl⟩, ?_, ?_⟩
      · rintro _ ⟨⟩; exact exact t c hd
      · intro p h
        -- the guard found no predecessor cycle, so the chain from `t` ends and `_reconstruct_indexed` follows it
        have htn : t < n := inv.len_d ▸ look_some_lt hd
        have hends : chainEnds st.par n t = true := by
          have := List.any_eq_false.mp hcyc t (List.mem_range.mpr htn)
          simpa using this
        obtain ⟨k, hk, ht⟩ := F.trail n t c hends hd
        obtain ⟨q, hr, _, hok⟩ := recon_pathOK ht (Nat.lt_succ_of_lt hk) (T := [t])
          (List.contains_iff_mem.mpr List.mem_cons_self)
        exact ⟨c, rfl, Option.some.inj (h.symm.trans hr) ▸ hok⟩

example : (bellmanFord 4 [(0, 1, 4), (0, 2, 1), (2, 1, -2), (1, 3, 1), (3, 3, 0), (2, 1, 5)] 0 (some 3)).status ≠ .UNBOUNDED ∧
    (bellmanFord 4 [(0, 1, 4), (0, 2, 1), (2, 1, -2), (1, 3, 1), (3, 3, 0), (2, 1, 5)] 0 (some 3)).path = some [0, 2, 1, 3] ∧
    (bellmanFord 4 [(0, 1, 4), (0, 2, 1), (2, 1, -2), (1, 3, 1), (3, 3, 0), (2, 1, 5)] 0 (some 3)).cost = some 0 := by
  decide

/-- C11 `bf_rounds_bound` [S]: for edge heads in range, UNBOUNDED ⇔ a negative cycle is reachable from the start.  `←` is
`bellman_ford_correct`; `→`, the direction that counts rounds, is `bf_unbounded_neg_cycle`. -/
theorem bf_rounds_bound (n : Nat) (E : List (Edge Int)) (s : Nat) (target : Option Nat) (hs : s < n)
    (hE : ∀ e ∈ E, e.2.1 < n) :
    (bellmanFord n E s target).status = .UNBOUNDED ↔ ∃ x c, Reach E s x ∧ Walk E x x c ∧ c < 0 := by
  constructor
  · exact bf_unbounded_neg_cycle target hs hE
  · rintro ⟨x, c, hx, hc, hneg⟩
    apply Classical.byContradiction
    intro hnu
    have := (bellman_ford_correct n E s target hs hnu).2.2.1 x c hx hc
    omega

example : (bellmanFord 3 [(0, 1, 1), (1, 2, -3), (2, 1, 1)] 0 none).status = .UNBOUNDED := by decide

section searches
variable {W : Type}

/-- C11 `dfs_path_valid` [C].  The mirror of `dfs` in goal mode, any `max_iter`: FEASIBLE comes with a path accepted by
`pathOK` and the objective `len(path) - 1`; INFEASIBLE only if no goal node is reachable; MAX_ITER is impossible once
`max_iter` exceeds the number of nodes, so that then a genuine path is returned whenever one exists. -/
theorem dfs_path_valid (n : Nat) (E : List (Edge W)) (s : Nat) (T : List Nat) (maxIter : Nat)
    (hs : s < n) (hE : ∀ e ∈ E, e.2.1 < n) :
    ((dfs n E s T false maxIter).status = .FEASIBLE →
      ∃ p c, (dfs n E s T false maxIter).path = some p ∧ (dfs n E s T false maxIter).cost = some c ∧
        c + 1 = p.length ∧ pathOK (unitE E) s T p (c : Int) = true) ∧
    ((dfs n E s T false maxIter).status = .INFEASIBLE → ∀ t ∈ T, ¬ Reach (unitE E) s t) ∧
    (n < maxIter → (dfs n E s T false maxIter).status ≠ .MAX_ITER) ∧
    (n < maxIter → (∃ t ∈ T, Reach (unitE E) s t) → (dfs n E s T false maxIter).status = .FEASIBLE) := by
  have hd : dfs n E s T false maxIter = searchResult .FEASIBLE false
      (searchLoop (discW (fun fr nb => nb :: fr)) (succOf E) (fun v => T.contains v) maxIter (searchInit n s)) := by
    simp only [dfs, dfsRun, dfsDiscover_eq, Bool.not_false, Bool.true_and]
  rw [hd]
  rcases search_goal_outcome (E := E) (T := T) pushOK_dfs hs hE (fun _ => True) trivial (fun _ _ _ _ _ _ _ => trivial)
    maxIter .FEASIBLE with ⟨st0, cur, rest, p, k, _, _, _, hres, _, hlen, hok⟩ | ⟨hst, hun⟩ | ⟨hst, hlt⟩
  · rw [hres]
    exact ⟨fun _ => ⟨p, k, rfl, rfl, hlen, hok⟩, fun h => (by cases h), fun _ h => (by cases h), fun _ _ => rfl⟩
  · exact ⟨fun h => (by rw [hst] at h; cases h), fun _ => hun, fun _ h => (by rw [hst] at h; cases h),
      fun _ ⟨t, ht, hr⟩ => absurd hr (hun t ht)⟩
  · exact ⟨fun h => (by rw [hst] at h; cases h), fun h => (by rw [hst] at h; cases h), fun h => absurd h hlt,
      fun h => absurd h hlt⟩

example : (dfs 4 [((0 : Nat), (1 : Nat), ()), (0, 2, ()), (2, 3, ()), (1, 0, ())] 0 [3] false 10).status = .FEASIBLE ∧
    (dfs 4 [((0 : Nat), (1 : Nat), ()), (0, 2, ()), (2, 3, ()), (1, 0, ())] 0 [3] false 10).path = some [0, 2, 3] := by
  decide

/-- C11 `bfs_correct` [C].  As `dfs_path_valid` for the mirror of `bfs`, and the objective is the hop distance: no walk from
`s` to any goal node has fewer edges; with `max_iter` above the number of nodes INFEASIBLE ⇔ unreachable and
OPTIMAL ⇔ reachable. -/
theorem bfs_correct (n : Nat) (E : List (Edge W)) (s : Nat) (T : List Nat) (maxIter : Nat)
    (hs : s < n) (hE : ∀ e ∈ E, e.2.1 < n) :
    ((bfs n E s T false maxIter).status = .OPTIMAL →
      ∃ p c, (bfs n E s T false maxIter).path = some p ∧ (bfs n E s T false maxIter).cost = some c ∧
        c + 1 = p.length ∧ pathOK (unitE E) s T p (c : Int) = true ∧ IsGoalDist (unitE E) s T (c : Int)) ∧
    ((bfs n E s T false maxIter).status = .INFEASIBLE → ∀ t ∈ T, ¬ Reach (unitE E) s t) ∧
    (n < maxIter → (bfs n E s T false maxIter).status ≠ .MAX_ITER) ∧
    (n < maxIter → ((bfs n E s T false maxIter).status = .INFEASIBLE ↔ ∀ t ∈ T, ¬ Reach (unitE E) s t)) ∧
    (n < maxIter → ((bfs n E s T false maxIter).status = .OPTIMAL ↔ ∃ t ∈ T, Reach (unitE E) s t)) := by
  have hd : bfs n E s T false maxIter = searchResult .OPTIMAL false
      (searchLoop (discW (fun fr nb => fr ++ [nb])) (succOf E) (fun v => T.contains v) maxIter (searchInit n s)) := by
    simp only [bfs, bfsRun, bfsDiscover_eq, Bool.not_false, Bool.true_and]
  rw [hd]
  rcases search_goal_outcome (E := E) (T := T) pushOK_bfs hs hE (fun st => ∃ dep D, BInv E s dep D st)
    ⟨_, _, binv_init hs⟩ (fun st cur rest inv ⟨dep, D, b⟩ hf hg => by
      have := bfs_iter hE inv b hf hg
      rw [bfsDiscover_eq] at this
      exact this) maxIter .OPTIMAL
    with ⟨st0, cur, rest, p, k, inv, ⟨dep, D, b⟩, hf, hres, hk, hlen, hok⟩ | ⟨hst, hun⟩ | ⟨hst, hlt⟩
  · have hkd : k = dep cur :=
      hk.unique (b.dchain cur (inv.fr_vis cur (by rw [hf]; exact List.mem_cons_self)))
    have hlow := bfs_lower_bound inv b hf
    obtain ⟨t, ht, _, _, _, hw⟩ := path_upper_bound hok
    have hgd : IsGoalDist (unitE E) s T (k : Int) :=
      ⟨⟨t, ht, hw⟩, fun t' ht' c' hw' => by rw [hkd]; exact hlow t' (List.contains_iff_mem.mpr ht') c' hw'⟩
    rw [hres]
    exact ⟨fun _ => ⟨p, k, rfl, rfl, hlen, hok, hgd⟩, fun h => (by cases h), fun _ h => (by cases h),
      fun _ => ⟨fun h => (by cases h), fun hall => absurd ⟨_, hw⟩ (hall t ht)⟩, fun _ => ⟨fun _ => ⟨t, ht, _, hw⟩, fun _ => rfl⟩⟩
  · exact ⟨fun h => (by rw [hst] at h; cases h), fun _ => hun, fun _ h => (by rw [hst] at h; cases h),
      fun _ => ⟨fun _ => hun, fun _ => hst⟩,
      fun _ => ⟨fun h => (by rw [hst] at h; cases h), fun ⟨t, ht, hr⟩ => absurd hr (hun t ht)⟩⟩
  · exact ⟨fun h => (by rw [hst] at h; cases h), fun h => (by rw [hst] at h; cases h), fun h => absurd h hlt,
      fun h => absurd h hlt, fun h => absurd h hlt⟩

example : (bfs 5 [((0 : Nat), (1 : Nat), ()), (1, 2, ()), (2, 4, ()), (0, 3, ()), (3, 4, ()), (4, 0, ())] 0 [4] false 10).status = .OPTIMAL ∧
    (bfs 5 [((0 : Nat), (1 : Nat), ()), (1, 2, ()), (2, 4, ()), (0, 3, ()), (3, 4, ()), (4, 0, ())] 0 [4] false 10).path = some [0, 3, 4] := by
  decide

/-- C11, `goal is None` mode of `bfs` / `dfs` ("explores all reachable nodes"): the returned set holds the start and only
reachable nodes, each once; once `max_iter` exceeds the number of nodes it is the set of reachable nodes. -/
theorem search_explore_reachable (n : Nat) (E : List (Edge W)) (s : Nat) (T : List Nat) (maxIter : Nat)
    (hs : s < n) (hE : ∀ e ∈ E, e.2.1 < n) :
    (∀ r, r = bfs n E s T true maxIter ∨ r = dfs n E s T true maxIter →
      r.status = .OPTIMAL ∧ r.path = none ∧ r.visited.Nodup ∧ s ∈ r.visited ∧
      (∀ v ∈ r.visited, Reach (unitE E) s v) ∧
      (n < maxIter → ∀ v, Reach (unitE E) s v → v ∈ r.visited)) := by
  have key : ∀ (push : List Nat → Nat → List Nat), PushOK push → ∀ okStatus,
      let r := searchResult okStatus true
        (searchLoop (discW push) (succOf E) (fun _ => false) maxIter (searchInit n s))
      r.status = .OPTIMAL ∧ r.path = none ∧ r.visited.Nodup ∧ s ∈ r.visited ∧
      (∀ v ∈ r.visited, Reach (unitE E) s v) ∧
      (n < maxIter → ∀ v, Reach (unitE E) s v → v ∈ r.visited) := by
    intro push hp okStatus
    have h := search_outcome (E := E) (isGoal := fun _ => false) hp hs hE (fun _ => True) trivial
      (fun _ _ _ _ _ _ _ => trivial) maxIter
    cases hout : searchLoop (discW push) (succOf E) (fun _ => false) maxIter (searchInit n s) with
    | found cur st' =>
      rw [hout] at h
      obtain ⟨_, _, _, _, _, hg, _⟩ := h
      cases hg
    | exhausted st' =>
      rw [hout] at h
      obtain ⟨a, b, c, d⟩ := result_explore h.1
      simp only [searchResult, if_true]
      exact ⟨trivial, trivial, c, b, a, fun _ => d h.2⟩
    | cutoff st' =>
      rw [hout] at h
      obtain ⟨a, b, c, _⟩ := result_explore h.1
      simp only [searchResult, if_true]
      exact ⟨trivial, trivial, c, b, a, fun hlt => absurd hlt h.2⟩
  intro r hr
  rcases hr with hr | hr
  · subst hr
    have := key _ pushOK_bfs .OPTIMAL
    simpa only [bfs, bfsRun, bfsDiscover_eq, Bool.not_true, Bool.false_and] using this
  · subst hr
    have := key _ pushOK_dfs .FEASIBLE
    simpa only [dfs, dfsRun, dfsDiscover_eq, Bool.not_true, Bool.false_and] using this

example : (bfs 5 [((0 : Nat), (1 : Nat), ()), (1, 2, ()), (2, 0, ()), (3, 4, ())] 0 [] true 10).visited = [2, 1, 0] := by
  decide

end searches

/-- C11 (`ℤ[√2]` order embedding): the pair `(a, b)` stands for the real number `a + b·√2`, and the Bool comparison by
squaring of the grid model and its certificate checker is the order of these real numbers. -/
theorem zsqrt2_order_embedding (x y : Z2) : Z2.le x y = true ↔ x.ev ≤ y.ev := Z2.le_iff_ev x y

example : Z2.le ⟨3, 0⟩ ⟨0, 3⟩ = true ∧ Z2.le ⟨0, 2⟩ ⟨3, 0⟩ = true ∧ Z2.le ⟨3, 0⟩ ⟨0, 2⟩ = false := by decide

/-- C11 grid certificate: an `astar_grid` answer accepted by `distCert` over `ℤ[√2]` weights (straight step `(c, 0)`,
diagonal step `(0, c)`) is a grid path whose weight is, as a real number, at most that of every walk to the goal. -/
theorem grid_dist_exact_cert {E : List (Edge Z2)} {s : Nat} {T : List Nat} {pot : Tab Z2} {path : List Nat}
    {cost : Z2} (h : distCert E s T pot path cost = true) :
    (∃ t ∈ T, path.head? = some s ∧ path.getLast? = some t ∧ pathCost E path = some cost ∧ Walk E s t cost) ∧
      ∀ t ∈ T, ∀ c', Walk E s t c' → cost.ev ≤ c'.ev := by
  obtain ⟨hgd, t, ht, hh, hl, hc, hd⟩ := dist_exact_cert h
  exact ⟨⟨t, ht, hh, hl, hc, hd.1⟩, fun t' ht' c' hw => (Z2.le_iff_ev _ _).mp (hgd.2 t' ht' c' hw)⟩

example : distCert [((0 : Nat), (1 : Nat), (⟨0, 1⟩ : Z2)), (0, 2, ⟨1, 0⟩), (2, 1, ⟨1, 0⟩)] 0 [1]
    [some ⟨0, 0⟩, some ⟨0, 1⟩, some ⟨1, 0⟩] [0, 1] ⟨0, 1⟩ = true := by decide

/-- C11 grid tolerance: the Bool test the driver applies to the implementation's floating-point cost
(converted exactly to a rational) decides `|cost − (a + b√2)/scale| ≤ tol·(1 + cost)` over the reals. -/
theorem grid_withinTol_iff (cost : Rat) (opt : Z2) (scale : Nat) (tol : Rat) (hs : 0 < scale) :
    withinTol cost opt scale tol = true ↔
      |(cost : ℝ) - opt.ev / scale| ≤ (tol : ℝ) * (1 + (cost : ℝ)) := by
  rw [withinTol, Bool.and_eq_true, ratLeSqrt2_iff, sqrt2LeRat_iff, abs_sub_div_le_iff (Nat.cast_pos.mpr hs), Z2.ev,
    sub_add_eq_sub_sub, abs_sub_le_iff_bounds]
  push_cast
  rfl

example : withinTol ((3414213562373095 : Rat) / 1000000000000000) ⟨2, 1⟩ 1 ((1 : Rat) / 1000000000) = true ∧
    withinTol ((3414 : Rat) / 1000) ⟨2, 1⟩ 1 ((1 : Rat) / 1000000000) = false := by decide +kernel

/-- C11 `dijkstra_sound_any_weights` (∀-input, no hypothesis on the weights, any `max_iter` and `max_cost`): an OPTIMAL
answer of the mirror of `dijkstra` comes with a path and cost accepted by `pathOK` (`reconstruct_path` terminates within
`n + 1` steps), and INFEASIBLE without `max_cost` means that no goal node is reachable. -/
theorem dijkstra_sound_any_weights (n : Nat) (E : List (Edge Int)) (s : Nat) (T : List Nat) (maxIter : Nat)
    (maxCost : Option Int) (hs : s < n) (hE : ∀ e ∈ E, e.2.1 < n) :
    ((dijkstra n E s T maxIter maxCost).status = .OPTIMAL →
      ∃ p c, (dijkstra n E s T maxIter maxCost).path = some p ∧ (dijkstra n E s T maxIter maxCost).cost = some c ∧
        pathOK E s T p c = true) ∧
    ((dijkstra n E s T maxIter maxCost).status = .INFEASIBLE → maxCost = none → ∀ t ∈ T, ¬ Reach E s t) :=
  hsearch_sound (fun g _ => g) T maxIter maxCost .OPTIMAL ⟨by decide, by decide⟩ hs hE

example : (dijkstra 4 [(0, 1, 1), (0, 2, 6), (1, 3, 100), (2, 3, 1)] 0 [3] 100 none).status = .OPTIMAL ∧
    (dijkstra 4 [(0, 1, 1), (0, 2, 6), (1, 3, 100), (2, 3, 1)] 0 [3] 100 none).path = some [0, 2, 3] ∧
    (dijkstra 4 [(0, 1, 1), (0, 2, 6), (1, 3, 100), (2, 3, 1)] 0 [3] 100 (some 5)).status = .INFEASIBLE := by
  decide

/-- C11 `dijkstra_certifies` [S].  For non-negative weights, any `max_iter` and `max_cost`: an OPTIMAL answer of the mirror
of `dijkstra`, together with the capped `g` map `astarPot n g [] cost`, passes the verified checker `distCert`, so (by
`dist_exact_cert`) cost and path are exact; INFEASIBLE means that no goal node is reachable, respectively that every
walk to a goal node weighs more than `max_cost`. -/
theorem dijkstra_certifies (n : Nat) (E : List (Edge Int)) (s : Nat) (T : List Nat) (maxIter : Nat)
    (maxCost : Option Int) (hs : s < n) (hE : ∀ e ∈ E, e.2.1 < n) (hW : ∀ e ∈ E, 0 ≤ e.2.2) :
    ((dijkstra n E s T maxIter maxCost).status = .OPTIMAL →
      ∃ p c, (dijkstra n E s T maxIter maxCost).path = some p ∧ (dijkstra n E s T maxIter maxCost).cost = some c ∧
        distCert E s T (astarPot n (dijkstra n E s T maxIter maxCost).g [] c) p c = true ∧
        IsGoalDist E s T c) ∧
    ((dijkstra n E s T maxIter maxCost).status = .INFEASIBLE →
      ∀ t ∈ T, ∀ c, Walk E s t c → match maxCost with | none => False | some m => m < c) := by
  obtain ⟨h1, h2⟩ := hsearch_cert (E := E) (n := n) (s := s) T [] (fun g _ => g) (fun g _ => (Int.add_zero g).symm)
    maxIter maxCost hs hE hW (fun e he => (Int.add_zero e.2.2).symm ▸ hW e he) (fun _ => Int.le_refl 0) (fun _ _ => rfl)
  refine ⟨fun hst => ?_, h2⟩
  obtain ⟨p, c, hp, hc, hcert⟩ := h1 hst
  exact ⟨p, c, hp, hc, hcert, (dist_exact_cert hcert).1⟩

example : (dijkstra 4 [(0, 1, 1), (0, 2, 6), (1, 3, 100), (2, 3, 1), (3, 3, 0)] 0 [3] 100 none).status = .OPTIMAL ∧
    (dijkstra 4 [(0, 1, 1), (0, 2, 6), (1, 3, 100), (2, 3, 1), (3, 3, 0)] 0 [3] 100 none).cost = some 7 ∧
    (∀ e ∈ [((0 : Nat), (1 : Nat), (1 : Int)), (0, 2, 6), (1, 3, 100), (2, 3, 1), (3, 3, 0)], e.2.1 < 4 ∧ 0 ≤ e.2.2) := by
  decide

/-- C11 `astar_certifies` [S].  As `dijkstra_certifies`, for heuristic weight 1 and a heuristic table `h` that is
non-negative, consistent and 0 on the goal nodes; the potential is `astarPot n g h cost` (`min (g v) (cost - h v)`). -/
theorem astar_certifies (n : Nat) (E : List (Edge Int)) (s : Nat) (T : List Nat) (h : List Int) (maxIter : Nat)
    (maxCost : Option Int) (hs : s < n) (hE : ∀ e ∈ E, e.2.1 < n) (hW : ∀ e ∈ E, 0 ≤ e.2.2)
    (hcons : ∀ e ∈ E, h.getD e.1 0 ≤ e.2.2 + h.getD e.2.1 0) (hh0 : ∀ v, 0 ≤ h.getD v 0)
    (hgoal : ∀ t ∈ T, h.getD t 0 = 0) :
    ((astar n E s T h 1 1 maxIter maxCost).status = .OPTIMAL →
      ∃ p c, (astar n E s T h 1 1 maxIter maxCost).path = some p ∧ (astar n E s T h 1 1 maxIter maxCost).cost = some c ∧
        distCert E s T (astarPot n (astar n E s T h 1 1 maxIter maxCost).g h c) p c = true ∧
        IsGoalDist E s T c) ∧
    ((astar n E s T h 1 1 maxIter maxCost).status = .INFEASIBLE →
      ∀ t ∈ T, ∀ c, Walk E s t c → match maxCost with | none => False | some m => m < c) := by
  obtain ⟨h1, h2⟩ := hsearch_cert (E := E) (n := n) (s := s) T h (fun g v => 1 * g + 1 * h.getD v 0)
    (fun g v => by show 1 * g + 1 * h.getD v 0 = _; rw [Int.one_mul, Int.one_mul]) maxIter maxCost hs hE hW hcons hh0 hgoal
  have ha : astar n E s T h 1 1 maxIter maxCost =
      hSearch intNum n E.length (adjOf E) (fun g v => 1 * g + 1 * h.getD v 0) s T.contains maxIter maxCost .OPTIMAL :=
    rfl
  rw [ha]
  refine ⟨fun hst => ?_, h2⟩
  obtain ⟨p, c, hp, hc, hcert⟩ := h1 hst
  exact ⟨p, c, hp, hc, hcert, (dist_exact_cert hcert).1⟩

example : (astar 4 [(0, 1, 1), (0, 2, 6), (1, 3, 100), (2, 3, 1)] 0 [3] [7, 8, 1, 0] 1 1 100 none).status = .OPTIMAL ∧
    (astar 4 [(0, 1, 1), (0, 2, 6), (1, 3, 100), (2, 3, 1)] 0 [3] [7, 8, 1, 0] 1 1 100 none).cost = some 7 ∧
    (∀ e ∈ [((0 : Nat), (1 : Nat), (1 : Int)), (0, 2, 6), (1, 3, 100), (2, 3, 1)],
      e.2.1 < 4 ∧ 0 ≤ e.2.2 ∧ [7, 8, 1, (0 : Int)].getD e.1 0 ≤ e.2.2 + [7, 8, 1, (0 : Int)].getD e.2.1 0) := by
  decide

/-- C11 `astar_sound_any_heuristic` (∀-input: every heuristic table, consistent or not, every heuristic weight
`wnum / wden`): as `dijkstra_sound_any_weights` for the mirror of `astar`, whose status is OPTIMAL for weight 1 and
FEASIBLE otherwise. -/
theorem astar_sound_any_heuristic (n : Nat) (E : List (Edge Int)) (s : Nat) (T : List Nat) (h : List Int)
    (wnum wden : Int) (maxIter : Nat) (maxCost : Option Int) (hs : s < n) (hE : ∀ e ∈ E, e.2.1 < n) :
    ((astar n E s T h wnum wden maxIter maxCost).status = (if wnum = wden then Status.OPTIMAL else Status.FEASIBLE) →
      ∃ p c, (astar n E s T h wnum wden maxIter maxCost).path = some p ∧
        (astar n E s T h wnum wden maxIter maxCost).cost = some c ∧ pathOK E s T p c = true) ∧
    ((astar n E s T h wnum wden maxIter maxCost).status = .INFEASIBLE → maxCost = none → ∀ t ∈ T, ¬ Reach E s t) :=
  hsearch_sound (fun g v => wden * g + wnum * h.getD v 0) T maxIter maxCost
    (if wnum = wden then Status.OPTIMAL else Status.FEASIBLE) ⟨by split <;> decide, by split <;> decide⟩ hs hE

example : (astar 4 [(0, 1, 1), (0, 2, 6), (1, 3, 100), (2, 3, 1)] 0 [3] [7, 100, 1, 0] 1 1 100 none).path = some [0, 2, 3] ∧
    (astar 4 [(0, 1, 1), (0, 2, 6), (1, 3, 100), (2, 3, 1)] 0 [3] [0, 0, 50, 0] 2 1 100 none).status = .FEASIBLE := by
  decide

/-- C11 `floyd_warshall_real` (∀-input, no range hypothesis): every finite entry of the mirror's matrix is the weight of
a real walk, and an UNBOUNDED answer comes with a closed walk of negative weight. -/
theorem floyd_warshall_real (n : Nat) (E : List (Edge Int)) (directed : Bool) :
    ((floydWarshall n E directed).status = .UNBOUNDED →
      ∃ x c, c < 0 ∧ Walk (if directed then E else symE E) x x c) ∧
    (∀ m, (floydWarshall n E directed).mat = some m →
      ∀ i j c, Mat.get m i j = some c → Walk (if directed then E else symE E) i j c) := by
  have hr := fwReal_loop n (fwReal_init n E directed)
  rcases floydWarshall_cases n E directed with ⟨⟨i, _, x, hx, hneg⟩, heq⟩ | ⟨_, heq⟩
  · rw [heq]
    exact ⟨fun _ => ⟨i, x, hneg, hr i i x hx⟩, fun m h => (nomatch h)⟩
  · rw [heq]
    exact ⟨fun h => (nomatch h), fun m h => by cases h; exact hr⟩

/-- C11 `floyd_warshall_certifies` [S].  For every edge list with endpoints in range (duplicates, self loops, negative
weights, `directed` or not): UNBOUNDED is answered exactly when a negative cycle is present; otherwise every entry of the
returned matrix is exact (finite: the distance; infinite: unreachable). -/
theorem floyd_warshall_certifies (n : Nat) (E : List (Edge Int)) (directed : Bool)
    (hE : ∀ e ∈ E, e.1 < n ∧ e.2.1 < n) :
    ((floydWarshall n E directed).status = .UNBOUNDED ↔
      ∃ x c, c < 0 ∧ Walk (if directed then E else symE E) x x c) ∧
    (∀ m, (floydWarshall n E directed).mat = some m → ∀ i j, i < n → j < n →
      (∀ c, Mat.get m i j = some c → IsDist (if directed then E else symE E) i j c) ∧
      (Mat.get m i j = none → ¬ Reach (if directed then E else symE E) i j)) := by
  have hE' : ∀ e ∈ (if directed then E else symE E), e.1 < n ∧ e.2.1 < n := by
    intro e he
    cases directed with
    | true => exact hE e (by simpa using he)
    | false =>
      obtain ⟨e0, h0, rfl | rfl⟩ := mem_symE.mp he
      · exact hE _ h0
      · exact ⟨(hE e0 h0).2, (hE e0 h0).1⟩
  obtain ⟨hd0, hp0⟩ := fwInit_spec n E directed hE
  have hreal := fwReal_loop n (fwReal_init n E directed)
  -- if no diagonal entry is negative at the end, every entry bounds every walk
  have hlow : (∀ i, i < n → ∀ d, Mat.get (fwLoop n (fwInit n E directed)) i i = some d → 0 ≤ d) →
      ∀ i j c, i < n → j < n → Walk (if directed then E else symE E) i j c →
        OLe (Mat.get (fwLoop n (fwInit n E directed)) i j) (some c) := fun hfin i j c hi hj hw =>
    (fw_lower hd0 hp0).resolve_right (fun ⟨i, hi, x, hx, hneg⟩ => Int.not_le.mpr hneg (hfin i hi x hx))
      i j c hi hj (Walk.toK (fun e he => (hE' e he).2) hw)
  rcases floydWarshall_cases n E directed with ⟨⟨i, _, x, hx, hneg⟩, heq⟩ | ⟨hfin, heq⟩
  · rw [heq]
    exact ⟨⟨fun _ => ⟨i, x, hneg, hreal i i x hx⟩, fun _ => rfl⟩, fun m h => (nomatch h)⟩
  · rw [heq]
    refine ⟨⟨fun h => (nomatch h), ?_⟩, ?_⟩
    · rintro ⟨x, c, hneg, hw⟩
      have hx : x < n := by
        cases hw with
        | nil => omega
        | cons he _ => exact (hE' _ he).1
      obtain ⟨d, hdd, hle⟩ := hlow hfin x x c hx hx hw c rfl
      have := hfin x hx d hdd
      omega
    · intro m hm i j hi hj
      cases hm
      refine ⟨fun c hc => ⟨hreal i j c hc, fun c' hw => ?_⟩, fun hnone ⟨c, hw⟩ => ?_⟩
      · obtain ⟨d, hdd, hle⟩ := hlow hfin i j c' hi hj hw c' rfl
        rw [hc] at hdd; cases hdd; exact hle
      · obtain ⟨d, hdd, _⟩ := hlow hfin i j c hi hj hw c rfl
        rw [hnone] at hdd; cases hdd

example : (floydWarshall 3 [(0, 1, 1), (1, 2, -3), (2, 1, 1)] true).status = .UNBOUNDED ∧
    (floydWarshall 3 [(0, 1, 4), (1, 2, -3), (0, 2, 2)] true).mat = some [[some 0, some 4, some 1], [none, some 0, some (-3)], [none, none, some 0]] := by
  decide +kernel

end Solvor.Path
