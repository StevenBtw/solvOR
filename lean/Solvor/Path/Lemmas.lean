import Solvor.Path.Model
import Solvor.Common.ListLemmas
/-! Path: what the solver files share — the weights `OrdW` the certificate theorems are stated for, folds, tables, walks and
potentials (with the audited `lowerCert_sound`), checked paths, `Trail` (what `reconstruct_path` needs of a parent
table), closed sets, negative cycles.  Core Lean only. -/
namespace Solvor.Path
set_option linter.unusedSectionVars false

/-- What the potential argument needs of the weights: an ordered additive monoid. -/
class OrdW (W : Type) [Add W] [Zero W] [LE W] : Prop where
  le_refl : ∀ a : W, a ≤ a
  le_trans : ∀ {a b c : W}, a ≤ b → b ≤ c → a ≤ c
  add_le_add_right : ∀ {a b : W} (c : W), a ≤ b → a + c ≤ b + c
  add_assoc : ∀ a b c : W, a + b + c = a + (b + c)
  zero_add : ∀ a : W, 0 + a = a
  add_zero : ∀ a : W, a + 0 = a

instance : OrdW Int where
  le_refl := Int.le_refl
  le_trans := Int.le_trans
  add_le_add_right := fun c h => Int.add_le_add_right h c
  add_assoc := Int.add_assoc
  zero_add := Int.zero_add
  add_zero := Int.add_zero

/-- Folding steps that keep an invariant `I`, move the state down a preorder `R`, and each establish a property
`Q a` (of the state before and after) that later and earlier moves down `R` do not destroy: afterwards `Q a` holds
for every `a` of the list.  Typically `R` is "entries only decrease" and `Q a m m'` is "`m'` at the target of `a` is at
most `m` at its source plus the weight": then `hpost` says that later decreases keep it, `hpre` that it may be read
from the larger entries of an earlier state. -/
theorem fold_decreasing {σ α : Type} {I : σ → Prop} (R : σ → σ → Prop) (hrefl : ∀ m, R m m)
    (htrans : ∀ {a b c : σ}, R a b → R b c → R a c) {step : σ → α → σ} {ok : α → Prop} (Q : α → σ → σ → Prop)
    (hstep : ∀ m a, ok a → I m → I (step m a) ∧ R m (step m a) ∧ Q a m (step m a))
    (hpost : ∀ a m m' m'', Q a m m' → R m' m'' → Q a m m'')
    (hpre : ∀ a m m1 m', R m m1 → Q a m1 m' → Q a m m') :
    ∀ (L : List α) (m : σ), (∀ a ∈ L, ok a) → I m →
      I (L.foldl step m) ∧ R m (L.foldl step m) ∧ ∀ a ∈ L, Q a m (L.foldl step m) := by
  intro L
  induction L with
  | nil => intro m _ hd; exact ⟨hd, hrefl m, fun _ h => nomatch h⟩
  | cons a L ih =>
    intro m hL hd
    obtain ⟨d1, m1, q1⟩ := hstep m a (hL a List.mem_cons_self) hd
    obtain ⟨d2, m2, q2⟩ := ih (step m a) (fun x hx => hL x (List.mem_cons_of_mem _ hx)) d1
    refine ⟨d2, htrans m1 m2, fun b hb => ?_⟩
    rcases List.mem_cons.mp hb with h | h
    · rw [h]; exact hpost a _ _ _ q1 m2
    · exact hpre b _ _ _ m1 (q2 b h)

theorem look_set {α : Type} (t : Tab α) (i j : Nat) (v : Option α) :
    look (t.set i v) j = if i = j ∧ i < t.length then v else look t j := getD_set t i j v none

theorem look_set_eq {α : Type} (t : Tab α) (i : Nat) (v : Option α) (h : i < t.length) :
    look (t.set i v) i = v := getD_set_self h v none

theorem look_set_ne {α : Type} (t : Tab α) (i j : Nat) (v : Option α) (h : i ≠ j) :
    look (t.set i v) j = look t j := getD_set_ne h v none

theorem look_empty {α : Type} (n i : Nat) : look (Tab.empty n : Tab α) i = none := getD_replicate_self n i none

theorem look_some_lt {α : Type} {t : Tab α} {i : Nat} {a : α} (h : look t i = some a) : i < t.length :=
  Decidable.byContradiction fun hl => nomatch (getD_of_ge (Nat.le_of_not_lt hl) none).symm.trans h

theorem length_empty {α : Type} (n : Nat) : (Tab.empty n : Tab α).length = n := List.length_replicate

theorem look_set_lt {α : Type} {t : Tab α} {i : Nat} (h : i < t.length) (v : Option α) (j : Nat) :
    look (t.set i v) j = if j = i then v else look t j := by
  rw [look_set]
  by_cases e : j = i
  · rw [if_pos e, if_pos ⟨e.symm, h⟩]
  · rw [if_neg e, if_neg fun c => e c.1.symm]

theorem look_single {α : Type} {n s : Nat} (hs : s < n) (a : α) (v : Nat) :
    look ((Tab.empty n : Tab α).set s (some a)) v = if v = s then some a else none := by
  rw [look_set_lt (by rw [length_empty]; exact hs), look_empty]

/-- `a ≤ b` on labels and matrix entries, `none` standing for `+∞` -/
def OLe (a b : Option Int) : Prop := ∀ y, b = some y → ∃ x, a = some x ∧ x ≤ y

theorem OLe.refl (a : Option Int) : OLe a a := fun y h => ⟨y, h, Int.le_refl y⟩

theorem OLe.trans {a b c : Option Int} (h1 : OLe a b) (h2 : OLe b c) : OLe a c := fun z hz =>
  (h2 z hz).elim fun y hy => (h1 y hy.1).elim fun x hx => ⟨x, hx.1, Int.le_trans hx.2 hy.2⟩

theorem OLe.some {x y : Int} (h : x ≤ y) : OLe (some x) (some y) := fun _ e => ⟨x, rfl, Option.some.inj e ▸ h⟩

/-- entries only decrease: `TabLe d d'` says `d' ≤ d` at every node, the later table standing second -/
def TabLe (d d' : Tab Int) : Prop := ∀ v, OLe (look d' v) (look d v)

theorem TabLe.refl (d : Tab Int) : TabLe d d := fun _ => OLe.refl _

theorem TabLe.trans {a b c : Tab Int} (h1 : TabLe a b) (h2 : TabLe b c) : TabLe a c := fun v => (h2 v).trans (h1 v)

theorem mem_adjOf {W : Type} {E : List (Edge W)} {u v : Nat} {w : W} : (v, w) ∈ adjOf E u ↔ (u, v, w) ∈ E := by
  simp only [adjOf, List.mem_filterMap]
  constructor
  · rintro ⟨⟨x, y, z⟩, hm, hx⟩
    simp only at hx
    split at hx
    · next h => simp only [Option.some.injEq, Prod.mk.injEq] at hx; obtain ⟨h1, h2⟩ := hx; subst h; subst h1; subst h2; exact hm
    · cases hx
  · intro hm
    exact ⟨(u, v, w), hm, by simp⟩

section walks
variable {W : Type} [Add W] [Zero W]

theorem Walk.single {E : List (Edge W)} {u v : Nat} {w : W} (h : (u, v, w) ∈ E) : Walk E u v (w + 0) :=
  Walk.cons h (Walk.nil v)

theorem Walk.mono {E E' : List (Edge W)} (hsub : ∀ e ∈ E, e ∈ E') {u t : Nat} {c : W} (h : Walk E u t c) :
    Walk E' u t c := by
  induction h with
  | nil u => exact Walk.nil u
  | cons he _ ih => exact Walk.cons (hsub _ he) ih

theorem Walk.closed {E : List (Edge W)} {P : Nat → Prop} (hc : ∀ e ∈ E, P e.1 → P e.2.1) {u t : Nat} {c : W}
    (hw : Walk E u t c) : P u → P t := by
  induction hw with
  | nil u => exact id
  | cons he _ ih => exact fun hu => ih (hc _ he hu)

theorem closed_walk {E : List (Edge W)} {S : List Nat} (hc : closedUnder E S = true) {u t : Nat} {c : W}
    (hw : Walk E u t c) : u ∈ S → t ∈ S := by
  refine hw.closed (P := (· ∈ S)) fun e he hu => ?_
  have := List.all_eq_true.mp hc e he
  simp only [Bool.or_eq_true, Bool.not_eq_eq_eq_not, Bool.not_true, List.contains_eq_mem,
    decide_eq_false_iff_not, decide_eq_true_eq] at this
  exact this.resolve_left (not_not_intro hu)

variable [LE W] [OrdW W]

theorem Walk.append {E : List (Edge W)} {u v t : Nat} {a b : W} (h1 : Walk E u v a) (h2 : Walk E v t b) :
    Walk E u t (a + b) := by
  induction h1 with
  | nil u => rw [OrdW.zero_add]; exact h2
  | cons he _ ih => rw [OrdW.add_assoc]; exact Walk.cons he (ih h2)

theorem Walk.snoc {E : List (Edge W)} {s u v : Nat} {a w : W} (h1 : Walk E s u a) (he : (u, v, w) ∈ E) :
    Walk E s v (a + w) := by
  have := Walk.append h1 (Walk.single he)
  rwa [OrdW.add_zero] at this

theorem pot_walk {E : List (Edge W)} {d : Nat → Option W}
    (hf : ∀ e ∈ E, ∀ a, d e.1 = some a → ∃ b, d e.2.1 = some b ∧ b ≤ a + e.2.2) {u t : Nat} {c : W}
    (hw : Walk E u t c) : ∀ a, d u = some a → ∃ b, d t = some b ∧ b ≤ a + c := by
  induction hw with
  | nil u => intro a ha; exact ⟨a, ha, by rw [OrdW.add_zero]; exact OrdW.le_refl a⟩
  | @cons u v t w c he _ ih =>
    intro a ha
    obtain ⟨b1, hb1, hle1⟩ := hf _ he a ha
    obtain ⟨b, hb, hle⟩ := ih b1 hb1
    refine ⟨b, hb, OrdW.le_trans hle ?_⟩
    rw [← OrdW.add_assoc]
    exact OrdW.add_le_add_right c hle1

variable [DecidableLE W]

theorem feasible_edge {E : List (Edge W)} {d : Tab W} (hf : feasible E d = true) {u v : Nat} {w a : W}
    (he : (u, v, w) ∈ E) (hu : look d u = some a) : ∃ b, look d v = some b ∧ b ≤ a + w := by
  unfold feasible at hf
  rw [List.all_eq_true] at hf
  have := hf _ he
  simp only [hu] at this
  cases hv : look d v with
  | none => simp [hv] at this
  | some b => simp [hv] at this; exact ⟨b, rfl, this⟩

theorem potential_walk {E : List (Edge W)} {d : Tab W} (hf : feasible E d = true) {u t : Nat} {c : W}
    (hw : Walk E u t c) : ∀ a, look d u = some a → ∃ b, look d t = some b ∧ b ≤ a + c :=
  pot_walk (d := look d) (fun _ he _ ha => feasible_edge hf he ha) hw

end walks

section paths
variable {W : Type} [Add W] [Zero W] [LE W] [DecidableLE W] [DecidableEq W]

theorem edgeCost_mem {E : List (Edge W)} {u v : Nat} {w : W} (h : edgeCost E u v = some w) : (u, v, w) ∈ E := by
  refine foldl_inv (l := E) (b := none) (fun acc => ∀ w, acc = some w → (u, v, w) ∈ E) (fun _ h => nomatch h)
    (fun acc e he ih w hw => ?_) w h
  unfold edgeCostStep at hw
  split at hw
  · next hc =>
    have hmem : (u, v, e.2.2) ∈ E := by rw [← hc.1, ← hc.2]; exact he
    split at hw
    · cases hw; exact hmem
    · split at hw <;> cases hw
      · exact hmem
      · exact ih _ rfl
  · exact ih w hw

theorem pathCost_walk {E : List (Edge W)} {p : List Nat} {c : W} (h : pathCost E p = some c) :
    ∃ u t, p.head? = some u ∧ p.getLast? = some t ∧ Walk E u t c := by
  induction p generalizing c with
  | nil => cases h
  | cons u p ih =>
    cases p with
    | nil => simp [pathCost] at h; subst h; exact ⟨u, u, rfl, rfl, Walk.nil u⟩
    | cons v rest =>
      unfold pathCost at h
      cases hw : edgeCost E u v with
      | none => simp [hw] at h
      | some w =>
        cases hc : pathCost E (v :: rest) with
        | none => simp [hw, hc] at h
        | some c' =>
          simp [hw, hc] at h
          subst h
          obtain ⟨_, t, ⟨⟩, ht, hwk⟩ := ih hc
          exact ⟨u, t, rfl, by rw [List.getLast?_cons_cons]; exact ht, Walk.cons (edgeCost_mem hw) hwk⟩

end paths

theorem pathCost_snoc {E : List (Edge Int)} : ∀ (p : List Nat) (u v : Nat) (c w : Int),
    pathCost E p = some c → p.getLast? = some u → edgeCost E u v = some w →
    pathCost E (p ++ [v]) = some (c + w) := by
  intro p
  induction p with
  | nil => intro u v c w h; simp [pathCost] at h
  | cons a rest ih =>
    intro u v c w hc hl hw
    cases rest with
    | nil =>
      simp only [pathCost, Option.some.injEq] at hc
      simp only [List.getLast?_singleton, Option.some.injEq] at hl
      subst hl; subst hc
      simp [pathCost, hw]
    | cons b rest' =>
      simp only [pathCost] at hc
      cases he : edgeCost E a b with
      | none => simp [he] at hc
      | some x =>
        cases hr : pathCost E (b :: rest') with
        | none => simp [he, hr] at hc
        | some y =>
          simp only [he, hr, Option.some.injEq] at hc
          rw [List.getLast?_cons_cons] at hl
          have := ih u v y w hr hl hw
          simp only [List.cons_append] at this ⊢
          simp only [pathCost, he, this]
          rw [← hc, Int.add_assoc]

theorem edgeCostStep_le (u v : Nat) (acc : Option Int) (e : Edge Int) :
    (∀ m, acc = some m → ∃ m', edgeCostStep u v acc e = some m' ∧ m' ≤ m) ∧
      (e.1 = u ∧ e.2.1 = v → ∃ m', edgeCostStep u v acc e = some m' ∧ m' ≤ e.2.2) := by
  unfold edgeCostStep
  by_cases hc : e.1 = u ∧ e.2.1 = v
  · rw [if_pos hc]
    cases acc with
    | none => exact ⟨fun m h => (nomatch h), fun _ => ⟨_, rfl, Int.le_refl _⟩⟩
    | some m =>
      dsimp only
      by_cases hle : e.2.2 ≤ m
      · rw [if_pos hle]
        exact ⟨fun m0 h => ⟨_, rfl, by cases h; exact hle⟩, fun _ => ⟨_, rfl, Int.le_refl _⟩⟩
      · rw [if_neg hle]
        exact ⟨fun m0 h => ⟨_, rfl, by cases h; exact Int.le_refl _⟩, fun _ => ⟨_, rfl, by omega⟩⟩
  · rw [if_neg hc]
    exact ⟨fun m h => ⟨m, h, Int.le_refl _⟩, fun h => absurd h hc⟩

theorem edgeCost_min {E : List (Edge Int)} {u v : Nat} {w : Int} (h : (u, v, w) ∈ E) :
    ∃ m, edgeCost E u v = some m ∧ m ≤ w ∧ (u, v, m) ∈ E := by
  -- the accumulator only decreases, and every edge `u → v` caps it when it is met
  obtain ⟨m, hm, hle⟩ := (fold_decreasing (fun a b : Option Int => OLe b a) (fun _ => OLe.refl _) (fun h1 h2 => h2.trans h1)
    (I := fun _ => True) (step := edgeCostStep u v) (ok := fun _ => True)
    (Q := fun e _ b => e.1 = u ∧ e.2.1 = v → ∃ m', b = some m' ∧ m' ≤ e.2.2)
    (hstep := fun acc e _ _ => ⟨trivial, edgeCostStep_le u v acc e⟩)
    (hpost := fun _ _ _ _ h hm hc => (h hc).elim fun m1 h1 => (hm m1 h1.1).elim fun m2 h2 => ⟨m2, h2.1, Int.le_trans h2.2 h1.2⟩)
    (hpre := fun _ _ _ _ _ h => h) E none (fun _ _ => trivial) trivial).2.2 (u, v, w) h ⟨rfl, rfl⟩
  exact ⟨m, hm, hle, edgeCost_mem hm⟩

/-- `Trail E s par v c k`: following `par` from `v` reaches the root `s` after `k` steps, every step along a cheapest
parallel edge, of total weight `c`.  What `reconstruct_path` needs of a parent table; each solver keeps a chain notion
of its own (`Chain`, `WChain`, Bellman-Ford's `PC`) with the data its invariant needs and converts at the end (`PC` by
`PC.ends`, which gives the `chainEnds` that `BFFinal.trail` takes). -/
inductive Trail (E : List (Edge Int)) (s : Nat) (par : Tab Nat) : Nat → Int → Nat → Prop
  | root : look par s = none → Trail E s par s 0 0
  | step {u v k : Nat} {w c : Int} : look par v = some u → edgeCost E u v = some w → Trail E s par u c k →
      Trail E s par v (c + w) (k + 1)

theorem recon_trail {E : List (Edge Int)} {s : Nat} {par : Tab Nat} {v k : Nat} {c : Int}
    (h : Trail E s par v c k) : ∀ (fuel : Nat) (acc : List Nat), k < fuel →
      ∃ p, recon par fuel v acc = some (p ++ acc) ∧ p.length = k + 1 ∧ p.head? = some s ∧
        p.getLast? = some v ∧ pathCost E p = some c := by
  induction h with
  | root h0 =>
    intro fuel acc hf
    obtain ⟨f, rfl⟩ := Nat.exists_eq_add_one_of_ne_zero (Nat.ne_of_gt (Nat.zero_lt_of_lt hf))
    exact ⟨[s], by simp [recon, h0], rfl, rfl, rfl, by simp [pathCost]⟩
  | @step u v k w c hp hw _ ih =>
    intro fuel acc hf
    obtain ⟨f, rfl⟩ := Nat.exists_eq_add_one_of_ne_zero (Nat.ne_of_gt (Nat.zero_lt_of_lt hf))
    obtain ⟨p, hr, hlen, hh, hl, hc⟩ := ih f (v :: acc) (Nat.lt_of_succ_lt_succ hf)
    refine ⟨p ++ [v], ?_, by simp [hlen], ?_, by simp, pathCost_snoc p u v c w hc hl hw⟩
    · simp only [recon, hp, hr, List.append_assoc, List.singleton_append]
    · cases p with
      | nil => simp at hlen
      | cons a p => simpa using hh

theorem recon_pathOK {E : List (Edge Int)} {s : Nat} {par : Tab Nat} {v k : Nat} {c : Int} (h : Trail E s par v c k)
    {fuel : Nat} (hf : k < fuel) {T : List Nat} (hT : T.contains v = true) :
    ∃ p, recon par fuel v [] = some p ∧ p.length = k + 1 ∧ pathOK E s T p c = true := by
  obtain ⟨p, hr, hlen, hh, hl, hpc⟩ := recon_trail h fuel [] hf
  rw [List.append_nil] at hr
  refine ⟨p, hr, hlen, ?_⟩
  simp only [pathOK, hh, hl, hpc, hT]; simp

theorem fn_potential_walk {E : List (Edge Int)} (f : Nat → Int)
    (hf : ∀ e ∈ E, f e.2.1 ≤ f e.1 + e.2.2) {u t : Nat} {c : Int} (hw : Walk E u t c) :
    f t ≤ f u + c :=
  (pot_walk (d := fun v => some (f v)) (fun e he _ ha => ⟨_, rfl, Option.some.inj ha ▸ hf e he⟩) hw _ rfl).elim
    fun _ h => Option.some.inj h.1 ▸ h.2

theorem walk_cycle_pow {E : List (Edge Int)} {x : Nat} {c : Int} (h : Walk E x x c) :
    ∀ k : Nat, Walk E x x (k * c) := by
  intro k
  induction k with
  | zero => simpa using Walk.nil x
  | succ k ih =>
    have := Walk.append ih h
    have e : ((k + 1 : Nat) : Int) * c = k * c + c := by
      rw [Int.natCast_succ, Int.add_mul, Int.one_mul]
    rw [e]; exact this

theorem neg_cycle_unbounded {E : List (Edge Int)} {s x : Nat} {a c : Int} (hp : Walk E s x a)
    (hc : Walk E x x c) (hneg : c < 0) : ∀ B : Int, ∃ w, Walk E s x w ∧ w < B := by
  intro B
  let k : Nat := (a - B).toNat + 1
  refine ⟨a + k * c, Walk.append hp (walk_cycle_pow hc k), ?_⟩
  have hk : (k : Int) ≥ a - B + 1 := by
    simp only [k]; omega
  have hk0 : (0 : Int) ≤ k := Int.natCast_nonneg k
  have : (k : Int) * c ≤ (k : Int) * (-1) := Int.mul_le_mul_of_nonneg_left (by omega) hk0
  omega

/-- C11 `lowerCert_sound`: the Bool checker `lowerCert` is sound -/
theorem lowerCert_sound {W : Type} [Add W] [Zero W] [LE W] [DecidableLE W] [DecidableEq W] [OrdW W]
    {E : List (Edge W)} {s : Nat} {T : List Nat} {pot : Tab W} {c : W}
    (h : lowerCert E s T pot c = true) : ∀ t ∈ T, ∀ c', Walk E s t c' → c ≤ c' := by
  unfold lowerCert at h
  simp only [Bool.and_eq_true, beq_iff_eq, List.all_eq_true] at h
  obtain ⟨⟨hf, hs⟩, hT⟩ := h
  intro t ht c' hw
  obtain ⟨b, hb, hle⟩ := potential_walk hf hw 0 hs
  rw [OrdW.zero_add] at hle
  have := hT t ht
  simp only [hb, decide_eq_true_eq] at this
  exact OrdW.le_trans this hle

end Solvor.Path