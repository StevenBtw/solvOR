import Solvor.Path.HSearch
/-! Path: optimality of the Dijkstra / A* mirror for heap key `f = g + h`, `h` a consistent heuristic (`h = 0` for
Dijkstra), and non-negative weights: at a goal pop the capped map `astarPot n g heur c = min (g v) (c - h v)` is a
feasible potential, so the answer passes `distCert`. -/
namespace Solvor.Path

theorem keyLt_le {a b : Ent} (h : keyLt intNum a b = true) : a.1 ≤ b.1 := by
  simp only [keyLt, intNum, Bool.or_eq_true, decide_eq_true_eq, Bool.and_eq_true, Bool.not_eq_eq_eq_not,
    Bool.not_true, decide_eq_false_iff_not] at h
  rcases h with h | ⟨h, _⟩ <;> omega

theorem keyLt_ge {a b : Ent} (h : keyLt intNum a b = false) : b.1 ≤ a.1 := by
  have : ¬ (a.1 < b.1) := by
    intro hlt
    have : keyLt intNum a b = true := by simp [keyLt, intNum, hlt]
    rw [h] at this; cases this
  omega

theorem popMin_min : ∀ {l : List Ent} {m : Ent} {rest : List Ent},
    popMin intNum l = some (m, rest) → ∀ x ∈ l, m.1 ≤ x.1
  | [], _, _, h => by simp [popMin] at h
  | x :: xs, m, rest, h => by
    rw [popMin] at h
    split at h
    · next hp =>
      cases h; rw [popMin_none.mp hp]
      intro y hy; rw [List.mem_singleton.mp hy]; exact Int.le_refl _
    · next m' rest' hp =>
      have ih := popMin_min hp
      split at h <;> cases h <;> intro y hy <;> rcases List.mem_cons.mp hy with e | hy
      · rw [e]; exact keyLt_le ‹_›
      · exact ih y hy
      · rw [e]; exact Int.le_refl _
      · exact Int.le_trans (keyLt_ge ((Bool.not_eq_true _).mp ‹_›)) (ih y hy)

theorem pruned_mono {maxCost : Option Int} {a b : Int} (hab : a ≤ b) (h : pruned intNum maxCost a = true) :
    pruned intNum maxCost b = true := by
  cases maxCost with
  | none => simp [pruned] at h
  | some m => simp only [pruned, intNum, decide_eq_true_eq] at h ⊢; omega

section dinv
variable (E : List (Edge Int)) (maxCost : Option Int) (isGoal : Nat → Bool) (heur : List Int)

/-- Optimality invariant: `M` is the last popped key (`f = g + h` of the node closed last); `cur?` the node being
scanned, exempt from `relaxed_all` and `nongoal`. -/
structure DInv (cur? : Option Nat) (M : Int) (st : HSt Int) : Prop where
  key_ge : ∀ e ∈ st.heap, ∃ c, look st.g e.2.2.2 = some c ∧ c + heur.getD e.2.2.2 0 ≤ e.1
  open_key : ∀ v c, look st.g v = some c → v ∉ st.closed → ∃ e ∈ st.heap, e.2.2.2 = v ∧ e.1 = c + heur.getD v 0
  closed_le : ∀ u ∈ st.closed, ∃ c, look st.g u = some c ∧ c + heur.getD u 0 ≤ M
  heap_ge : ∀ e ∈ st.heap, M ≤ e.1
  nonneg : ∀ v c, look st.g v = some c → 0 ≤ c
  relaxed_all : ∀ u ∈ st.closed, cur? ≠ some u → ∀ cu, look st.g u = some cu → pruned intNum maxCost cu = false →
    ∀ e ∈ E, e.1 = u → ∃ gv, look st.g e.2.1 = some gv ∧ gv ≤ cu + e.2.2
  nongoal : ∀ u ∈ st.closed, cur? ≠ some u → ∀ cu, look st.g u = some cu → pruned intNum maxCost cu = false →
    isGoal u = false

variable {E maxCost isGoal heur}

def KeyIs (fOf : Int → Nat → Int) (heur : List Int) : Prop := ∀ g v, fOf g v = g + heur.getD v 0

def Consistent (E : List (Edge Int)) (heur : List Int) : Prop := ∀ e ∈ E, heur.getD e.1 0 ≤ e.2.2 + heur.getD e.2.1 0

theorem dinv_init {n s : Nat} {fOf : Int → Nat → Int} (hf : KeyIs fOf heur) (hs : s < n) :
    DInv E maxCost isGoal heur none (heur.getD s 0) (hInit intNum n fOf s) := by
  show DInv E maxCost isGoal heur none (heur.getD s 0)
      ⟨(Tab.empty n).set s (some 0), Tab.empty n, [], [(fOf 0 s, 0, 0, s)], 1, 0, 0⟩
  have hg := look_single (α := Int) hs 0
  have hk : fOf 0 s = heur.getD s 0 := by rw [hf, Int.zero_add]
  have hheap : ∀ e ∈ [(fOf 0 s, (0 : Int), 0, s)], e = (heur.getD s 0, 0, 0, s) := fun e he => by
    rw [List.mem_singleton.mp he, hk]
  refine {
    closed_le := fun _ hu => (List.not_mem_nil hu).elim
    relaxed_all := fun _ hu => (List.not_mem_nil hu).elim
    nongoal := fun _ hu => (List.not_mem_nil hu).elim
    key_ge := ?key_ge, open_key := ?open_key, heap_ge := ?heap_ge, nonneg := ?nonneg }
  case key_ge =>
    intro e he; rw [hheap e he]; exact ⟨0, by rw [hg, if_pos rfl], by rw [Int.zero_add]; exact Int.le_refl _⟩
  case open_key =>
    intro v c hv _
    rw [hg] at hv
    split at hv
    · next e => cases hv; subst e; exact ⟨_, List.mem_singleton.mpr rfl, rfl, by rw [hk, Int.zero_add]⟩
    · cases hv
  case heap_ge =>
    intro e he; rw [hheap e he]; exact Int.le_refl _
  case nonneg =>
    intro v c hv
    rw [hg] at hv
    split at hv
    · cases hv; exact Int.le_refl _
    · cases hv

theorem DInv.lower {cur? : Option Nat} {M : Int} {st st' : HSt Int} {v p : Nat} {c : Int} {e0 : Ent}
    (D : DInv E maxCost isGoal heur cur? M st) (L : Lowered st st' v c p e0) (hk : e0.1 = c + heur.getD v 0)
    (hc0 : 0 ≤ c) (hM : M ≤ c + heur.getD v 0) : DInv E maxCost isGoal heur cur? M st' := by
  refine {
    key_ge := ?key_ge, open_key := ?open_key, closed_le := ?closed_le, heap_ge := ?heap_ge, nonneg := ?nonneg,
    relaxed_all := ?relaxed_all, nongoal := ?nongoal }
  case key_ge =>
    intro e he
    rw [L.heap] at he
    rcases List.mem_cons.mp he with h | h
    · rw [h, L.node, hk]; exact ⟨c, L.g_v, Int.le_refl _⟩
    · obtain ⟨a, ha, hle⟩ := D.key_ge e h
      obtain ⟨a', ha', hl'⟩ := L.mono _ a ha
      exact ⟨a', ha', Int.le_trans (Int.add_le_add_right hl' _) hle⟩
  case open_key =>
    intro x a hx hxc
    rw [L.closed] at hxc
    rw [L.heap]
    rcases L.orig hx with ⟨rfl, rfl⟩ | hx'
    · exact ⟨e0, List.mem_cons_self, L.node, hk⟩
    · obtain ⟨e, he, hn, hk'⟩ := D.open_key x a hx' hxc
      exact ⟨e, List.mem_cons_of_mem _ he, hn, hk'⟩
  case closed_le =>
    intro u hu
    rw [L.closed] at hu
    rw [L.closed_g hu]; exact D.closed_le u hu
  case heap_ge =>
    intro e he
    rw [L.heap] at he
    rcases List.mem_cons.mp he with h | h
    · rw [h, hk]; exact hM
    · exact D.heap_ge e h
  case nonneg =>
    intro x a hx
    rcases L.orig hx with ⟨_, rfl⟩ | hx'
    · exact hc0
    · exact D.nonneg x a hx'
  case relaxed_all =>
    intro u hu hne cu hcu hpr e he heu
    rw [L.closed] at hu
    rw [L.closed_g hu] at hcu
    obtain ⟨gv, hgv, hle⟩ := D.relaxed_all u hu hne cu hcu hpr e he heu
    obtain ⟨gv', hgv', hl'⟩ := L.mono _ gv hgv
    exact ⟨gv', hgv', Int.le_trans hl' hle⟩
  case nongoal =>
    intro u hu hne cu hcu hpr
    rw [L.closed] at hu
    rw [L.closed_g hu] at hcu
    exact D.nongoal u hu hne cu hcu hpr

theorem drelax_step {n s : Nat} {noCost : Prop} {fOf : Int → Nat → Int} (hf : KeyIs fOf heur) (hcons : Consistent E heur)
    (hE : ∀ e ∈ E, e.2.1 < n) {cur : Nat} {gcur : Int} {st : HSt Int}
    (sc : HScan E n s isGoal noCost cur gcur st) (D : DInv E maxCost isGoal heur (some cur) (gcur + heur.getD cur 0) st)
    {nb : Nat × Int} (he : (cur, nb.1, nb.2) ∈ E) (hw : 0 ≤ nb.2) :
    DInv E maxCost isGoal heur (some cur) (gcur + heur.getD cur 0) (hRelax intNum fOf cur gcur st nb) := by
  obtain ⟨v, w⟩ := nb
  rcases hRelax_cases fOf cur gcur st v w with ⟨heq, _⟩ | hL
  · rw [heq]; exact D
  · have hvn : v < n := hE _ he
    have hcv : heur.getD cur 0 ≤ w + heur.getD v 0 := hcons _ he
    have hg0 : 0 ≤ gcur := D.nonneg cur gcur sc.g_cur
    exact D.lower (hL (by rw [sc.inv.len_g]; exact hvn) (by rw [sc.inv.len_p]; exact hvn)) (hf _ _) (by omega) (by omega)

theorem dinv_skip {M : Int} {st : HSt Int} (D : DInv E maxCost isGoal heur none M st) {e : Ent} {rest : List Ent}
    (hp : popMin intNum st.heap = some (e, rest)) (hc : e.2.2.2 ∈ st.closed) :
    DInv E maxCost isGoal heur none M { st with heap := rest } := by
  obtain ⟨hm, hsub, hcov⟩ := popMin_some hp
  refine { D with
    key_ge := fun x hx => D.key_ge x (hsub x hx), open_key := ?_, heap_ge := fun x hx => D.heap_ge x (hsub x hx) }
  intro v c hv hvc
  obtain ⟨e', he', hn, hk⟩ := D.open_key v c hv hvc
  rcases hcov e' he' with h | h
  · exact absurd (by rw [← hn, h]; exact hc) hvc
  · exact ⟨e', h, hn, hk⟩

theorem dinv_close {M : Int} {st : HSt Int} (D : DInv E maxCost isGoal heur none M st) {e : Ent} {rest : List Ent}
    (hp : popMin intNum st.heap = some (e, rest)) (hc : e.2.2.2 ∉ st.closed) {c : Int}
    (hgc : look st.g e.2.2.2 = some c) :
    DInv E maxCost isGoal heur (some e.2.2.2) (c + heur.getD e.2.2.2 0) (hClose st e.2.2.2 rest) := by
  obtain ⟨hm, hsub, hcov⟩ := popMin_some hp
  have hmin := popMin_min hp
  obtain ⟨c', hc', hle⟩ := D.key_ge e hm
  rw [hgc] at hc'; cases hc'
  obtain ⟨e', he', hn', hk'⟩ := D.open_key _ c hgc hc
  -- the popped key is the current `f` of its node: a stale entry is larger, an entry with the current `f` exists, the pop is minimal
  have hce : c + heur.getD e.2.2.2 0 = e.1 := Int.le_antisymm hle (hk' ▸ hmin e' he')
  have hMc : M ≤ c + heur.getD e.2.2.2 0 := hce ▸ D.heap_ge e hm
  refine {
    key_ge := fun x hx => D.key_ge x (hsub x hx)
    nonneg := D.nonneg
    open_key := ?open_key, closed_le := ?closed_le, heap_ge := ?heap_ge, relaxed_all := ?relaxed_all, nongoal := ?nongoal }
  case open_key =>
    intro v cv hv hvc
    have hvc' : v ∉ st.closed := fun h => hvc (List.mem_cons_of_mem _ h)
    obtain ⟨e'', he'', hn, hk⟩ := D.open_key v cv hv hvc'
    rcases hcov e'' he'' with h | h
    · exact absurd (by rw [← hn, h]; exact List.mem_cons_self) hvc
    · exact ⟨e'', h, hn, hk⟩
  case closed_le =>
    intro u hu
    rcases List.mem_cons.mp hu with h | h
    · rw [h]; exact ⟨c, hgc, Int.le_refl _⟩
    · obtain ⟨cu, hcu, hl⟩ := D.closed_le u h
      exact ⟨cu, hcu, Int.le_trans hl hMc⟩
  case heap_ge =>
    intro x hx
    exact hce ▸ hmin x (hsub x hx)
  case relaxed_all =>
    intro u hu hne cu hcu hpr e' he' heu
    rcases List.mem_cons.mp hu with h | h
    · exact absurd (by rw [h]) hne
    · exact D.relaxed_all u h (by simp) cu hcu hpr e' he' heu
  case nongoal =>
    intro u hu hne cu hcu hpr
    rcases List.mem_cons.mp hu with h | h
    · exact absurd (by rw [h]) hne
    · exact D.nongoal u h (by simp) cu hcu hpr

theorem DInv.release {cur : Nat} {M : Int} {st : HSt Int} (D : DInv E maxCost isGoal heur (some cur) M st)
    (hcur : ∀ cu, look st.g cur = some cu → pruned intNum maxCost cu = false →
      isGoal cur = false ∧ ∀ e ∈ E, e.1 = cur → ∃ gv, look st.g e.2.1 = some gv ∧ gv ≤ cu + e.2.2) :
    DInv E maxCost isGoal heur none M st := by
  refine { D with relaxed_all := ?_, nongoal := ?_ }
  · intro u hu _ cu hcu hpr e he heu
    by_cases huc : u = cur
    · subst huc; exact (hcur cu hcu hpr).2 e he heu
    · exact D.relaxed_all u hu (fun h => huc (Option.some.inj h).symm) cu hcu hpr e he heu
  · intro u hu _ cu hcu hpr
    by_cases huc : u = cur
    · subst huc; exact (hcur cu hcu hpr).1
    · exact D.nongoal u hu (fun h => huc (Option.some.inj h).symm) cu hcu hpr

theorem dinv_finish (hcons : Consistent E heur) {cur : Nat} {gcur : Int} {st : HSt Int}
    (D : DInv E maxCost isGoal heur (some cur) (gcur + heur.getD cur 0) st) (hgc : look st.g cur = some gcur)
    (hg : isGoal cur = false)
    (hdone : ∀ nb ∈ adjOf E cur, Handled gcur st nb) :
    DInv E maxCost isGoal heur none (gcur + heur.getD cur 0) st := by
  refine D.release fun cu hcu _ => ⟨hg, fun e he heu => ?_⟩
  rw [hgc] at hcu; cases hcu
  obtain ⟨a, b, c⟩ := e
  simp only at heu
  subst heu
  rcases hdone (b, c) (mem_adjOf.mpr he) with h | ⟨gv, hgv, hle⟩
  · -- a closed neighbour: its `f` is at most the key of `cur`, and `h` is consistent
    obtain ⟨cb, hcb, hl⟩ := D.closed_le b h
    exact ⟨cb, hcb, by have := hcons _ he; simp only at this ⊢; omega⟩
  · exact ⟨gv, hgv, hle⟩

theorem dinv_prune {cur : Nat} {gcur M : Int} {st : HSt Int} (D : DInv E maxCost isGoal heur (some cur) M st)
    (hgc : look st.g cur = some gcur) (hpr : pruned intNum maxCost gcur = true) :
    DInv E maxCost isGoal heur none M st :=
  D.release fun cu hcu hpr' => by rw [hgc] at hcu; cases hcu; rw [hpr] at hpr'; cases hpr'

end dinv

section dloop
variable {E : List (Edge Int)} {n s : Nat} {isGoal : Nat → Bool} {heur : List Int}

theorem dloop_inv {fOf : Int → Nat → Int} (hf : KeyIs fOf heur) (hcons : Consistent E heur) (maxIter : Nat)
    (maxCost : Option Int) (hE : ∀ e ∈ E, e.2.1 < n) (hW : ∀ e ∈ E, 0 ≤ e.2.2) :
    ∀ (fuel : Nat) (st : HSt Int),
      (HInv E n s isGoal (maxCost = none) none st ∧ ∃ M, DInv E maxCost isGoal heur none M st) →
      HPost maxCost isGoal (fun st => HInv E n s isGoal (maxCost = none) none st ∧ ∃ M, DInv E maxCost isGoal heur none M st)
        (fun cur c st => HMid E n s isGoal (maxCost = none) cur c st ∧
          DInv E maxCost isGoal heur (some cur) (c + heur.getD cur 0) st)
        (hLoop intNum (adjOf E) fOf isGoal maxIter maxCost fuel st) :=
  hLoop_rule _ _
    (fun _ _ _ ⟨inv, M, D⟩ hp hc => ⟨hinv_skip inv hp hc, M, dinv_skip D hp hc⟩)
    (fun _ _ _ ⟨inv, _, D⟩ hp hc =>
      have mid := hinv_close inv hp hc
      ⟨mid, dinv_close D hp hc mid.g_cur⟩)
    (fun _ _ _ ⟨mid, D⟩ hpr =>
      ⟨hinv_prune (fun h => by rw [h] at hpr; exact Bool.false_ne_true hpr) mid, _, dinv_prune D mid.g_cur hpr⟩)
    (fun cur c st ⟨mid, D⟩ _ hg =>
      have ⟨sc, _, dn⟩ := hrelax_fold fOf hE (adjOf E cur) st (fun _ h => mem_adjOf.mp h) mid.scan
      -- a second pass over the same scan: the step of `DInv` needs `HScan` of the intermediate state, and
      -- `fold_decreasing` (behind `hrelax_fold`) carries one invariant
      have Df := (foldl_inv (fun st => HScan E n s isGoal (maxCost = none) cur c st ∧
          DInv E maxCost isGoal heur (some cur) (c + heur.getD cur 0) st) (l := adjOf E cur) (b := st) ⟨mid.scan, D⟩
        fun st nb hnb ⟨sc, D⟩ => ⟨(hrelax_step fOf hE st nb (mem_adjOf.mp hnb) sc).1,
          drelax_step hf hcons hE sc D (mem_adjOf.mp hnb) (hW _ (mem_adjOf.mp hnb))⟩).2
      ⟨hinv_finish sc hg dn, _, dinv_finish hcons Df sc.g_cur hg dn⟩)

end dloop

theorem look_astarPot (n : Nat) (g : Tab Int) (heur : List Int) (c : Int) (v : Nat) :
    look (astarPot n g heur c) v =
      if v < n then (match look g v with
        | some x => some (if x < c - heur.getD v 0 then x else c - heur.getD v 0)
        | none => some (c - heur.getD v 0)) else none := by
  unfold astarPot look
  by_cases hv : v < n
  · rw [if_pos hv, getD_map_range _ _ hv]; rfl
  · rw [if_neg hv, getD_of_ge (by rw [List.length_map, List.length_range]; exact Nat.le_of_not_lt hv)]

theorem astarPot_spec {n : Nat} (g : Tab Int) (heur : List Int) (c : Int) {v : Nat} (hv : v < n) :
    ∃ b, look (astarPot n g heur c) v = some b ∧ b ≤ c - heur.getD v 0 ∧ (∀ x, look g v = some x → b ≤ x) ∧
      (b = c - heur.getD v 0 ∨ (look g v = some b ∧ b + heur.getD v 0 < c)) := by
  rw [look_astarPot, if_pos hv]
  cases look g v with
  | none => exact ⟨_, rfl, Int.le_refl _, fun _ hx => (nomatch hx), Or.inl rfl⟩
  | some x =>
    by_cases hlt : x < c - heur.getD v 0
    · exact ⟨x, by simp only [if_pos hlt], Int.le_of_lt hlt, fun y hy => by cases hy; exact Int.le_refl _,
        Or.inr ⟨rfl, Int.add_lt_of_lt_sub_right hlt⟩⟩
    · exact ⟨_, by simp only [if_neg hlt], Int.le_refl _, fun y hy => by cases hy; exact Int.not_lt.mp hlt, Or.inl rfl⟩

/-- `hbelow`: every node whose `f = g + h` is below `c` is closed, expanded and not pruned.  Such nodes are relaxed along
their out-edges, all others sit at the cap `c - h`, which consistency makes feasible. -/
theorem astar_cap_cert {E : List (Edge Int)} {n s : Nat} {T : List Nat} {maxCost : Option Int} {heur : List Int}
    (hs : s < n) (hE : ∀ e ∈ E, e.2.1 < n) (hcons : Consistent E heur)
    (hgoal : ∀ t ∈ T, heur.getD t 0 = 0) {cur? : Option Nat} {c M : Int} {st : HSt Int}
    (hc0 : heur.getD s 0 ≤ c) (hstart : look st.g s = some 0) (D : DInv E maxCost T.contains heur cur? M st)
    (hbelow : ∀ u cu, look st.g u = some cu → cu + heur.getD u 0 < c →
      u ∈ st.closed ∧ cur? ≠ some u ∧ pruned intNum maxCost cu = false) :
    lowerCert E s T (astarPot n st.g heur c) c = true := by
  unfold lowerCert
  simp only [Bool.and_eq_true, beq_iff_eq, List.all_eq_true]
  refine ⟨⟨?_, ?_⟩, ?_⟩
  · unfold feasible
    rw [List.all_eq_true]
    intro e he
    by_cases hun : e.1 < n
    · obtain ⟨bu, hbu, _, _, hu⟩ := astarPot_spec st.g heur c hun
      obtain ⟨bv, hbv, hv1, hv2, _⟩ := astarPot_spec st.g heur c (hE e he)
      have hce := hcons e he
      rw [hbu, hbv]
      apply decide_eq_true
      rcases hu with rfl | ⟨hgu, hlt⟩
      · omega
      · obtain ⟨h1, h2, h3⟩ := hbelow e.1 bu hgu hlt
        obtain ⟨gv, hgv, hle⟩ := D.relaxed_all e.1 h1 h2 bu hgu h3 e he rfl
        exact Int.le_trans (hv2 gv hgv) hle
    · rw [look_astarPot, if_neg hun]
  · obtain ⟨b, hb, _, hb2, hb3⟩ := astarPot_spec st.g heur c hs
    have := hb2 0 hstart
    rw [hb]
    rcases hb3 with rfl | ⟨hg, _⟩
    · congr 1; omega
    · rw [hstart] at hg; exact hg.symm
  · intro t ht
    by_cases htn : t < n
    · obtain ⟨b, hb, _, _, hb3⟩ := astarPot_spec st.g heur c htn
      rw [hb]
      apply decide_eq_true
      have hgt0 := hgoal t ht
      rcases hb3 with rfl | ⟨hg, hlt⟩
      · rw [hgt0, Int.sub_zero]; exact Int.le_refl c
      · obtain ⟨h1, h2, h3⟩ := hbelow t b hg hlt
        have := D.nongoal t h1 h2 b hg h3
        rw [List.contains_iff_mem.mpr ht] at this; cases this
    · rw [look_astarPot, if_neg htn]

theorem astar_found_cert {E : List (Edge Int)} {n s : Nat} {T : List Nat} {maxCost : Option Int} {heur : List Int}
    (hs : s < n) (hE : ∀ e ∈ E, e.2.1 < n) (hcons : Consistent E heur) (hh0 : ∀ v, 0 ≤ heur.getD v 0)
    (hgoal : ∀ t ∈ T, heur.getD t 0 = 0) {cur : Nat} {c : Int} {st : HSt Int}
    (hgc : look st.g cur = some c) (inv : HInv E n s T.contains (maxCost = none) (some cur) st)
    (D : DInv E maxCost T.contains heur (some cur) (c + heur.getD cur 0) st) (hpr : pruned intNum maxCost c = false)
    (hcc : cur ∈ st.closed) (hg : T.contains cur = true) :
    lowerCert E s T (astarPot n st.g heur c) c = true := by
  have hcur0 : heur.getD cur 0 = 0 := hgoal cur (by simpa using hg)
  have hsc : s ∈ st.closed := inv.start_closed hcc
  have hs0 : heur.getD s 0 ≤ c := by
    obtain ⟨c0, hc0, hle⟩ := D.closed_le s hsc
    rw [inv.start_g] at hc0; cases hc0
    omega
  apply astar_cap_cert hs hE hcons hgoal hs0 inv.start_g D
  intro u cu hcu hlt
  refine ⟨?_, ?_, ?_⟩
  · by_cases huc : u ∈ st.closed
    · exact huc
    · obtain ⟨e, he, _, hk⟩ := D.open_key u cu hcu huc
      have := D.heap_ge e he; omega
  · intro h
    have : cur = u := Option.some.inj h
    subst this
    rw [hgc] at hcu; cases hcu; omega
  · cases hp : pruned intNum maxCost cu with
    | false => rfl
    | true =>
      have := hh0 u
      have := pruned_mono (a := cu) (b := c) (by omega) hp; rw [hpr] at this; cases this

theorem walk_nonneg {E : List (Edge Int)} (hW : ∀ e ∈ E, 0 ≤ e.2.2) {u t : Nat} {c : Int} (h : Walk E u t c) :
    0 ≤ c := by
  have := fn_potential_walk (fun _ => 0) (fun e he => by rw [Int.zero_add]; exact hW e he) h
  rwa [Int.zero_add] at this

theorem consistent_admissible {E : List (Edge Int)} {heur : List Int} (hcons : Consistent E heur) {u t : Nat} {c : Int}
    (hw : Walk E u t c) : heur.getD u 0 ≤ c + heur.getD t 0 := by
  have := fn_potential_walk (fun v => - heur.getD v 0) (fun e he => by have := hcons e he; omega) hw
  omega

open Solvor.Gen (Status) in
theorem hsearch_cert {E : List (Edge Int)} {n s : Nat} (T : List Nat) (heur : List Int) (fOf : Int → Nat → Int)
    (hf : KeyIs fOf heur) (maxIter : Nat) (maxCost : Option Int)
    (hs : s < n) (hE : ∀ e ∈ E, e.2.1 < n) (hW : ∀ e ∈ E, 0 ≤ e.2.2) (hcons : Consistent E heur)
    (hh0 : ∀ v, 0 ≤ heur.getD v 0) (hgoal : ∀ t ∈ T, heur.getD t 0 = 0) :
    let r := hSearch intNum n E.length (adjOf E) fOf s T.contains maxIter maxCost .OPTIMAL
    (r.status = .OPTIMAL →
      ∃ p c, r.path = some p ∧ r.cost = some c ∧ distCert E s T (astarPot n r.g heur c) p c = true) ∧
    (r.status = .INFEASIBLE →
      ∀ t ∈ T, ∀ c, Walk E s t c → match maxCost with | none => False | some m => m < c) := by
  have h2 := dloop_inv (E := E) (n := n) (s := s) (isGoal := T.contains) hf hcons maxIter maxCost hE hW
    (E.length + 2) _ ⟨hinv_init (noCost := maxCost = none) fOf hs, _, dinv_init hf hs⟩
  have h3 := hresult_sound (E := E) (n := n) (s := s) T maxCost .OPTIMAL ⟨by decide, by decide⟩
  unfold hSearch
  generalize hLoop intNum (adjOf E) fOf T.contains maxIter maxCost (E.length + 2)
    (hInit intNum n fOf s) = out at h2 ⊢
  cases out with
  | found cur st' =>
    refine ⟨fun hst => ?_, fun h => (by cases h)⟩
    obtain ⟨c, ⟨mid, D⟩, hpr, hg⟩ := h2
    have hgc := mid.g_cur
    obtain ⟨p, c', hp, hc', hok⟩ := (h3 (.found cur st') ⟨c, mid, hpr, hg⟩).1 hst
    have hcc' : c' = c := by
      have : (hResult n Status.OPTIMAL (HOut.found cur st')).cost = look st'.g cur := rfl
      rw [this, hgc] at hc'; exact (Option.some.inj hc').symm
    subst hcc'
    refine ⟨p, c', hp, hc', ?_⟩
    unfold distCert
    rw [Bool.and_eq_true]
    exact ⟨astar_found_cert hs hE hcons hh0 hgoal hgc mid.inv D hpr mid.closed hg, hok⟩
  | infeasible st' =>
    refine ⟨fun h => (by cases h), fun _ t ht c hw => ?_⟩
    cases hmc : maxCost with
    | none => exact (h3 (.infeasible st') ⟨h2.1.1, h2.2⟩).2 rfl hmc t ht ⟨c, hw⟩
    | some m =>
      simp only
      obtain ⟨⟨inv, M', D⟩, hheap⟩ := h2
      -- cap the potential at `m + 1`: no node with `f ≤ m` is left open.  If `h s` already exceeds the cap, the bound
      -- follows from admissibility alone (`consistent_admissible`).
      by_cases hm : heur.getD s 0 ≤ m + 1
      · have hcert : lowerCert E s T (astarPot n st'.g heur (m + 1)) (m + 1) = true := by
          apply astar_cap_cert hs hE hcons hgoal hm inv.start_g D
          intro u cu hcu hlt
          refine ⟨?_, by simp, ?_⟩
          · by_cases huc : u ∈ st'.closed
            · exact huc
            · obtain ⟨e, he, _, _⟩ := D.open_key u cu hcu huc
              rw [hheap] at he; cases he
          · have := hh0 u
            rw [hmc]; simp only [pruned, intNum, decide_eq_false_iff_not]; omega
        have := lowerCert_sound hcert t ht c hw
        omega
      · have := consistent_admissible hcons hw
        have := hgoal t ht
        omega
  | maxIter st' => exact ⟨fun h => (by cases h), fun h => (by cases h)⟩
  | fuel => exact ⟨fun h => (by cases h), fun h => (by cases h)⟩

end Solvor.Path
