import Solvor.Path.BellmanFord
/-! Path: the predecessor graph of the Bellman-Ford mirror stays acyclic as long as no negative cycle is
reachable (a relaxation that closes a predecessor cycle exhibits a negative cycle).  Hence, in exact
arithmetic, the predecessor-cycle guard of the repaired `bellman_ford` never fires on its own. -/
namespace Solvor.Path

/-- `Anc par a x`: `a` is `x` or an ancestor of `x` in the predecessor graph -/
inductive Anc (par : Tab Nat) (a : Nat) : Nat → Prop
  | refl : Anc par a a
  | step {x p : Nat} : look par x = some p → Anc par a p → Anc par a x

/-- `PC dist par x k`: following `par` from `x` reaches a root after `k` steps, all nodes having a finite
entry in `dist` -/
inductive PC (dist : Tab Int) (par : Tab Nat) : Nat → Nat → Prop
  | root {x : Nat} {d : Int} : look par x = none → look dist x = some d → PC dist par x 0
  | step {x p k : Nat} {d : Int} : look par x = some p → look dist x = some d → PC dist par p k →
      PC dist par x (k + 1)

theorem PC.unique {dist : Tab Int} {par : Tab Nat} {x k k' : Nat} (h : PC dist par x k) (h' : PC dist par x k') :
    k = k' := by
  induction h generalizing k' with
  | root h0 _ =>
    cases h' with
    | root _ _ => rfl
    | step hp _ _ => rw [h0] at hp; cases hp
  | step hp _ _ ih =>
    cases h' with
    | root h0 _ => rw [h0] at hp; cases hp
    | step hp' _ hc' => rw [hp] at hp'; cases hp'; rw [ih hc']

theorem PC.nodes {dist : Tab Int} {par : Tab Nat} {n : Nat} (hl : dist.length = n) {x k : Nat}
    (h : PC dist par x k) :
    ∃ l : List Nat, l.length = k + 1 ∧ l.Nodup ∧ ∀ y ∈ l, y < n ∧ ∃ j, j ≤ k ∧ PC dist par y j := by
  induction h with
  | @root x d h0 hd =>
    refine ⟨[x], rfl, by simp, ?_⟩
    intro y hy; simp at hy; subst hy
    exact ⟨by rw [← hl]; exact look_some_lt hd, 0, Nat.le_refl _, PC.root h0 hd⟩
  | @step x p k d hp hd hc ih =>
    obtain ⟨l, hlen, hnd, hall⟩ := ih
    refine ⟨x :: l, by simp [hlen], List.nodup_cons.mpr ⟨?_, hnd⟩, ?_⟩
    · intro hx
      obtain ⟨_, j, hj, hpc⟩ := hall x hx
      have := (PC.step hp hd hc).unique hpc
      omega
    · intro y hy
      rcases List.mem_cons.mp hy with h | h
      · rw [h]; exact ⟨by rw [← hl]; exact look_some_lt hd, k + 1, Nat.le_refl _, PC.step hp hd hc⟩
      · obtain ⟨h1, j, hj, hpc⟩ := hall y h
        exact ⟨h1, j, by omega, hpc⟩

theorem PC.lt {dist : Tab Int} {par : Tab Nat} {n : Nat} (hl : dist.length = n) {x k : Nat}
    (h : PC dist par x k) : k + 1 ≤ n := by
  obtain ⟨l, hlen, hnd, hall⟩ := h.nodes hl
  have := nodup_length_le (n := n) hnd fun y hy => (hall y hy).1
  omega

theorem PC.ends {dist : Tab Int} {par : Tab Nat} {x k : Nat} (h : PC dist par x k) :
    ∀ fuel, k < fuel → chainEnds par fuel x = true := by
  induction h with
  | root h0 _ =>
    intro fuel hf
    obtain ⟨f, rfl⟩ := Nat.exists_eq_add_one_of_ne_zero (Nat.ne_of_gt (Nat.zero_lt_of_lt hf))
    simp [chainEnds, h0]
  | step hp _ _ ih =>
    intro fuel hf
    obtain ⟨f, rfl⟩ := Nat.exists_eq_add_one_of_ne_zero (Nat.ne_of_gt (Nat.zero_lt_of_lt hf))
    simp only [chainEnds, hp]
    exact ih f (Nat.lt_of_succ_lt_succ hf)

theorem Anc.slack {E : List (Edge Int)} {n s : Nat} {st : BFSt} (inv : BFInv E n s st) {a x : Nat}
    (h : Anc st.par a x) : ∀ dx, look st.dist x = some dx →
    ∃ da W, look st.dist a = some da ∧ Walk E a x W ∧ da + W ≤ dx := by
  induction h with
  | refl => intro dx hdx; exact ⟨dx, 0, hdx, Walk.nil a, by omega⟩
  | @step x p hp _ ih =>
    intro dx hdx
    obtain ⟨w, dp, dx', hmem, hdp, hdx'', hle⟩ := inv.par_edge x p hp
    rw [hdx] at hdx''; cases hdx''
    obtain ⟨da, W, hda, hw, hle2⟩ := ih dp hdp
    exact ⟨da, W + w, hda, Walk.snoc hw hmem, by omega⟩

def NoNegCycle (E : List (Edge Int)) (s : Nat) : Prop := ∀ x, Reach E s x → ∀ c, Walk E x x c → 0 ≤ c

/-- the predecessor graph is acyclic: every node with a finite entry has a finite predecessor chain -/
def AC (st : BFSt) : Prop := ∀ v d, look st.dist v = some d → ∃ k, PC st.dist st.par v k

theorem ac_init (n s : Nat) (hs : s < n) : AC (bfInit n s) := by
  intro v d h
  have hd : look (bfInit n s).dist v = if v = s then some 0 else none := look_single hs 0 v
  rw [hd] at h
  split at h
  · next e =>
    subst e
    exact ⟨0, PC.root (d := 0) (look_empty _ _) (by rw [hd, if_pos rfl])⟩
  · cases h

theorem ac_relax {E : List (Edge Int)} {n s : Nat} {st : BFSt} (inv : BFInv E n s st) (ac : AC st)
    (hnn : NoNegCycle E s) {e : Edge Int} (he : e ∈ E)
    (hr : relaxable st.dist e = true) : AC (relax st e) := by
  obtain ⟨u, v, w⟩ := e
  obtain ⟨du, hdu, hcase⟩ := relaxable_iff.mp hr
  simp only at hdu hcase
  by_cases hv : v < n
  case neg => rw [relax_out_of_range inv.len_d inv.len_p hv]; exact ac
  case pos =>
  rw [relax_eq hdu]
  have hvd : v < st.dist.length := by rw [inv.len_d]; exact hv
  have hvp : v < st.par.length := by rw [inv.len_p]; exact hv
  have hD := look_set_lt hvd (some (du + w))
  have hP := look_set_lt hvp (some u)
  -- `v` is not on the predecessor chain of `u`: otherwise the cycle `v ⇝ u → v` would be negative
  have hnanc : ¬ Anc st.par v u := by
    intro hanc
    obtain ⟨dv, W, hdv, hw, hle⟩ := hanc.slack inv du hdu
    have hlt : du + w < dv := by
      rcases hcase with h0 | ⟨dv', h1, h2⟩
      · rw [hdv] at h0; cases h0
      · rw [hdv] at h1; cases h1; exact h2
    have hcyc : Walk E v v (W + w) := Walk.snoc hw he
    have := hnn v ⟨dv, inv.real v dv hdv⟩ _ hcyc
    omega
  -- chains that avoid `v` are untouched
  have keep : ∀ x k, PC st.dist st.par x k → ¬ Anc st.par v x →
      PC (st.dist.set v (some (du + w))) (st.par.set v (some u)) x k := by
    intro x k h
    induction h with
    | @root x d h0 hd =>
      intro hna
      have hxv : x ≠ v := fun e => hna (by rw [e]; exact Anc.refl)
      exact PC.root (by rw [hP, if_neg hxv]; exact h0) (by rw [hD, if_neg hxv]; exact hd)
    | @step x p k d hp hd _ ih =>
      intro hna
      have hxv : x ≠ v := fun e => hna (by rw [e]; exact Anc.refl)
      have hnp : ¬ Anc st.par v p := fun h => hna (Anc.step hp h)
      exact PC.step (by rw [hP, if_neg hxv]; exact hp) (by rw [hD, if_neg hxv]; exact hd) (ih hnp)
  obtain ⟨ku, hku⟩ := ac u du hdu
  have hu' := keep u ku hku hnanc
  have hv' : PC (st.dist.set v (some (du + w))) (st.par.set v (some u)) v (ku + 1) :=
    PC.step (d := du + w) (by rw [hP, if_pos rfl]) (by rw [hD, if_pos rfl]) hu'
  -- every old chain is redirected at `v`
  have redirect : ∀ x k, PC st.dist st.par x k →
      ∃ k', PC (st.dist.set v (some (du + w))) (st.par.set v (some u)) x k' := by
    intro x k h
    induction h with
    | @root x d h0 hd =>
      by_cases hxv : x = v
      · rw [hxv]; exact ⟨_, hv'⟩
      · exact ⟨0, PC.root (by rw [hP, if_neg hxv]; exact h0) (by rw [hD, if_neg hxv]; exact hd)⟩
    | @step x p k d hp hd _ ih =>
      by_cases hxv : x = v
      · rw [hxv]; exact ⟨_, hv'⟩
      · obtain ⟨k', hk'⟩ := ih
        exact ⟨k' + 1, PC.step (by rw [hP, if_neg hxv]; exact hp) (by rw [hD, if_neg hxv]; exact hd) hk'⟩
  intro x d hx
  simp only [hD] at hx
  by_cases hxv : x = v
  · rw [hxv]; exact ⟨_, hv'⟩
  · simp only [hxv, if_false] at hx
    obtain ⟨k, hk⟩ := ac x d hx
    exact redirect x k hk

theorem ac_rounds {E : List (Edge Int)} {n s : Nat} (hnn : NoNegCycle E s)
    (k : Nat) (st : BFSt) (inv : BFInv E n s st) (ac : AC st) : AC (bfRounds E k st) :=
  (bfRounds_inv (fun st => BFInv E n s st ∧ AC st)
    (fun _ _ he h hr => ⟨bfInv_relax h.1 he hr, ac_relax h.1 h.2 hnn he hr⟩) k st ⟨inv, ac⟩).2

/-- with no reachable negative cycle the predecessor-cycle guard does not fire -/
theorem no_par_cycle {E : List (Edge Int)} {n s : Nat} (hs : s < n)
    (hnn : ∀ x, Reach E s x → ∀ c, Walk E x x c → 0 ≤ c) :
    hasParCycle n (bfRounds E (n - 1) (bfInit n s)).par = false := by
  have inv := bfInv_rounds (E := E) (n - 1) (bfInit n s) (bfInv_init E hs)
  have ac := ac_rounds hnn (n - 1) (bfInit n s) (bfInv_init E hs) (ac_init n s hs)
  generalize bfRounds E (n - 1) (bfInit n s) = st at inv ac
  unfold hasParCycle
  cases hany : (List.range n).any (fun v => !chainEnds st.par n v) with
  | false => rfl
  | true =>
    exfalso
    obtain ⟨v, hv, hc⟩ := List.any_eq_true.mp hany
    have hvn : v < n := List.mem_range.mp hv
    have hends : chainEnds st.par n v = true := by
      cases hp : look st.par v with
      | none =>
        obtain ⟨f, hf⟩ : ∃ f, n = f + 1 := ⟨n - 1, by omega⟩
        rw [hf]; simp [chainEnds, hp]
      | some p =>
        obtain ⟨_, _, dv, _, _, hdv, _⟩ := inv.par_edge v p hp
        obtain ⟨k, hk⟩ := ac v dv hdv
        exact hk.ends n (by have := hk.lt inv.len_d; omega)
    rw [hends] at hc; cases hc

end Solvor.Path
