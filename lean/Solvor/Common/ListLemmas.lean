/-! Facts about `List` that several areas use: `getD` against `set`, `map`, `range`; duplicate-free lists of
bounded numbers; filters that shrink; invariants of folds (`foldl_inv`, `foldl_range_inv`) and the maximum a fold
computes; sums of `Rat`s grouped by a key.  Core Lean only (no import), so that every lemma file may import it,
whether or not it uses Mathlib. -/
namespace Solvor

section getD
variable {α : Type _} {β : Type _}

theorem getD_of_lt {l : List α} {i : Nat} (h : i < l.length) (d : α) : l.getD i d = l[i] :=
  (List.getElem_eq_getD d).symm

theorem getD_of_ge {l : List α} {i : Nat} (h : l.length ≤ i) (d : α) : l.getD i d = d := by
  rw [List.getD_eq_getElem?_getD, List.getElem?_eq_none h]; rfl

theorem getD_mem {l : List α} {i : Nat} (h : i < l.length) (d : α) : l.getD i d ∈ l := by
  rw [getD_of_lt h]; exact List.getElem_mem h

theorem getD_set (l : List α) (i j : Nat) (a d : α) :
    (l.set i a).getD j d = if i = j ∧ i < l.length then a else l.getD j d := by
  rw [List.getD_eq_getElem?_getD, List.getD_eq_getElem?_getD, List.getElem?_set]
  by_cases h : i = j
  · subst h; by_cases h2 : i < l.length <;> simp [h2]
  · simp [h]

theorem getD_set_self {l : List α} {i : Nat} (h : i < l.length) (a d : α) : (l.set i a).getD i d = a := by
  rw [getD_set, if_pos ⟨rfl, h⟩]

theorem getD_set_ne {l : List α} {i j : Nat} (h : i ≠ j) (a d : α) : (l.set i a).getD j d = l.getD j d := by
  rw [getD_set, if_neg fun h' => h h'.1]

theorem getD_map (f : α → β) (l : List α) (i : Nat) (d : α) : (l.map f).getD i (f d) = f (l.getD i d) := by
  rw [List.getD_eq_getElem?_getD, List.getD_eq_getElem?_getD, List.getElem?_map]
  cases l[i]? <;> rfl

theorem getD_append_lt (l l' : List α) (d : α) {i : Nat} (h : i < l.length) : (l ++ l').getD i d = l.getD i d := by
  rw [List.getD_eq_getElem?_getD, List.getElem?_append_left h, ← List.getD_eq_getElem?_getD]

theorem getD_append_len (l : List α) (x d : α) : (l ++ [x]).getD l.length d = x := by
  rw [List.getD_eq_getElem?_getD, List.getElem?_append_right (Nat.le_refl _), Nat.sub_self]; rfl

theorem getD_mapIdx (f : Nat → α → β) {l : List α} {i : Nat} (hi : i < l.length) (d : α) (d' : β) :
    (l.mapIdx f).getD i d' = f i (l.getD i d) := by
  rw [List.getD_eq_getElem?_getD, List.getElem?_mapIdx, List.getElem?_eq_getElem hi, getD_of_lt hi]; rfl

theorem getD_map_range (f : Nat → α) (d : α) {n i : Nat} (h : i < n) : ((List.range n).map f).getD i d = f i := by
  rw [List.getD_eq_getElem?_getD, List.getElem?_map, List.getElem?_range h]; rfl

theorem getD_replicate_self (n i : Nat) (a : α) : (List.replicate n a).getD i a = a := by
  rw [List.getD_eq_getElem?_getD, List.getElem?_replicate]; split <;> rfl

/-- lists of one length that read the same at every index are equal -/
theorem ext_getD {l1 l2 : List α} {n : Nat} (d : α) (h1 : l1.length = n) (h2 : l2.length = n)
    (h : ∀ i, i < n → l1.getD i d = l2.getD i d) : l1 = l2 :=
  List.ext_getElem (h1.trans h2.symm) fun i hi1 hi2 => by
    rw [← getD_of_lt hi1 d, ← getD_of_lt hi2 d]; exact h i (h1 ▸ hi1)

end getD

section nodup

theorem nodup_concat {α : Type _} {l : List α} {a : α} (hn : l.Nodup) (ha : a ∉ l) : (l ++ [a]).Nodup :=
  List.nodup_append.2 ⟨hn, List.pairwise_singleton _ _, fun _ hx _ hb hab => ha (List.mem_singleton.1 hb ▸ hab ▸ hx)⟩

/-- pigeonhole, counting: distinct numbers below `n` are at most `n` -/
theorem nodup_length_le {l : List Nat} {n : Nat} (hnd : l.Nodup) (h : ∀ x ∈ l, x < n) : l.length ≤ n := by
  have := hnd.length_le_of_subset (l₂ := List.range n) fun x hx => List.mem_range.2 (h x hx)
  rwa [List.length_range] at this

/-- … a list shorter than `n` misses a number below `n` -/
theorem exists_lt_not_mem {l : List Nat} {n : Nat} (h : l.length < n) : ∃ z, z < n ∧ z ∉ l := by
  apply Classical.byContradiction
  intro hno
  have := List.nodup_range.length_le_of_subset (l₁ := List.range n) (l₂ := l) fun x hx =>
    Classical.byContradiction fun hni => hno ⟨x, List.mem_range.1 hx, hni⟩
  rw [List.length_range] at this
  omega

/-- … a duplicate-free list inside `U` that is no shorter holds all of `U` -/
theorem subset_of_nodup_length_ge {α : Type _} {S U : List α} (hn : S.Nodup) (hs : S ⊆ U)
    (hl : U.length ≤ S.length) : U ⊆ S := by
  intro x hx
  apply Classical.byContradiction
  intro hxS
  have := (List.nodup_cons.2 ⟨hxS, hn⟩).length_le_of_subset (l₂ := U) fun y hy => by
    rcases List.mem_cons.1 hy with rfl | h
    · exact hx
    · exact hs h
  rw [List.length_cons] at this
  omega

/-- … so `n` distinct numbers below `n` are all of them -/
theorem mem_of_nodup_of_le_length {l : List Nat} {n : Nat} (hnd : l.Nodup) (hlt : ∀ x ∈ l, x < n)
    (hlen : n ≤ l.length) {i : Nat} (hi : i < n) : i ∈ l :=
  subset_of_nodup_length_ge hnd (fun x hx => List.mem_range.2 (hlt x hx)) (List.length_range ▸ hlen)
    (List.mem_range.2 hi)

end nodup

/-- a predicate that holds in fewer places counts less: the termination measure of the worklist loops -/
theorem countP_lt_of_imp {α : Type _} {l : List α} {p q : α → Bool} (himp : ∀ y ∈ l, p y = true → q y = true)
    {z : α} (hz : z ∈ l) (hq : q z = true) (hp : p z = false) : l.countP p < l.countP q := by
  have e : l.countP p = (l.filter q).countP p := by
    rw [List.countP_filter]
    exact List.countP_congr fun y hy =>
      ⟨fun h => by rw [h, himp y hy h]; rfl, fun h => (Bool.and_eq_true _ _ ▸ h).1⟩
  rw [e, List.countP_eq_length_filter (p := q), List.countP_eq_length_filter]
  exact List.length_filter_lt_length_iff_exists.2
    ⟨z, List.mem_filter.2 ⟨hz, hq⟩, by rw [hp]; exact Bool.false_ne_true⟩

theorem filter_length_lt {α : Type _} {l : List α} {p q : α → Bool} (himp : ∀ y ∈ l, p y = true → q y = true)
    {z : α} (hz : z ∈ l) (hq : q z = true) (hp : p z = false) : (l.filter p).length < (l.filter q).length := by
  rw [← List.countP_eq_length_filter, ← List.countP_eq_length_filter]; exact countP_lt_of_imp himp hz hq hp

theorem not_or_eq_true {a b : Bool} : (!a || b) = true ↔ (a = true → b = true) := by
  cases a <;> cases b <;> decide

/-- two labels agree after `y ↦ x` iff they agreed before or were `x` and `y` -/
theorem relabel_eq_iff (a b x y : Nat) :
    ((if a = y then x else a) = if b = y then x else b) ↔ a = b ∨ a = x ∧ y = b ∨ a = y ∧ x = b := by
  grind

/-- over core's order classes, so that the uses at `Nat` and at `Int` share it -/
theorem foldl_max_spec {α β : Type _} [LE β] [Max β] [Std.IsLinearOrder β] [Std.LawfulOrderMax β]
    (f : α → β) (l : List α) (m : β) :
    m ≤ l.foldl (fun m p => max m (f p)) m ∧ ∀ p ∈ l, f p ≤ l.foldl (fun m p => max m (f p)) m := by
  induction l generalizing m with
  | nil => exact ⟨Std.le_refl _, fun _ h => nomatch h⟩
  | cons a l ih =>
    obtain ⟨h1, h2⟩ := ih (max m (f a))
    refine ⟨Std.le_trans Std.left_le_max h1, fun p hp => ?_⟩
    rcases List.mem_cons.1 hp with rfl | hp
    · exact Std.le_trans Std.right_le_max h1
    · exact h2 p hp

/-- an invariant of the step function is an invariant of the fold (core's `List.foldlRecOn`, arguments in the
order the call sites have them) -/
theorem foldl_inv {α β : Type _} (P : β → Prop) {f : β → α → β} {l : List α} {b : β} (hb : P b)
    (hf : ∀ b, ∀ a ∈ l, P b → P (f b a)) : P (l.foldl f b) :=
  List.foldlRecOn l f hb fun b hb a ha => hf b a ha hb

/-- … and over `List.range n` the invariant may know how many steps have been taken -/
theorem foldl_range_inv {σ : Type _} (P : Nat → σ → Prop) (f : σ → Nat → σ) (m : σ) (h0 : P 0 m) :
    ∀ n, (∀ k m, k < n → P k m → P (k + 1) (f m k)) → P n ((List.range n).foldl f m) := by
  intro n
  induction n with
  | zero => exact fun _ => h0
  | succ n ih =>
    intro hstep
    rw [List.range_succ, List.foldl_append]
    exact hstep n _ (Nat.lt_succ_self n) (ih fun k m hk => hstep k m (Nat.lt_succ_of_lt hk))

section ratSums
variable {α : Type _}

theorem sum_map_add (l : List α) (f g : α → Rat) :
    (l.map fun a => f a + g a).sum = (l.map f).sum + (l.map g).sum := by
  induction l with
  | nil => simp [Rat.add_zero]
  | cons a l ih => simp only [List.map_cons, List.sum_cons, ih]; grind

theorem sum_map_zero (l : List α) : (l.map fun _ => (0 : Rat)).sum = 0 := by
  induction l with
  | nil => rfl
  | cons a l ih => rw [List.map_cons, List.sum_cons, ih, Rat.add_zero]

theorem sum_range_succ (f : Nat → Rat) (k : Nat) :
    ((List.range (k + 1)).map f).sum = ((List.range k).map f).sum + f k := by
  rw [List.range_succ, List.map_append, List.sum_append, List.map_singleton, List.sum_singleton]

/-- exactly one term survives -/
theorem sum_indicator (j k : Nat) (x : Rat) (h : j < k) :
    ((List.range k).map fun b => if j = b then x else 0).sum = x := by
  induction k with
  | zero => exact absurd h (Nat.not_lt_zero j)
  | succ k ih =>
    rw [sum_range_succ]
    by_cases hj : j = k
    · subst hj
      rw [List.map_congr_left (g := fun _ => (0 : Rat)) (fun b hb => if_neg (Nat.ne_of_gt (List.mem_range.1 hb))),
        sum_map_zero, if_pos rfl, Rat.zero_add]
    · rw [ih (Nat.lt_of_le_of_ne (Nat.le_of_lt_succ h) hj), if_neg hj, Rat.add_zero]

/-- summing group by group (the groups being the fibres of `key`) is summing everything -/
theorem sum_by_key (f : α → Rat) (key : α → Nat) (k : Nat) (l : List α) (h : ∀ i ∈ l, key i < k) :
    ((List.range k).map fun b => ((l.filter fun i => key i == b).map f).sum).sum = (l.map f).sum := by
  induction l with
  | nil => exact sum_map_zero _
  | cons a l ih =>
    have e : ∀ b, (((a :: l).filter fun i => key i == b).map f).sum =
        (if key a = b then f a else 0) + ((l.filter fun i => key i == b).map f).sum := by
      intro b
      by_cases hb : key a = b
      · simp [hb]
      · simp [hb, Rat.zero_add]
    rw [List.map_congr_left (fun b _ => e b), sum_map_add, sum_indicator _ _ _ (h a List.mem_cons_self),
      ih (fun i hi => h i (List.mem_cons_of_mem _ hi))]
    simp

end ratSums
end Solvor
