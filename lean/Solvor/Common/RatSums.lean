import Mathlib.Algebra.Order.Field.Rat
import Mathlib.Algebra.Order.Field.Basic
import Mathlib.Algebra.Order.Ring.Abs
import Mathlib.Tactic.Ring
/-! Sums of `Rat`s over a mapped list against constants, scaling, subtraction, `≤` and `|·|`, for the files that
import Mathlib.  The facts that need no Mathlib are in `ListLemmas`. -/
namespace Solvor

variable {α : Type _}

theorem sum_map_const (l : List α) (c : Rat) : (l.map fun _ => c).sum = l.length * c := by
  induction l with
  | nil => simp
  | cons a l ih => rw [List.map_cons, List.sum_cons, ih, List.length_cons]; push_cast; ring

theorem sum_map_mul_left (l : List α) (c : Rat) (f : α → Rat) :
    (l.map fun a => c * f a).sum = c * (l.map f).sum := by
  induction l with
  | nil => simp
  | cons a l ih => rw [List.map_cons, List.sum_cons, ih, List.map_cons, List.sum_cons, mul_add]

theorem sum_map_sub (l : List α) (f g : α → Rat) :
    (l.map fun a => f a - g a).sum = (l.map f).sum - (l.map g).sum := by
  induction l with
  | nil => simp
  | cons a l ih => simp only [List.map_cons, List.sum_cons, ih]; ring

theorem sum_map_le_sum_map (l : List α) (f g : α → Rat) (h : ∀ a ∈ l, f a ≤ g a) :
    (l.map f).sum ≤ (l.map g).sum := by
  induction l with
  | nil => exact le_refl _
  | cons a l ih =>
    rw [List.map_cons, List.sum_cons, List.map_cons, List.sum_cons]
    exact add_le_add (h a List.mem_cons_self) (ih fun b hb => h b (List.mem_cons_of_mem _ hb))

theorem abs_sum_map_le (l : List α) (f : α → Rat) : |(l.map f).sum| ≤ (l.map fun a => |f a|).sum := by
  induction l with
  | nil => simp
  | cons a l ih =>
    rw [List.map_cons, List.sum_cons, List.map_cons, List.sum_cons]
    exact le_trans (abs_add_le _ _) (add_le_add (le_refl _) ih)

end Solvor
