import Solvor.Flow.CutLemmas
/-! Flow: the network `Net.ofArcs` that `EK.lean` builds from the `graph` argument is well-formed (core Lean only). -/
namespace Solvor.Flow

/-- what the harness guarantees about a request: node indices below `n`, non-negative capacities -/
def ArcsOK (n : Nat) (arcs : Arcs) : Prop := ∀ a ∈ arcs, a.1 < n ∧ a.2.1 < n ∧ 0 ≤ a.2.2

theorem capOf_nonneg {n : Nat} {arcs : Arcs} (h : ArcsOK n arcs) (u v : Nat) : 0 ≤ capOf arcs u v := by
  induction arcs with
  | nil => simp [capOf]
  | cons a as ih =>
    have ha := h a List.mem_cons_self
    have := ih (fun b hb => h b (List.mem_cons_of_mem _ hb))
    unfold capOf
    split <;> omega

theorem capOf_pos {arcs : Arcs} {u v : Nat} (h : 0 < capOf arcs u v) :
    ∃ a ∈ arcs, a.1 = u ∧ a.2.1 = v := by
  induction arcs with
  | nil => simp [capOf] at h
  | cons a as ih =>
    unfold capOf at h
    by_cases hc : a.1 = u ∧ a.2.1 = v
    · exact ⟨a, by simp, hc⟩
    · simp only [hc, if_false] at h
      obtain ⟨b, hb, hb'⟩ := ih (by omega)
      exact ⟨b, List.mem_cons_of_mem _ hb, hb'⟩

theorem mem_adjOf {rev : Bool} {arcs : Arcs} {x y : Nat} :
    y ∈ adjOf rev arcs x ↔
      ∃ a ∈ arcs, (a.1 = x ∧ a.2.1 = y) ∨ (rev = true ∧ a.2.1 = x ∧ a.1 = y) := by
  unfold adjOf touched
  rw [mem_dedup, List.mem_flatMap]
  constructor
  · rintro ⟨a, ha, hy⟩
    refine ⟨a, ha, ?_⟩
    rcases List.mem_append.1 hy with h | h
    · left
      by_cases hc : a.1 = x
      · simp only [hc, if_true, List.mem_singleton] at h; exact ⟨hc, h.symm⟩
      · simp [hc] at h
    · right
      by_cases hc : (rev && decide (a.2.1 = x)) = true
      · rw [if_pos hc] at h
        simp only [Bool.and_eq_true, decide_eq_true_eq] at hc
        simp only [List.mem_singleton] at h
        exact ⟨hc.1, hc.2, h.symm⟩
      · rw [if_neg hc] at h; cases h
  · rintro ⟨a, ha, h⟩
    refine ⟨a, ha, ?_⟩
    rcases h with ⟨h1, h2⟩ | ⟨h0, h1, h2⟩
    · apply List.mem_append_left; simp [h1, h2]
    · apply List.mem_append_right; simp [h0, h1, h2]

theorem Net.ofArcs_wf {n : Nat} {arcs : Arcs} {s t : Nat} (h : ArcsOK n arcs) (hs : s < n)
    (ht : t < n) (hst : s ≠ t) : (Net.ofArcs true n arcs s t).WF := by
  exact {
    nodup := List.nodup_range
    s_mem := by simpa [Net.ofArcs] using hs
    t_mem := by simpa [Net.ofArcs] using ht
    s_ne_t := hst
    cap_nonneg := fun u v => capOf_nonneg h u v
    cap_adj := fun u v hc => by
      obtain ⟨a, ha, h1⟩ := capOf_pos hc
      exact mem_adjOf.2 ⟨a, ha, Or.inl h1⟩
    adj_symm := fun u v hv => by
      obtain ⟨a, ha, h1⟩ := mem_adjOf.1 hv
      refine mem_adjOf.2 ⟨a, ha, ?_⟩
      rcases h1 with ⟨h1, h2⟩ | ⟨_, h1, h2⟩
      · exact Or.inr ⟨rfl, h2, h1⟩
      · exact Or.inl ⟨h2, h1⟩
    adj_mem := fun u v hv => by
      obtain ⟨a, ha, h1⟩ := mem_adjOf.1 hv
      have := h a ha
      simp only [Net.ofArcs, List.mem_range]
      rcases h1 with ⟨_, h2⟩ | ⟨_, _, h2⟩ <;> omega }

end Solvor.Flow
