import Solvor.Flow.SumLemmas
import Solvor.Flow.SSP
import Mathlib.Tactic.Ring
/-! Flow: the specification of min-cost flows on the instances of `SSP.lean` and the certificate arguments. -/
namespace Solvor.Flow

namespace Inst
variable (I : Inst)

def Valid : Prop := ∀ i < I.m, (I.arc i).src < I.n ∧ (I.arc i).tgt < I.n

/-- `x` is a feasible flow of the transshipment instance: every supply is met exactly -/
structure Feas (x : Nat → Int) : Prop where
  lo  : ∀ i < I.m, 0 ≤ x i
  hi  : ∀ i < I.m, x i ≤ (I.arc i).cap
  bal : ∀ v < I.n, I.outF x v - I.inF x v = I.sup v

theorem arc_mem {i : Nat} (hi : i < I.m) : I.arc i ∈ I.arcs := by
  have hi' : i < I.arcs.length := hi
  unfold arc
  rw [List.getD_eq_getElem?_getD, List.getElem?_eq_getElem hi']
  exact List.getElem_mem hi'

theorem forall_arc_iff (P : Arc → Prop) : (∀ i < I.m, P (I.arc i)) ↔ ∀ a ∈ I.arcs, P a :=
  ⟨fun h a ha => by
    obtain ⟨i, hi, rfl⟩ := List.getElem_of_mem ha
    have := h i hi
    rwa [arc, List.getD_eq_getElem?_getD, List.getElem?_eq_getElem hi] at this,
   fun h i hi => h _ (I.arc_mem hi)⟩

theorem valid_iff : I.valid = true ↔ I.Valid := by
  unfold valid Valid
  simp only [List.all_eq_true, Bool.and_eq_true, decide_eq_true_eq]
  exact (I.forall_arc_iff fun a => a.src < I.n ∧ a.tgt < I.n).symm

/-- `k` is an end point (source or target) of the arcs -/
theorem sum_end (k : Nat → Nat) (hk : ∀ i < I.m, k i < I.n) (z p : Nat → Int) :
    lsum (List.range I.n) (fun v => p v * lsum (List.range I.m) (fun i => if k i = v then z i else 0)) =
      lsum (List.range I.m) (fun i => p (k i) * z i) := by
  have e : ∀ v, p v * lsum (List.range I.m) (fun i => if k i = v then z i else 0)
      = lsum (List.range I.m) (fun i => if k i = v then p v * z i else 0) := by
    intro v
    rw [lsum_mul_left]
    apply lsum_congr
    intro i _
    split <;> simp
  rw [lsum_congr (fun v _ => e v), lsum_comm]
  apply lsum_congr
  intro i hi
  rw [lsum_ite_eq' List.nodup_range (k i) (fun v => p v * z i),
    if_pos (List.mem_range.2 (hk i (List.mem_range.1 hi)))]

/-- Weighting the node balances of a flow `z` by node values `p` is weighting the arc flows by the
difference of `p` along the arc.  Both certificates rest on it: potentials for optimality, the
indicator of a node set for infeasibility. -/
theorem pot_exchange (hv : I.Valid) (z p : Nat → Int) :
    lsum (List.range I.n) (fun v => p v * (I.outF z v - I.inF z v)) =
      lsum (List.range I.m) (fun i => (p (I.arc i).src - p (I.arc i).tgt) * z i) := by
  have e : ∀ v, p v * (I.outF z v - I.inF z v) = p v * I.outF z v - p v * I.inF z v :=
    fun v => Int.mul_sub _ _ _
  rw [lsum_congr (fun v _ => e v), lsum_sub]
  unfold outF inF
  rw [I.sum_end (fun i => (I.arc i).src) (fun i hi => (hv i hi).1), I.sum_end (fun i => (I.arc i).tgt) (fun i hi => (hv i hi).2),
    ← lsum_sub]
  exact lsum_congr (fun i _ => (Int.sub_mul _ _ _).symm)

variable {I} in
theorem Feas.weighted {y : Nat → Int} (hy : I.Feas y) (p : Nat → Int) :
    lsum (List.range I.n) (fun v => p v * (I.outF y v - I.inF y v)) =
      lsum (List.range I.n) (fun v => p v * I.sup v) :=
  lsum_congr (fun v hv => by rw [hy.bal v (List.mem_range.1 hv)])

def Slack (x p : Nat → Int) : Prop :=
  ∀ i < I.m, (x i < (I.arc i).cap → 0 ≤ I.rc p i) ∧ (0 < x i → I.rc p i ≤ 0)

theorem cost_le_of_slack (hv : I.Valid) {x y p : Nat → Int} (hx : I.Feas x) (hy : I.Feas y)
    (hs : I.Slack x p) : I.costF x ≤ I.costF y := by
  -- the potential terms of `x` and `y` agree, so cost y − cost x = Σ_i rc_i (y_i − x_i)
  have hpot := (I.pot_exchange hv y p).symm.trans ((hy.weighted p).trans
    ((hx.weighted p).symm.trans (I.pot_exchange hv x p)))
  have key : I.costF y - I.costF x = lsum (List.range I.m) (fun i => I.rc p i * (y i - x i)) := by
    have e : ∀ i, I.rc p i * (y i - x i) = (I.arc i).cost * y i - (I.arc i).cost * x i +
        ((p (I.arc i).src - p (I.arc i).tgt) * y i - (p (I.arc i).src - p (I.arc i).tgt) * x i) := by
      intro i; unfold rc; ring
    rw [lsum_congr (fun i _ => e i), lsum_add, lsum_sub, lsum_sub, hpot]
    unfold costF
    omega
  have hnn : 0 ≤ lsum (List.range I.m) (fun i => I.rc p i * (y i - x i)) := by
    apply lsum_nonneg
    intro i hi
    have him : i < I.m := List.mem_range.1 hi
    obtain ⟨s1, s2⟩ := hs i him
    have y0 := hy.lo i him
    have y1 := hy.hi i him
    rcases Int.lt_trichotomy (I.rc p i) 0 with hneg | hz | hpos
    · -- rc < 0: x is at capacity, so y − x ≤ 0
      have : ¬ x i < (I.arc i).cap := fun h => by have := s1 h; omega
      exact Int.mul_nonneg_of_nonpos_of_nonpos (by omega) (by omega)
    · rw [hz, Int.zero_mul]
    · -- rc > 0: x is zero, so y − x ≥ 0
      have : ¬ 0 < x i := fun h => by have := s2 h; omega
      exact Int.mul_nonneg (by omega) (by omega)
  omega

theorem cross_eq (hv : I.Valid) (S : List Nat) (y : Nat → Int) :
    lsum ((List.range I.n).filter fun v => S.contains v) (fun v => I.outF y v - I.inF y v) =
      lsum (List.range I.m) (fun i =>
        (if S.contains (I.arc i).src then y i else 0) - (if S.contains (I.arc i).tgt then y i else 0)) := by
  rw [lsum_filter]
  refine (lsum_congr (fun v _ => ?_)).trans
    ((I.pot_exchange hv y (fun v => if S.contains v then 1 else 0)).trans (lsum_congr (fun i _ => ?_)))
  · split <;> simp
  · cases S.contains (I.arc i).src <;> cases S.contains (I.arc i).tgt <;> simp

theorem supply_eq_cross (hv : I.Valid) (S : List Nat) {y : Nat → Int} (hy : I.Feas y) :
    I.supplyOf S = lsum (List.range I.m) (fun i =>
      (if S.contains (I.arc i).src then y i else 0) - (if S.contains (I.arc i).tgt then y i else 0)) := by
  rw [← I.cross_eq hv S y]
  exact lsum_congr (fun v hv' => (hy.bal v (List.mem_range.1 (List.mem_filter.1 hv').1)).symm)

theorem supply_le_capOut (hv : I.Valid) (S : List Nat) {y : Nat → Int} (hy : I.Feas y) :
    I.supplyOf S ≤ I.capOutOf S := by
  rw [I.supply_eq_cross hv S hy]
  unfold capOutOf
  apply lsum_le
  intro i hi
  have him : i < I.m := List.mem_range.1 hi
  have y0 := hy.lo i him
  have y1 := hy.hi i him
  cases h1 : S.contains (I.arc i).src <;> cases h2 : S.contains (I.arc i).tgt <;> simp <;> omega

theorem neg_supply_le_capIn (hv : I.Valid) (S : List Nat) {y : Nat → Int} (hy : I.Feas y) :
    - I.supplyOf S ≤ I.capInOf S := by
  rw [I.supply_eq_cross hv S hy, ← lsum_neg]
  unfold capInOf
  apply lsum_le
  intro i hi
  have him : i < I.m := List.mem_range.1 hi
  have y0 := hy.lo i him
  have y1 := hy.hi i him
  cases h1 : S.contains (I.arc i).src <;> cases h2 : S.contains (I.arc i).tgt <;> simp <;> omega

theorem chkFeas_iff (x : List Int) :
    I.chkFeas x = true ↔ x.length = I.m ∧ I.Feas (fl x) := by
  unfold chkFeas
  simp only [Bool.and_eq_true, beq_iff_eq, List.all_eq_true, List.mem_range, decide_eq_true_eq]
  constructor
  · rintro ⟨⟨h0, h1⟩, h2⟩
    exact ⟨h0, fun i hi => (h1 i hi).1, fun i hi => (h1 i hi).2, h2⟩
  · rintro ⟨h0, h⟩
    exact ⟨⟨h0, fun i hi => ⟨h.lo i hi, h.hi i hi⟩⟩, h.bal⟩

theorem chkOpt_iff (x p : List Int) : I.chkOpt x p = true ↔ I.Slack (fl x) (fl p) := by
  simp only [chkOpt, Slack, List.all_eq_true, List.mem_range, Bool.and_eq_true, not_or_eq_true, decide_eq_true_eq]

theorem chkMinCost_iff (x p : List Int) (val : Int) :
    I.chkMinCost x p val = true ↔
      (x.length = I.m ∧ I.Feas (fl x)) ∧ I.Slack (fl x) (fl p) ∧ I.costF (fl x) = val := by
  unfold chkMinCost
  rw [Bool.and_eq_true, Bool.and_eq_true, chkFeas_iff, chkOpt_iff, beq_iff_eq, and_assoc]

theorem chkInfeas_iff (S : List Nat) :
    I.chkInfeas S = true ↔ I.capOutOf S < I.supplyOf S ∨ I.capInOf S < - I.supplyOf S := by
  unfold chkInfeas
  rw [Bool.or_eq_true, decide_eq_true_eq, decide_eq_true_eq]

theorem chkInfeas_of_out {S : List Nat} (h : I.capOutOf S < I.supplyOf S) : I.chkInfeas S = true :=
  (I.chkInfeas_iff S).2 (Or.inl h)

/-- the instance asks for `demand` units from `s` to `t` -/
def STsup (s t : Nat) (demand : Int) : Prop :=
  ∀ v < I.n, I.sup v = (if v = s then demand else 0) - (if v = t then demand else 0)

end Inst

theorem ofST_sup {N : Nat} {arcs : List Arc} {s t : Nat} {d : Int} : (Inst.ofST N arcs s t d).STsup s t d := by
  intro v hv
  have hv' : v < N := hv
  unfold Inst.sup Inst.ofST
  simp [List.getD, hv']

theorem ofST_cap {arcs : List Arc} (n s t : Nat) (d : Int) (hcap : ∀ a ∈ arcs, 0 ≤ a.cap) :
    ∀ i < (Inst.ofST n arcs s t d).m, 0 ≤ ((Inst.ofST n arcs s t d).arc i).cap :=
  fun _ hi => hcap _ (Inst.arc_mem _ hi)

end Solvor.Flow
