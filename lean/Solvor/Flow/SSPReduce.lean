import Solvor.Flow.SSPConv
import Solvor.Flow.ArcSums
/-!
Flow: the super-source / super-sink reduction `Inst.toST` used by `solveTS` preserves certificates.
-/
namespace Solvor.Flow
namespace Inst
variable (I : Inst)

def supP (v : Nat) : Int := max (I.sup v) 0
def supN (v : Nat) : Int := max (- I.sup v) 0

theorem supP_nonneg (v : Nat) : 0 ≤ I.supP v := le_max_right _ _
theorem supN_nonneg (v : Nat) : 0 ≤ I.supN v := le_max_right _ _
theorem supP_sub_supN (v : Nat) : I.supP v - I.supN v = I.sup v := by
  unfold supP supN
  rcases Int.le_total (I.sup v) 0 with h | h
  · rw [max_eq_right h, max_eq_left (by omega)]; omega
  · rw [max_eq_left h, max_eq_right (by omega)]; omega

/-- `J` is the reduced instance, `I` the original one.  `Inst.certify` has one instance argument, the instance whose
checkers it runs (called `J` in `SSP.lean`); this file calls it as `I.certify o`, on the original instance. -/
def J : Inst := I.toST.1
def dem : Int := lsum (List.range I.n) I.supP

theorem J_eq : I.J = Inst.ofST (I.n + 2)
    (I.arcs ++ ((List.range I.n).map (fun v => Arc.mk I.n v (I.supP v) 0) ++
      (List.range I.n).map (fun v => Arc.mk v (I.n + 1) (I.supN v) 0))) I.n (I.n + 1) I.dem := rfl

theorem toST_snd : I.toST.2 = I.dem := rfl
theorem J_n : I.J.n = I.n + 2 := rfl
theorem J_m : I.J.m = I.m + (I.n + I.n) := by
  show (I.arcs ++ (_ ++ _)).length = _
  rw [List.length_append, List.length_append, List.length_map, List.length_map, List.length_range]
  rfl

theorem J_lt {i : Nat} (hi : i < I.m) : i < I.J.m := by rw [I.J_m]; omega

theorem lsum_J (F : Nat → Arc → Int) :
    lsum (List.range I.J.m) (fun i => F i (I.J.arc i)) =
      lsum (List.range I.m) (fun i => F i (I.arc i)) +
      (lsum (List.range I.n) (fun v => F (I.m + v) ⟨I.n, v, I.supP v, 0⟩) +
       lsum (List.range I.n) (fun v => F (I.m + I.n + v) ⟨v, I.n + 1, I.supN v, 0⟩)) := by
  show lsum (List.range I.J.arcs.length) (fun i => F i (I.J.arcs.getD i _)) = _
  rw [lsum_range_getD_idx, J_eq]
  show asumI (I.arcs ++ _) 0 F = _
  rw [asumI_append, asumI_append, asumI_map_range, asumI_map_range, ← I.lsum_arc_idx, List.length_map,
    List.length_range]
  simp only [Nat.zero_add]
  rfl

theorem J_arc_lt {i : Nat} (hi : i < I.m) : I.J.arc i = I.arc i :=
  getD_append_lt I.arcs _ _ (show i < I.arcs.length from hi)

theorem J_arc_src {v : Nat} (hv : v < I.n) : I.J.arc (I.m + v) = ⟨I.n, v, I.supP v, 0⟩ := by
  show (I.arcs ++ (_ ++ _)).getD (I.arcs.length + v) _ = _
  rw [List.getD_eq_getElem?_getD, List.getElem?_append_right (Nat.le_add_right _ _), Nat.add_sub_cancel_left,
    List.getElem?_append_left (by rw [List.length_map, List.length_range]; exact hv), List.getElem?_map,
    List.getElem?_range hv]
  rfl

theorem J_arc_snk {v : Nat} (hv : v < I.n) : I.J.arc (I.m + I.n + v) = ⟨v, I.n + 1, I.supN v, 0⟩ := by
  show (I.arcs ++ (_ ++ _)).getD (I.arcs.length + I.n + v) _ = _
  rw [List.getD_eq_getElem?_getD, Nat.add_assoc, List.getElem?_append_right (Nat.le_add_right _ _),
    Nat.add_sub_cancel_left, List.getElem?_append_right (by rw [List.length_map, List.length_range]; omega),
    List.length_map, List.length_range, Nat.add_sub_cancel_left, List.getElem?_map, List.getElem?_range hv]
  rfl

theorem J_forall {P : Arc → Prop} (h0 : ∀ i < I.m, P (I.arc i))
    (h1 : ∀ v < I.n, P ⟨I.n, v, I.supP v, 0⟩) (h2 : ∀ v < I.n, P ⟨v, I.n + 1, I.supN v, 0⟩) :
    ∀ i < I.J.m, P (I.J.arc i) := by
  refine (I.J.forall_arc_iff P).2 fun a ha => ?_
  rcases List.mem_append.1 (show a ∈ I.arcs ++ (_ ++ _) from ha) with h | h
  · exact (I.forall_arc_iff P).1 h0 a h
  · rcases List.mem_append.1 h with h | h
    · obtain ⟨v, hv, rfl⟩ := List.mem_map.1 h
      exact h1 v (List.mem_range.1 hv)
    · obtain ⟨v, hv, rfl⟩ := List.mem_map.1 h
      exact h2 v (List.mem_range.1 hv)

theorem J_valid (hv : I.Valid) : I.J.Valid :=
  I.J_forall (P := fun a => a.src < I.n + 2 ∧ a.tgt < I.n + 2)
    (fun i h => ⟨Nat.lt_add_right 2 (hv i h).1, Nat.lt_add_right 2 (hv i h).2⟩)
    (fun _ hv' => ⟨Nat.lt_add_of_pos_right Nat.two_pos, Nat.lt_add_right 2 hv'⟩)
    (fun _ hv' => ⟨Nat.lt_add_right 2 hv', Nat.lt_succ_self _⟩)

theorem J_cap_nonneg (hcap : ∀ i < I.m, 0 ≤ (I.arc i).cap) : ∀ i < I.J.m, 0 ≤ (I.J.arc i).cap :=
  I.J_forall (P := fun a => 0 ≤ a.cap) hcap (fun v _ => I.supP_nonneg v) (fun v _ => I.supN_nonneg v)

/-- potentials of the reduced instance: the super source above, the super sink below all nodes -/
def potJ (p : Nat → Int) (v : Nat) : Int :=
  if v = I.n then lsum (List.range I.n) (fun u => |p u|)
  else if v = I.n + 1 then - lsum (List.range I.n) (fun u => |p u|) else p v

theorem J_pot (hv : I.Valid) {p : Nat → Int} (hp : ∀ i < I.m, 0 < (I.arc i).cap → 0 ≤ I.rc p i) :
    ∀ i < I.J.m, 0 < (I.J.arc i).cap → 0 ≤ I.J.rc (I.potJ p) i := by
  have hbound : ∀ v < I.n, |p v| ≤ lsum (List.range I.n) (fun u => |p u|) := fun v hv' =>
    term_le_lsum (g := fun u => |p u|) (fun _ _ => abs_nonneg _) (List.mem_range.2 hv')
  have keep : ∀ v < I.n, I.potJ p v = p v := fun v hv' => by
    unfold potJ; rw [if_neg (Nat.ne_of_lt hv'), if_neg (Nat.ne_of_lt (Nat.lt_succ_of_lt hv'))]
  have e1 : I.potJ p I.n = lsum (List.range I.n) (fun u => |p u|) := if_pos rfl
  have e2 : I.potJ p (I.n + 1) = - lsum (List.range I.n) (fun u => |p u|) := by
    unfold potJ; rw [if_neg (Nat.succ_ne_self _), if_pos rfl]
  refine I.J_forall (P := fun a => 0 < a.cap → 0 ≤ a.cost + I.potJ p a.src - I.potJ p a.tgt)
    (fun i h hc => ?_) (fun v hv' _ => ?_) (fun v hv' _ => ?_)
  · rw [keep _ (hv i h).1, keep _ (hv i h).2]
    exact hp i h hc
  · show 0 ≤ 0 + I.potJ p I.n - I.potJ p v
    rw [e1, keep v hv']
    have := hbound v hv'
    have := le_abs_self (p v)
    omega
  · show 0 ≤ 0 + I.potJ p v - I.potJ p (I.n + 1)
    rw [e2, keep v hv']
    have := hbound v hv'
    have := neg_abs_le (p v)
    omega

theorem fl_take (X : List Int) (k i : Nat) : fl (X.take k) i = if i < k then fl X i else 0 := by
  unfold fl
  simp only [List.getD, List.getElem?_take]
  split <;> rfl

theorem fl_take_of_lt (X : List Int) {k i : Nat} (h : i < k) : fl (X.take k) i = fl X i := by
  rw [fl_take, if_pos h]

/-- the arcs from the super source have index `m + u`, those into the super sink `m + n + u` -/
theorem J_net (X : Nat → Int) (v : Nat) :
    I.J.outF X v - I.J.inF X v = (I.outF X v - I.inF X v) +
      ((if I.n = v then lsum (List.range I.n) (fun u => X (I.m + u)) else 0) +
        (if v < I.n then X (I.m + I.n + v) else 0)) -
      ((if v < I.n then X (I.m + v) else 0) +
        (if I.n + 1 = v then lsum (List.range I.n) (fun u => X (I.m + I.n + u)) else 0)) := by
  unfold outF inF
  rw [I.lsum_J (fun i a => if a.src = v then X i else 0), I.lsum_J (fun i a => if a.tgt = v then X i else 0)]
  simp only [lsum_ite_const, lsum_ite_range]
  omega

theorem outF_outside (hv : I.Valid) (X : Nat → Int) {v : Nat} (hvn : I.n ≤ v) : I.outF X v = 0 :=
  lsum_ite_false _ (fun i hi => by have := hv i (List.mem_range.1 hi); omega)

theorem inF_outside (hv : I.Valid) (X : Nat → Int) {v : Nat} (hvn : I.n ≤ v) : I.inF X v = 0 :=
  lsum_ite_false _ (fun i hi => by have := hv i (List.mem_range.1 hi); omega)

theorem J_costF (X : Nat → Int) :
    I.J.costF X = lsum (List.range I.m) (fun i => (I.arc i).cost * X i) := by
  unfold costF
  rw [I.lsum_J (fun i a => a.cost * X i)]
  have z1 : lsum (List.range I.n) (fun v => (⟨I.n, v, I.supP v, 0⟩ : Arc).cost * X (I.m + v)) = 0 :=
    lsum_eq_zero (fun v _ => by simp)
  have z2 : lsum (List.range I.n) (fun v => (⟨v, I.n + 1, I.supN v, 0⟩ : Arc).cost * X (I.m + I.n + v)) = 0 :=
    lsum_eq_zero (fun v _ => by simp)
  rw [z1, z2]; simp

theorem J_sup {v : Nat} (hv : v < I.n + 2) :
    I.J.sup v = (if v = I.n then I.dem else 0) - (if v = I.n + 1 then I.dem else 0) :=
  ofST_sup v hv

theorem dem_eq_supN (hbal : lsum (List.range I.n) I.sup = 0) : I.dem = lsum (List.range I.n) I.supN := by
  have : lsum (List.range I.n) I.sup = lsum (List.range I.n) I.supP - lsum (List.range I.n) I.supN := by
    rw [← lsum_sub]
    exact lsum_congr (fun v _ => (I.supP_sub_supN v).symm)
  unfold dem
  omega

theorem J_saturated (hv : I.Valid) (hbal : lsum (List.range I.n) I.sup = 0) {X : Nat → Int} (hX : I.J.Feas X) :
    (∀ u < I.n, X (I.m + u) = I.supP u) ∧ (∀ u < I.n, X (I.m + I.n + u) = I.supN u) := by
  constructor
  · -- balance at the super source: the arcs out of it carry `dem = Σ supP` together, and each at most `supP`
    have b := hX.bal I.n (by rw [I.J_n]; omega)
    rw [I.J_net, I.outF_outside hv X (Nat.le_refl _), I.inF_outside hv X (Nat.le_refl _),
      I.J_sup (by omega)] at b
    simp only [Nat.lt_irrefl, Nat.succ_ne_self, Nat.ne_add_one, if_true, if_false] at b
    have hsum : lsum (List.range I.n) (fun u => X (I.m + u)) = lsum (List.range I.n) I.supP := by
      unfold dem at b; omega
    intro u hu
    refine lsum_eq_forces (g := fun u => X (I.m + u)) (fun w hw => ?_) hsum u (List.mem_range.2 hu)
    have hwn := List.mem_range.1 hw
    have := hX.hi (I.m + w) (by rw [I.J_m]; omega)
    rwa [I.J_arc_src hwn] at this
  · have b := hX.bal (I.n + 1) (by rw [I.J_n]; omega)
    have c : ¬ I.n + 1 < I.n := by omega
    rw [I.J_net, I.outF_outside hv X (Nat.le_succ _), I.inF_outside hv X (Nat.le_succ _),
      I.J_sup (by omega)] at b
    simp only [c, Nat.succ_ne_self, Nat.ne_add_one, if_true, if_false] at b
    have hsum : lsum (List.range I.n) (fun u => X (I.m + I.n + u)) = lsum (List.range I.n) I.supN := by
      rw [← I.dem_eq_supN hbal]; omega
    intro u hu
    refine lsum_eq_forces (g := fun u => X (I.m + I.n + u)) (fun w hw => ?_) hsum u (List.mem_range.2 hu)
    have hwn := List.mem_range.1 hw
    have := hX.hi (I.m + I.n + w) (by rw [I.J_m]; omega)
    rwa [I.J_arc_snk hwn] at this

theorem feas_transfer (hv : I.Valid) (hbal : lsum (List.range I.n) I.sup = 0) {X : List Int}
    (hlen : X.length = I.J.m) (hX : I.J.Feas (fl X)) : I.Feas (fl (X.take I.m)) ∧ (X.take I.m).length = I.m := by
  obtain ⟨s1, s2⟩ := I.J_saturated hv hbal hX
  refine ⟨⟨fun i hi => ?_, fun i hi => ?_, fun v hvn => ?_⟩, ?_⟩
  · rw [fl_take_of_lt X hi]; exact hX.lo i (I.J_lt hi)
  · rw [fl_take_of_lt X hi]
    have := hX.hi i (I.J_lt hi)
    rwa [I.J_arc_lt hi] at this
  · -- the saturated source and sink arcs at `v` account for its supply
    have b := hX.bal v (by rw [I.J_n]; omega)
    have c1 : ¬ I.n = v := by omega
    have c2 : ¬ I.n + 1 = v := by omega
    rw [I.J_net, I.J_sup (by omega), if_neg c1, if_pos hvn, if_pos hvn, if_neg c2, s1 v hvn, s2 v hvn,
      if_neg (fun h => c1 h.symm), if_neg (fun h => c2 h.symm)] at b
    have e1 : I.outF (fl (X.take I.m)) v = I.outF (fl X) v :=
      lsum_congr (fun i hi => by rw [fl_take_of_lt X (List.mem_range.1 hi)])
    have e2 : I.inF (fl (X.take I.m)) v = I.inF (fl X) v :=
      lsum_congr (fun i hi => by rw [fl_take_of_lt X (List.mem_range.1 hi)])
    have := I.supP_sub_supN v
    omega
  · rw [List.length_take, hlen, I.J_m]; omega

theorem minCost_transfer (hv : I.Valid) (hbal : lsum (List.range I.n) I.sup = 0) {X P : List Int} {c : Int}
    (h : I.J.chkMinCost X P c = true) : I.chkMinCost (X.take I.m) (P.take I.n) c = true := by
  obtain ⟨⟨hlen, hX⟩, hs, h3⟩ := (I.J.chkMinCost_iff X P c).1 h
  obtain ⟨f1, f2⟩ := I.feas_transfer hv hbal hlen hX
  refine (I.chkMinCost_iff _ _ c).2 ⟨⟨f2, f1⟩, ?_, ?_⟩
  · intro i hi
    have hb := hv i hi
    have := hs i (I.J_lt hi)
    rw [I.J_arc_lt hi] at this
    have erc : I.rc (fl (P.take I.n)) i = I.J.rc (fl P) i := by
      unfold rc
      rw [I.J_arc_lt hi, fl_take, fl_take, if_pos hb.1, if_pos hb.2]
    rw [fl_take_of_lt X hi, erc]
    exact this
  · rw [← h3, I.J_costF]
    unfold costF
    exact lsum_congr (fun i hi => by rw [fl_take_of_lt X (List.mem_range.1 hi)])

theorem contains_filter_lt (R : List Nat) {u : Nat} (hu : u < I.n) :
    (R.filter (· < I.n)).contains u = R.contains u := by
  cases h : R.contains u
  · have : u ∉ R := by simpa using h
    have : u ∉ R.filter (· < I.n) := fun hm => this (List.mem_filter.1 hm).1
    simpa using this
  · have : u ∈ R := by simpa using h
    have : u ∈ R.filter (· < I.n) := List.mem_filter.2 ⟨this, by simpa using hu⟩
    simpa using this

theorem outCut_transfer (hv : I.Valid) {R : List Nat} (h : I.J.OutCut I.n (I.n + 1) R) :
    I.capOutOf (R.filter (· < I.n)) < I.supplyOf (R.filter (· < I.n)) := by
  obtain ⟨hs, ht, h⟩ := h
  let PS := lsum (List.range I.n) (fun u => if R.contains u = true then I.supP u else 0)
  let PN := lsum (List.range I.n) (fun u => if R.contains u = false then I.supP u else 0)
  let NS := lsum (List.range I.n) (fun u => if R.contains u = true then I.supN u else 0)
  -- the arcs at the super source add to the leaving capacity the positive supplies outside the set (`PN`), those at the
  -- super sink the negative supplies inside (`NS`); the supply of the set is `dem = PS + PN` in `J`, `PS - NS` in `I`
  have hP : I.dem = PS + PN := lsum_split_bool _ (fun u => R.contains u) I.supP
  have hsupI : I.supplyOf (R.filter (· < I.n)) = PS - NS := by
    unfold supplyOf
    rw [lsum_filter]
    rw [← lsum_sub]
    apply lsum_congr
    intro u hu
    rw [I.contains_filter_lt R (List.mem_range.1 hu)]
    have := I.supP_sub_supN u
    cases R.contains u <;> (simp; try omega)
  have hcoI : I.capOutOf (R.filter (· < I.n)) = lsum (List.range I.m) (fun i =>
      if R.contains (I.arc i).src && !R.contains (I.arc i).tgt then (I.arc i).cap else 0) := by
    unfold capOutOf
    apply lsum_congr
    intro i hi
    have hb := hv i (List.mem_range.1 hi)
    rw [I.contains_filter_lt R hb.1, I.contains_filter_lt R hb.2]
  have hcoJ : I.J.capOutOf R = I.capOutOf (R.filter (· < I.n)) + (PN + NS) := by
    rw [hcoI]
    unfold capOutOf
    rw [I.lsum_J (fun _ a => if R.contains a.src && !R.contains a.tgt then a.cap else 0)]
    simp only [hs, ht, Bool.true_and, Bool.and_true, Bool.not_false, Bool.not_eq_true']
    rfl
  have hsupJ : I.J.supplyOf R = I.dem :=
    (lsum_filter_st (n := I.n + 2) (Nat.lt_add_of_pos_right Nat.two_pos) (Nat.lt_succ_self _) _
      (fun _ hu => I.J_sup hu)).trans (by rw [hs, ht]; exact Int.sub_zero _)
  omega

theorem unbalanced_cert (hv : I.Valid) (hne : lsum (List.range I.n) I.sup ≠ 0) :
    I.chkInfeas (List.range I.n) = true := by
  have hsup : I.supplyOf (List.range I.n) = lsum (List.range I.n) I.sup := by
    unfold supplyOf
    have : (List.range I.n).filter (fun v => (List.range I.n).contains v) = List.range I.n :=
      List.filter_eq_self.2 (fun v hv' => by simpa using hv')
    rw [this]
  have hco : I.capOutOf (List.range I.n) = 0 := by
    unfold capOutOf
    apply lsum_eq_zero
    intro i hi
    have hb := hv i (List.mem_range.1 hi)
    have : (List.range I.n).contains (I.arc i).tgt = true := by simpa using hb.2
    rw [this]; simp
  have hci : I.capInOf (List.range I.n) = 0 := by
    unfold capInOf
    apply lsum_eq_zero
    intro i hi
    have hb := hv i (List.mem_range.1 hi)
    have : (List.range I.n).contains (I.arc i).src = true := by simpa using hb.1
    rw [this]; simp
  rw [chkInfeas_iff, hsup, hco, hci]
  omega

theorem solveTS_answers (hv : I.Valid) (hcap : ∀ i < I.m, 0 ≤ (I.arc i).cap) {p : Nat → Int}
    (hp : ∀ i < I.m, 0 < (I.arc i).cap → 0 ≤ I.rc p i) : (solveTS I).status ≠ .negcycle := by
  unfold solveTS
  by_cases hb : lsum (List.range I.n) I.sup = 0
  · -- balanced: the search on `J` answers and certifies its answer for `J`; both certificates are carried over to `I`,
    -- so the final `certify I` lets the answer through
    have hb' : (lsum (List.range I.n) I.sup != 0) = false := by simp [hb]
    rw [if_neg (by simp [hb'])]
    show (I.certify { I.J.ssp I.n (I.n + 1) I.dem with
      x := (I.J.ssp I.n (I.n + 1) I.dem).x.take I.m,
      pot := (I.J.ssp I.n (I.n + 1) I.dem).pot.take I.n,
      reach := (I.J.ssp I.n (I.n + 1) I.dem).reach.filter (· < I.n) }).status ≠ .negcycle
    have hJv := I.J_valid hv
    have hJc := I.J_cap_nonneg hcap
    have hdem : 0 ≤ I.dem := lsum_nonneg (fun v _ => I.supP_nonneg v)
    have hsn : I.n < I.J.n := by rw [I.J_n]; omega
    have htn : I.n + 1 < I.J.n := by rw [I.J_n]; omega
    have hans := I.J.ssp_answers hJv hJc hsn htn hdem (I.J_pot hv hp)
    have hcert := I.J.ssp_cert hJv hJc hsn htn hdem fun _ hvn => I.J_sup hvn
    generalize I.J.ssp I.n (I.n + 1) I.dem = o at hans hcert
    rw [I.certify_eq]
    exacts [hans, fun hs => I.minCost_transfer hv hb (hcert.1 hs),
      fun hs => I.chkInfeas_of_out (I.outCut_transfer hv (hcert.2 hs))]
  · have hb' : (lsum (List.range I.n) I.sup != 0) = true := by simp [hb]
    rw [if_pos hb', I.certify_eq]
    exacts [nofun, nofun, fun _ => I.unbalanced_cert hv hb]

end Inst
end Solvor.Flow
