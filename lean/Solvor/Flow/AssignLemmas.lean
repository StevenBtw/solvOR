import Solvor.Flow.SSPLemmas
import Solvor.Flow.ArcSums
import Solvor.Flow.Assignment
/-! Flow: the assignment problem as a unit-capacity bipartite min-cost flow (`solve_assignment`):
valid assignments and feasible integral flows of `assignInst` are the same thing, with equal cost. -/
namespace Solvor.Flow

def ind (b : Bool) : Int := if b then 1 else 0

theorem ind_nonneg (b : Bool) : 0 ≤ ind b := by unfold ind; split <;> omega

theorem ind_le_one (b : Bool) : ind b ≤ 1 := by unfold ind; split <;> omega

/-- `α : rows → Option column` is a valid partial assignment with exactly `min n m` rows assigned -/
structure ValidAssign (n m : Nat) (α : Nat → Option Nat) : Prop where
  range : ∀ i < n, ∀ j, α i = some j → j < m
  inj   : ∀ i < n, ∀ i' < n, ∀ j, α i = some j → α i' = some j → i = i'
  count : lsum (List.range n) (fun i => ind (α i).isSome) = (min n m : Nat)

def usedCol (n : Nat) (α : Nat → Option Nat) (j : Nat) : Bool := (List.range n).any fun i => α i == some j

/-- flow value on an arc, read off its end points -/
def assignVal (n : Nat) (α : Nat → Option Nat) (a : Arc) : Int :=
  if a.src = 0 then ind (α (a.tgt - 2)).isSome
  else if a.tgt = 1 then ind (usedCol n α (a.src - 2 - n))
  else ind (α (a.src - 2) == some (a.tgt - 2 - n))

def flowOfAssign (n m : Nat) (C : Nat → Nat → Int) (α : Nat → Option Nat) : Nat → Int :=
  fun i => assignVal n α ((assignInst n m C).arc i)

theorem row_sum {m : Nat} {α : Nat → Option Nat} {i : Nat} (hr : ∀ j, α i = some j → j < m)
    (w : Nat → Int) :
    lsum (List.range m) (fun j => w j * ind (α i == some j)) =
      match α i with
      | some j => w j
      | none => 0 := by
  cases hα : α i with
  | none =>
    apply lsum_eq_zero
    intro j _
    simp [ind]
  | some j0 =>
    have hj0 : j0 < m := hr j0 hα
    rw [lsum_single List.nodup_range (List.mem_range.2 hj0)]
    · simp [ind]
    · intro j _ hne
      have : ¬ (j0 = j) := fun e => hne e.symm
      simp [ind, this]

theorem row_count {m : Nat} {α : Nat → Option Nat} {i : Nat} (hr : ∀ j, α i = some j → j < m) :
    lsum (List.range m) (fun j => ind (α i == some j)) = ind (α i).isSome := by
  have := row_sum hr (fun _ => 1)
  simp only [Int.one_mul] at this
  rw [this]
  cases α i <;> rfl

theorem col_sum {n m : Nat} {α : Nat → Option Nat} (h : ValidAssign n m α) (j : Nat) :
    lsum (List.range n) (fun i => ind (α i == some j)) = ind (usedCol n α j) := by
  by_cases hu : usedCol n α j = true
  · rw [hu]
    unfold usedCol at hu
    simp only [List.any_eq_true, List.mem_range, beq_iff_eq] at hu
    obtain ⟨i0, hi0, hα⟩ := hu
    rw [lsum_single List.nodup_range (List.mem_range.2 hi0)]
    · simp [ind, hα]
    · intro i hi hne
      have hin : i < n := List.mem_range.1 hi
      have : ¬ (α i = some j) := fun e => hne (h.inj i hin i0 hi0 j e hα)
      simp [ind, this]
  · have hu' : usedCol n α j = false := by simpa using hu
    rw [hu']
    unfold usedCol at hu'
    simp only [List.any_eq_false, List.mem_range, beq_iff_eq] at hu'
    apply lsum_eq_zero
    intro i hi
    have := hu' i (List.mem_range.1 hi)
    simp [ind, this]

theorem mem_assignArcs {n m : Nat} {C : Nat → Nat → Int} {a : Arc} (h : a ∈ assignArcs n m C) :
    a.cap = 1 ∧ a.src < 2 + n + m ∧ a.tgt < 2 + n + m := by
  unfold assignArcs at h
  simp only [List.mem_append, List.mem_map, List.mem_range, List.mem_flatMap] at h
  rcases h with ⟨i, hi, rfl⟩ | ⟨i, hi, j, hj, rfl⟩ | ⟨j, hj, rfl⟩
  · exact ⟨rfl, by show 0 < _; omega, by show 2 + i < _; omega⟩
  · exact ⟨rfl, by show 2 + i < _; omega, by show 2 + n + j < _; omega⟩
  · exact ⟨rfl, by show 2 + n + j < _; omega, by show 1 < _; omega⟩

theorem assignInst_valid (n m : Nat) (C : Nat → Nat → Int) : (assignInst n m C).Valid := by
  intro i hi
  have := mem_assignArcs (Inst.arc_mem _ hi)
  exact ⟨this.2.1, this.2.2⟩

theorem assignVal_bounds (n : Nat) (α : Nat → Option Nat) (a : Arc) :
    0 ≤ assignVal n α a ∧ assignVal n α a ≤ 1 := by
  unfold assignVal
  split
  · exact ⟨ind_nonneg _, ind_le_one _⟩
  · split <;> exact ⟨ind_nonneg _, ind_le_one _⟩

theorem length_assignArcs (n m : Nat) (C : Nat → Nat → Int) :
    (assignArcs n m C).length = n + (n * m + m) := by
  unfold assignArcs
  rw [List.length_append, List.length_append, List.length_map, List.length_map, List.length_range,
    List.length_range, length_flatMap_range_map n m (fun i j => (⟨2 + i, 2 + n + j, 1, C i j⟩ : Arc))]

theorem assign_node_cases {n m v : Nat} (hv : v < 2 + n + m) :
    v = 0 ∨ v = 1 ∨ (∃ i0 < n, v = 2 + i0) ∨ ∃ j0 < m, v = 2 + n + j0 := by
  rcases Nat.lt_or_ge v 2 with h2 | h2
  · rcases Nat.lt_or_ge v 1 with h1 | h1
    · exact Or.inl (Nat.lt_one_iff.1 h1)
    · exact Or.inr (Or.inl (Nat.le_antisymm (Nat.le_of_lt_succ h2) h1))
  · obtain ⟨k, rfl⟩ := Nat.exists_eq_add_of_le h2
    rcases Nat.lt_or_ge k n with hk | hk
    · exact Or.inr (Or.inr (Or.inl ⟨k, hk, rfl⟩))
    · obtain ⟨j, rfl⟩ := Nat.exists_eq_add_of_le hk
      rw [← Nat.add_assoc] at hv
      exact Or.inr (Or.inr (Or.inr ⟨j, Nat.lt_of_add_lt_add_left hv, (Nat.add_assoc 2 n j).symm⟩))

section Network
variable {n m : Nat} (C : Nat → Nat → Int)

/-- the arcs in the order the graph dict is built: `n` source arcs (index `i`), `n·m` matrix arcs (index `n + i·m + j`),
`m` sink arcs (index `n + n·m + j`) -/
theorem lsum_assign_idx (F : Nat → Arc → Int) :
    lsum (List.range (assignInst n m C).m) (fun i => F i ((assignInst n m C).arc i)) =
      lsum (List.range n) (fun i => F i ⟨0, 2 + i, 1, 0⟩) +
      (lsum (List.range n) (fun i => lsum (List.range m) (fun j =>
          F (n + i * m + j) ⟨2 + i, 2 + n + j, 1, C i j⟩)) +
       lsum (List.range m) (fun j => F (n + n * m + j) ⟨2 + n + j, 1, 1, 0⟩)) := by
  rw [Inst.lsum_arc_idx]
  show asumI (assignArcs n m C) 0 F = _
  unfold assignArcs
  rw [asumI_append, asumI_append, asumI_map_range, asumI_map_range,
    asumI_flatMap_range n m (fun i j => (⟨2 + i, 2 + n + j, 1, C i j⟩ : Arc)),
    List.length_map, List.length_range,
    length_flatMap_range_map n m (fun i j => (⟨2 + i, 2 + n + j, 1, C i j⟩ : Arc))]
  simp only [Nat.zero_add]

/-- The flow is given by a value `w index arc` on every arc, so that both an arbitrary flow `y` (`w i _ = y i`) and the
flow of an assignment (`w _ a = assignVal n α a`) are instances. -/
theorem assign_net (w : Nat → Arc → Int) (v : Nat) :
    (assignInst n m C).outF (fun i => w i ((assignInst n m C).arc i)) v -
      (assignInst n m C).inF (fun i => w i ((assignInst n m C).arc i)) v =
    ((if 0 = v then lsum (List.range n) (fun i => w i ⟨0, 2 + i, 1, 0⟩) else 0) +
      ((if 2 ≤ v ∧ v < 2 + n then
          lsum (List.range m) (fun j => w (n + (v - 2) * m + j) ⟨2 + (v - 2), 2 + n + j, 1, C (v - 2) j⟩) else 0) +
       (if 2 + n ≤ v ∧ v < 2 + n + m then w (n + n * m + (v - (2 + n))) ⟨2 + n + (v - (2 + n)), 1, 1, 0⟩ else 0))) -
    ((if 2 ≤ v ∧ v < 2 + n then w (v - 2) ⟨0, 2 + (v - 2), 1, 0⟩ else 0) +
      ((if 2 + n ≤ v ∧ v < 2 + n + m then
          lsum (List.range n) (fun i => w (n + i * m + (v - (2 + n))) ⟨2 + i, 2 + n + (v - (2 + n)), 1, C i (v - (2 + n))⟩)
        else 0) +
       (if 1 = v then lsum (List.range m) (fun j => w (n + n * m + j) ⟨2 + n + j, 1, 1, 0⟩) else 0))) := by
  unfold Inst.outF Inst.inF
  rw [lsum_assign_idx C (fun i a => if a.src = v then w i a else 0),
    lsum_assign_idx C (fun i a => if a.tgt = v then w i a else 0)]
  simp only [lsum_ite_const, lsum_ite_shift]

theorem assign_net_source (w : Nat → Arc → Int) :
    (assignInst n m C).outF (fun i => w i ((assignInst n m C).arc i)) 0 -
      (assignInst n m C).inF (fun i => w i ((assignInst n m C).arc i)) 0 =
    lsum (List.range n) (fun i => w i ⟨0, 2 + i, 1, 0⟩) := by
  have c2 : ¬ (2 ≤ 0 ∧ 0 < 2 + n) := by omega
  have c3 : ¬ (2 + n ≤ 0 ∧ 0 < 2 + n + m) := by omega
  have c4 : ¬ (1 = 0) := by omega
  rw [assign_net]
  simp only [if_pos, if_neg c2, if_neg c3, if_neg c4]
  omega

theorem assign_net_sink (w : Nat → Arc → Int) :
    (assignInst n m C).outF (fun i => w i ((assignInst n m C).arc i)) 1 -
      (assignInst n m C).inF (fun i => w i ((assignInst n m C).arc i)) 1 =
    - lsum (List.range m) (fun j => w (n + n * m + j) ⟨2 + n + j, 1, 1, 0⟩) := by
  have c1 : ¬ (0 = 1) := by omega
  have c2 : ¬ (2 ≤ 1 ∧ 1 < 2 + n) := by omega
  have c3 : ¬ (2 + n ≤ 1 ∧ 1 < 2 + n + m) := by omega
  rw [assign_net]
  simp only [if_pos, if_neg c1, if_neg c2, if_neg c3]
  omega

theorem assign_net_row (w : Nat → Arc → Int) {i0 : Nat} (hi0 : i0 < n) :
    (assignInst n m C).outF (fun i => w i ((assignInst n m C).arc i)) (2 + i0) -
      (assignInst n m C).inF (fun i => w i ((assignInst n m C).arc i)) (2 + i0) =
    lsum (List.range m) (fun j => w (n + i0 * m + j) ⟨2 + i0, 2 + n + j, 1, C i0 j⟩) - w i0 ⟨0, 2 + i0, 1, 0⟩ := by
  have c1 : ¬ (0 = 2 + i0) := by omega
  have c2 : 2 ≤ 2 + i0 ∧ 2 + i0 < 2 + n := by omega
  have c3 : ¬ (2 + n ≤ 2 + i0 ∧ 2 + i0 < 2 + n + m) := by omega
  have c4 : ¬ (1 = 2 + i0) := by omega
  rw [assign_net]
  simp only [if_neg c1, if_pos c2, if_neg c3, if_neg c4, Nat.add_sub_cancel_left]
  omega

theorem assign_net_col (w : Nat → Arc → Int) {j0 : Nat} (hj0 : j0 < m) :
    (assignInst n m C).outF (fun i => w i ((assignInst n m C).arc i)) (2 + n + j0) -
      (assignInst n m C).inF (fun i => w i ((assignInst n m C).arc i)) (2 + n + j0) =
    w (n + n * m + j0) ⟨2 + n + j0, 1, 1, 0⟩ -
      lsum (List.range n) (fun i => w (n + i * m + j0) ⟨2 + i, 2 + n + j0, 1, C i j0⟩) := by
  have c1 : ¬ (0 = 2 + n + j0) := by omega
  have c2 : ¬ (2 ≤ 2 + n + j0 ∧ 2 + n + j0 < 2 + n) := by omega
  have c3 : 2 + n ≤ 2 + n + j0 ∧ 2 + n + j0 < 2 + n + m := by omega
  have c4 : ¬ (1 = 2 + n + j0) := by omega
  rw [assign_net]
  simp only [if_neg c1, if_neg c2, if_pos c3, if_neg c4, Nat.add_sub_cancel_left]
  omega

theorem assign_cost (w : Nat → Arc → Int) :
    (assignInst n m C).costF (fun i => w i ((assignInst n m C).arc i)) =
      lsum (List.range n) (fun i => lsum (List.range m) (fun j =>
        C i j * w (n + i * m + j) ⟨2 + i, 2 + n + j, 1, C i j⟩)) := by
  unfold Inst.costF
  rw [lsum_assign_idx C (fun i a => a.cost * w i a)]
  simp only [Int.zero_mul, lsum_zero, Int.zero_add, Int.add_zero]

theorem assignInst_sup :
    (assignInst n m C).sup 0 = ((min n m : Nat) : Int) ∧ (assignInst n m C).sup 1 = - ((min n m : Nat) : Int) ∧
    ∀ v, 2 ≤ v → v < 2 + n + m → (assignInst n m C).sup v = 0 := by
  refine ⟨?_, ?_, fun v h2 hv => ?_⟩
  · rw [show (assignInst n m C).sup 0 = _ from ofST_sup 0 (show 0 < 2 + n + m by omega), if_pos rfl, if_neg Nat.zero_ne_one]
    omega
  · rw [show (assignInst n m C).sup 1 = _ from ofST_sup 1 (show 1 < 2 + n + m by omega), if_neg Nat.one_ne_zero, if_pos rfl]
    omega
  · rw [show (assignInst n m C).sup v = _ from ofST_sup v hv, if_neg (by omega), if_neg (by omega)]
    rfl

/-- That the sink arcs carry `min n m` together is no clause: it is the first one with the two sums exchanged. -/
theorem assign_bal_iff (w : Nat → Arc → Int) :
    (∀ v < 2 + n + m, (assignInst n m C).outF (fun i => w i ((assignInst n m C).arc i)) v -
        (assignInst n m C).inF (fun i => w i ((assignInst n m C).arc i)) v = (assignInst n m C).sup v) ↔
      lsum (List.range n) (fun i => w i ⟨0, 2 + i, 1, 0⟩) = ((min n m : Nat) : Int) ∧
      (∀ i0 < n, lsum (List.range m) (fun j => w (n + i0 * m + j) ⟨2 + i0, 2 + n + j, 1, C i0 j⟩) =
        w i0 ⟨0, 2 + i0, 1, 0⟩) ∧
      ∀ j0 < m, lsum (List.range n) (fun i => w (n + i * m + j0) ⟨2 + i, 2 + n + j0, 1, C i j0⟩) =
        w (n + n * m + j0) ⟨2 + n + j0, 1, 1, 0⟩ := by
  obtain ⟨sup0, sup1, sup2⟩ := assignInst_sup (n := n) (m := m) C
  constructor
  · intro h
    have h2 : 2 ≤ 2 + n + m := Nat.le_trans (Nat.le_add_right 2 n) (Nat.le_add_right _ m)
    refine ⟨?_, fun i0 hi0 => ?_, fun j0 hj0 => ?_⟩
    · exact (assign_net_source C w).symm.trans ((h 0 (Nat.lt_of_lt_of_le Nat.two_pos h2)).trans sup0)
    · have hv : 2 + i0 < 2 + n + m := Nat.lt_of_lt_of_le (Nat.add_lt_add_left hi0 2) (Nat.le_add_right _ m)
      exact Int.sub_eq_zero.1 ((assign_net_row C w hi0).symm.trans
        ((h _ hv).trans (sup2 _ (Nat.le_add_right 2 i0) hv)))
    · have hv : 2 + n + j0 < 2 + n + m := Nat.add_lt_add_left hj0 (2 + n)
      exact (Int.sub_eq_zero.1 ((assign_net_col C w hj0).symm.trans
        ((h _ hv).trans (sup2 _ (Nat.le_trans (Nat.le_add_right 2 n) (Nat.le_add_right _ j0)) hv)))).symm
  · rintro ⟨hS, hL, hR⟩ v hv
    rcases assign_node_cases hv with rfl | rfl | ⟨i0, hi0, rfl⟩ | ⟨j0, hj0, rfl⟩
    · rw [assign_net_source C w, sup0, hS]
    · -- the sink arcs carry what the matrix arcs do, column by column; summed by rows that is what the source arcs carry
      rw [assign_net_sink C w, sup1, ← hS, ← lsum_congr (fun j hj => hR j (List.mem_range.1 hj)),
        lsum_comm (List.range m) (List.range n) (fun j i => w (n + i * m + j) ⟨2 + i, 2 + n + j, 1, C i j⟩),
        lsum_congr (fun i hi => hL i (List.mem_range.1 hi))]
    · rw [assign_net_row C w hi0, hL i0 hi0, sup2 _ (Nat.le_add_right 2 i0) hv]
      exact Int.sub_self _
    · rw [assign_net_col C w hj0, hR j0 hj0, sup2 _ (Nat.le_trans (Nat.le_add_right 2 n) (Nat.le_add_right _ j0)) hv]
      exact Int.sub_self _

end Network

section Forward
variable {n : Nat} (α : Nat → Option Nat)

theorem assignVal_src (i : Nat) : assignVal n α ⟨0, 2 + i, 1, 0⟩ = ind (α i).isSome := by
  show (if 0 = 0 then ind (α (2 + i - 2)).isSome else _) = _
  rw [if_pos rfl, Nat.add_sub_cancel_left]

theorem assignVal_mid (i j : Nat) (c : Int) : assignVal n α ⟨2 + i, 2 + n + j, 1, c⟩ = ind (α i == some j) := by
  show (if 2 + i = 0 then _ else if 2 + n + j = 1 then _ else ind (α (2 + i - 2) == some (2 + n + j - 2 - n))) = _
  rw [if_neg (by omega), if_neg (by omega), Nat.add_sub_cancel_left, show 2 + n + j - 2 - n = j by omega]

theorem assignVal_snk (j : Nat) : assignVal n α ⟨2 + n + j, 1, 1, 0⟩ = ind (usedCol n α j) := by
  show (if 2 + n + j = 0 then _ else if 1 = 1 then ind (usedCol n α (2 + n + j - 2 - n)) else _) = _
  rw [if_neg (by omega), if_pos rfl, show 2 + n + j - 2 - n = j by omega]

end Forward

theorem assign_feasible {n m : Nat} (C : Nat → Nat → Int) {α : Nat → Option Nat} (h : ValidAssign n m α) :
    (assignInst n m C).Feas (flowOfAssign n m C α) ∧
    (assignInst n m C).costF (flowOfAssign n m C α) = assignCost n C α := by
  refine ⟨⟨?_, ?_, ?_⟩, ?_⟩
  · intro i _
    exact (assignVal_bounds n α _).1
  · intro i hi
    rw [(mem_assignArcs (Inst.arc_mem _ hi)).1]
    exact (assignVal_bounds n α _).2
  · refine (assign_bal_iff C (fun _ a => assignVal n α a)).2 ⟨?_, fun i0 hi0 => ?_, fun j0 _ => ?_⟩
    · simp only [assignVal_src]; exact h.count
    · simp only [assignVal_src, assignVal_mid]; exact row_count (h.range i0 hi0)
    · simp only [assignVal_snk, assignVal_mid]; exact col_sum h j0
  · show (assignInst n m C).costF (fun i => assignVal n α ((assignInst n m C).arc i)) = _
    rw [assign_cost C (fun _ a => assignVal n α a)]
    simp only [assignVal_mid]
    exact lsum_congr (fun i hi => row_sum (h.range i (List.mem_range.1 hi)) (fun j => C i j))

theorem lsum_ge_two {l : List Nat} (hnd : l.Nodup) {g : Nat → Int} (hg : ∀ x ∈ l, 0 ≤ g x)
    {a b : Nat} (ha : a ∈ l) (hb : b ∈ l) (hab : a ≠ b) (h1 : g a = 1) (h2 : g b = 1) :
    2 ≤ lsum l g := by
  have e : lsum l g = lsum l (fun x => g x - (if x = a then 1 else 0) - (if x = b then 1 else 0)) + 1 + 1 := by
    rw [lsum_sub, lsum_sub, lsum_ite_eq hnd ha, lsum_ite_eq hnd hb]; ring
  have : 0 ≤ lsum l (fun x => g x - (if x = a then 1 else 0) - (if x = b then 1 else 0)) := by
    apply lsum_nonneg
    intro x hx
    by_cases hxa : x = a
    · subst hxa; simp [hab, h1]
    · by_cases hxb : x = b
      · subst hxb; simp [hxa, h2]
      · simp [hxa, hxb]; exact hg x hx
  omega

theorem exists_assign_of_matrix {n m : Nat} (z : Nat → Nat → Int) (h0 : ∀ i < n, ∀ j < m, 0 ≤ z i j)
    (hrow : ∀ i < n, lsum (List.range m) (fun j => z i j) ≤ 1)
    (hcol : ∀ j < m, lsum (List.range n) (fun i => z i j) ≤ 1) :
    ∃ α : Nat → Option Nat, (∀ i j, α i = some j → j < m) ∧
      (∀ i < n, ∀ i' < n, ∀ j, α i = some j → α i' = some j → i = i') ∧
      ∀ i < n, ∀ j < m, ind (α i == some j) = z i j := by
  -- row `i` goes to the first column carrying a unit
  let α : Nat → Option Nat := fun i => (List.range m).find? (fun j => z i j == 1)
  have αrange : ∀ i j, α i = some j → j < m := fun i j h => List.mem_range.1 (List.mem_of_find?_eq_some h)
  have αone : ∀ i j, α i = some j → z i j = 1 := fun i j h => by simpa using List.find?_some h
  have z1 : ∀ i < n, ∀ j < m, z i j ≤ 1 := fun i hi j hj =>
    Int.le_trans (term_le_lsum (g := fun j => z i j) (fun y hy => h0 i hi y (List.mem_range.1 hy)) (List.mem_range.2 hj))
      (hrow i hi)
  refine ⟨α, αrange, fun i hi i' hi' j h h' => ?_, fun i hi j hj => ?_⟩
  · -- two units in column `j` would make its sum 2
    have hj := αrange i j h
    by_contra hne
    have := lsum_ge_two List.nodup_range (g := fun i => z i j) (fun x hx => h0 x (List.mem_range.1 hx) j hj)
      (List.mem_range.2 hi) (List.mem_range.2 hi') hne (αone i j h) (αone i' j h')
    have := hcol j hj
    omega
  · have hz0 := h0 i hi j hj
    have hz1 := z1 i hi j hj
    cases hα : α i with
    | none =>
      have : z i j ≠ 1 := by simpa using List.find?_eq_none.1 hα j (List.mem_range.2 hj)
      simp [ind]; omega
    | some j' =>
      have h1 := αone i j' hα
      by_cases e : j' = j
      · subst e; simp [ind, h1]
      · -- a second unit in row `i` would make its sum 2
        have : z i j ≠ 1 := fun h => by
          have := lsum_ge_two List.nodup_range (g := fun j => z i j) (fun x hx => h0 i hi x (List.mem_range.1 hx))
            (List.mem_range.2 (αrange i j' hα)) (List.mem_range.2 hj) e h1 h
          have := hrow i hi
          omega
        simp [ind, e]; omega

theorem assign_of_feasible {n m : Nat} (C : Nat → Nat → Int) {y : Nat → Int}
    (hy : (assignInst n m C).Feas y) :
    ∃ α, ValidAssign n m α ∧ assignCost n C α = (assignInst n m C).costF y := by
  -- with unit capacities on the source and sink arcs the balances make the matrix arcs a 0/1 matrix with row and column
  -- sums at most one, which is the indicator of a partial injection
  have hM : (assignInst n m C).m = n + (n * m + m) := length_assignArcs n m C
  have bnd : ∀ k < n + (n * m + m), 0 ≤ y k ∧ y k ≤ 1 := by
    intro k hk
    have hk' : k < (assignInst n m C).m := hM ▸ hk
    have := hy.hi k hk'
    rw [(mem_assignArcs (Inst.arc_mem _ hk')).1] at this
    exact ⟨hy.lo k hk', this⟩
  have idxlt : ∀ i < n, ∀ j < m, n + i * m + j < n + (n * m + m) := by
    intro i hi j hj
    have : i * m + m ≤ n * m := Nat.succ_mul i m ▸ Nat.mul_le_mul_right m hi
    omega
  obtain ⟨balS, balL, balR⟩ := (assign_bal_iff C (fun i _ => y i)).1 hy.bal
  obtain ⟨α, αrange, αinj, key⟩ := exists_assign_of_matrix (n := n) (m := m) (fun i j => y (n + i * m + j))
    (fun i hi j hj => (bnd _ (idxlt i hi j hj)).1)
    (fun i hi => balL i hi ▸ (bnd i (by omega)).2)
    (fun j hj => balR j hj ▸ (bnd _ (by omega)).2)
  refine ⟨α, ⟨fun i _ j h => αrange i j h, αinj, ?_⟩, ?_⟩
  · rw [← balS]
    refine lsum_congr fun i hi => ?_
    have hin := List.mem_range.1 hi
    rw [← balL i hin, ← row_count (αrange i)]
    exact lsum_congr (fun j hj => key i hin j (List.mem_range.1 hj))
  · rw [show (assignInst n m C).costF y = _ from assign_cost C (fun i _ => y i)]
    unfold assignCost
    refine lsum_congr fun i hi => ?_
    have hin := List.mem_range.1 hi
    have e : lsum (List.range m) (fun j => C i j * y (n + i * m + j)) =
        lsum (List.range m) (fun j => C i j * ind (α i == some j)) :=
      lsum_congr (fun j hj => by rw [key i hin j (List.mem_range.1 hj)])
    rw [e, row_sum (αrange i) (fun j => C i j)]
    cases α i <;> rfl

theorem chkAssign_valid {n m : Nat} {a : List Int} (h : chkAssign n m a = true) :
    a.length = n ∧ ValidAssign n m (aOf a) := by
  unfold chkAssign at h
  simp only [Bool.and_eq_true, beq_iff_eq, List.all_eq_true, List.mem_range, decide_eq_true_eq,
    Bool.or_eq_true, bne_iff_ne] at h
  obtain ⟨⟨⟨h0, h1⟩, h2⟩, h3⟩ := h
  refine ⟨h0, ⟨?_, ?_, ?_⟩⟩
  · intro i hi j hj
    unfold aOf at hj
    have := h1 i hi
    split at hj
    · simp only [Option.some.injEq] at hj; omega
    · cases hj
  · intro i hi i' hi' j hj hj'
    unfold aOf at hj hj'
    split at hj
    · split at hj'
      · simp only [Option.some.injEq] at hj hj'
        rcases h2 i hi i' hi' with (h | h) | h
        · exact h
        · omega
        · exfalso; apply h; omega
      · cases hj'
    · cases hj
  · rw [← h3]
    apply lsum_congr
    intro i _
    unfold aOf ind
    split <;> simp

end Solvor.Flow
