import Solvor.Flow.SSPLemmas
/-!
Flow: the Bellman-Ford sweep of the search in `SSP.lean`, seen as a fold of single relaxation attempts
`relaxE` over residual arcs `e = (arc index, forward?)`, and what later proofs need to know about a sweep.
-/
namespace Solvor.Flow

namespace Inst
variable (I : Inst)

def tail (e : Nat × Bool) : Nat := if e.2 then (I.arc e.1).src else (I.arc e.1).tgt

def head (e : Nat × Bool) : Nat := if e.2 then (I.arc e.1).tgt else (I.arc e.1).src

def IsRes (x : List Int) (e : Nat × Bool) : Prop := e.1 < I.m ∧ 0 < I.resOf x e

def ecost (e : Nat × Bool) : Int := if e.2 then (I.arc e.1).cost else - (I.arc e.1).cost

theorem tail_lt (hv : I.Valid) {e : Nat × Bool} (he : e.1 < I.m) : I.tail e < I.n := by
  have := hv e.1 he; unfold tail; split <;> omega

def rev (e : Nat × Bool) : Nat × Bool := (e.1, !e.2)

theorem tail_rev (e : Nat × Bool) : I.tail (rev e) = I.head e := by
  obtain ⟨i, f⟩ := e; cases f <;> simp [rev, tail, head]

theorem head_rev (e : Nat × Bool) : I.head (rev e) = I.tail e := by
  obtain ⟨i, f⟩ := e; cases f <;> simp [rev, tail, head]

theorem ecost_rev (e : Nat × Bool) : I.ecost (rev e) = - I.ecost e := by
  obtain ⟨i, f⟩ := e; cases f <;> simp [rev, ecost]

theorem same_index {e e0 : Nat × Bool} (h : e.1 = e0.1) : e = e0 ∨ e = rev e0 := by
  obtain ⟨i, f⟩ := e
  obtain ⟨i0, f0⟩ := e0
  simp only at h; subst h
  cases f <;> cases f0 <;> simp [rev]

theorem head_lt (hv : I.Valid) {e : Nat × Bool} (he : e.1 < I.m) : I.head e < I.n :=
  I.tail_rev e ▸ I.tail_lt hv (e := rev e) he

theorem resOf_congr {x x' : List Int} {e : Nat × Bool} (h : fl x' e.1 = fl x e.1) : I.resOf x' e = I.resOf x e := by
  unfold resOf; rw [h]

theorem isRes_fwd {x : List Int} {i : Nat} (hi : i < I.m) (hc : fl x i < (I.arc i).cap) : I.IsRes x (i, true) :=
  ⟨hi, by simp only [resOf, if_true]; omega⟩

theorem isRes_bwd {x : List Int} {i : Nat} (hi : i < I.m) (hc : 0 < fl x i) : I.IsRes x (i, false) :=
  ⟨hi, by simpa [resOf] using hc⟩

/-- `none` = not reached -/
def D (st : BF) (v : Nat) : Option Int := st.dist.getD v none

abbrev AtMost (st : BF) (v : Nat) (c : Int) : Prop := ∃ dv, D st v = some dv ∧ dv ≤ c

theorem lt_of_improves {o : Option Int} {y d : Int} (h : improves o y = true) (ho : o = some d) : y < d := by
  subst ho; simpa [improves] using h

def relaxed (st : BF) (v : Nat) (y : Int) (tag : Nat × Bool) : BF :=
  ⟨st.dist.set v (some y), st.par.set v (some tag), true⟩

theorem D_relaxed (st : BF) (v : Nat) (y : Int) (tag : Nat × Bool) (w : Nat) :
    D (relaxed st v y tag) w = if w = v ∧ v < st.dist.length then some y else D st w := by
  simp only [D, relaxed, getD_set, eq_comm (a := v)]

theorem tryRelax_cases (st : BF) (u v : Nat) (c : Int) (tag : Nat × Bool) :
    (tryRelax st u v c tag = st ∧ ∀ du, D st u = some du → AtMost st v (du + c)) ∨
    (∃ du, D st u = some du ∧ improves (D st v) (du + c) = true ∧
      tryRelax st u v c tag = relaxed st v (du + c) tag) := by
  unfold tryRelax D
  cases h : st.dist.getD u none with
  | none => left; exact ⟨rfl, fun du hd => by cases hd⟩
  | some du =>
    simp only
    cases hb : improves (st.dist.getD v none) (du + c)
    · left
      refine ⟨by simp, fun du' hd => ?_⟩
      cases hd
      -- `improves` fails only against a label that is already as good
      cases hv : st.dist.getD v none with
      | none => rw [hv] at hb; cases hb
      | some dv => rw [hv] at hb; exact ⟨dv, hv, by simpa [improves] using hb⟩
    · right
      exact ⟨du, rfl, hb, by simp [relaxed]⟩

/-- the relaxation attempt of `relaxArc x u v · i` for the residual arc `e` (of arc `i`): it is made if `e`
leads from `u` to `v` and has residual capacity -/
def relaxE (x : List Int) (u v : Nat) (st : BF) (e : Nat × Bool) : BF :=
  if I.tail e = u ∧ I.head e = v ∧ 0 < I.resOf x e then tryRelax st u v (I.ecost e) e else st

theorem relaxArc_eq (x : List Int) (u v : Nat) (st : BF) (i : Nat) :
    I.relaxArc x u v st i = I.relaxE x u v (I.relaxE x u v st (i, true)) (i, false) := by
  simp only [relaxArc, relaxE, tail, head, resOf, ecost, Int.sub_pos, if_true, Bool.false_eq_true, if_false]

/-- the attempt on `e` from `u` to `v` succeeds in `st`, reading the label `du` of `u` -/
structure Relaxes (x : List Int) (u v : Nat) (st : BF) (e : Nat × Bool) (du : Int) : Prop where
  tail : I.tail e = u
  head : I.head e = v
  res  : 0 < I.resOf x e
  dist : D st u = some du
  imp  : improves (D st v) (du + I.ecost e) = true
  eq   : I.relaxE x u v st e = relaxed st v (du + I.ecost e) e

theorem relaxE_cases (x : List Int) (u v : Nat) (st : BF) (e : Nat × Bool) :
    (I.relaxE x u v st e = st ∧
      (I.tail e = u → I.head e = v → 0 < I.resOf x e → ∀ du, D st u = some du →
        AtMost st v (du + I.ecost e))) ∨
    ∃ du, I.Relaxes x u v st e du := by
  unfold relaxE
  split
  · rename_i hc
    rcases tryRelax_cases st u v (I.ecost e) e with ⟨h1, h2⟩ | ⟨du, h1, h2, h3⟩
    · exact Or.inl ⟨h1, fun _ _ _ du hd => h2 du hd⟩
    · exact Or.inr ⟨du, hc.1, hc.2.1, hc.2.2, h1, h2, by rw [relaxE, if_pos hc]; exact h3⟩
  · rename_i hc
    exact Or.inl ⟨rfl, fun a b c => absurd ⟨a, b, c⟩ hc⟩

theorem relaxE_upd (x : List Int) (u v : Nat) (st : BF) (e : Nat × Bool) (h : st.upd = true) :
    (I.relaxE x u v st e).upd = true := by
  rcases I.relaxE_cases x u v st e with ⟨h1, _⟩ | ⟨du, r⟩
  · rw [h1]; exact h
  · rw [r.eq]; rfl

theorem relaxArc_upd (x : List Int) (u v : Nat) (st : BF) (i : Nat) (h : st.upd = true) :
    (I.relaxArc x u v st i).upd = true := by
  rw [relaxArc_eq]
  exact I.relaxE_upd x u v _ _ (I.relaxE_upd x u v _ _ h)

theorem mem_triples {u v i : Nat} : (u, v, i) ∈ I.triples ↔ u < I.n ∧ v < I.n ∧ i < I.m := by
  unfold triples
  simp only [List.mem_flatMap, List.mem_map, List.mem_range, Prod.mk.injEq]
  constructor
  · rintro ⟨a, ha, b, hb, c, hc, h1, h2, h3⟩
    subst h1; subst h2; subst h3
    exact ⟨ha, hb, hc⟩
  · rintro ⟨h1, h2, h3⟩
    exact ⟨u, h1, v, h2, i, h3, rfl, rfl, rfl⟩

/-- the attempts of one sweep, in order -/
def cands : List (Nat × Nat × (Nat × Bool)) :=
  I.triples.flatMap fun t => [(t.1, t.2.1, (t.2.2, true)), (t.1, t.2.1, (t.2.2, false))]

theorem mem_cands {u v : Nat} {e : Nat × Bool} : (u, v, e) ∈ I.cands ↔ u < I.n ∧ v < I.n ∧ e.1 < I.m := by
  obtain ⟨i, f⟩ := e
  unfold cands
  simp only [List.mem_flatMap, List.mem_cons, Prod.mk.injEq, List.not_mem_nil, or_false]
  constructor
  · rintro ⟨⟨a, b, c⟩, ht, h | h⟩ <;>
    · obtain ⟨rfl, rfl, rfl, _⟩ := h
      exact I.mem_triples.1 ht
  · intro h
    refine ⟨(u, v, i), I.mem_triples.2 h, ?_⟩
    cases f
    · exact Or.inr ⟨rfl, rfl, rfl, rfl⟩
    · exact Or.inl ⟨rfl, rfl, rfl, rfl⟩

theorem sweep_eq (x : List Int) (st : BF) :
    I.sweep x st = I.cands.foldl (fun st c => I.relaxE x c.1 c.2.1 st c.2.2) st := by
  unfold sweep cands
  rw [List.foldl_flatMap]
  congr 1
  funext st t
  simp only [List.foldl_cons, List.foldl_nil, relaxArc_eq]

/-- what a sweep hands to the step of an invariant: the residual arc `e`, inside the instance, improves its head from the
label `du` of its tail -/
structure Improving (x : List Int) (st : BF) (e : Nat × Bool) (du : Int) : Prop where
  tail_lt : I.tail e < I.n
  head_lt : I.head e < I.n
  res  : I.IsRes x e
  dist : D st (I.tail e) = some du
  imp  : improves (D st (I.head e)) (du + I.ecost e) = true

theorem sweep_inv (P : BF → Prop) (x : List Int) (st : BF) (hP : P st)
    (hs : ∀ st' e du, P st' → I.Improving x st' e du → P (relaxed st' (I.head e) (du + I.ecost e) e)) :
    P (I.sweep x st) := by
  rw [sweep_eq]
  refine foldl_inv P hP ?_
  rintro st' ⟨u, v, e⟩ ht h'
  obtain ⟨h1, h2, h3⟩ := I.mem_cands.1 ht
  rcases I.relaxE_cases x u v st' e with ⟨e1, _⟩ | ⟨du, r⟩
  · rw [e1]; exact h'
  · obtain ⟨rfl, rfl⟩ := And.intro r.tail r.head
    rw [r.eq]; exact hs st' e du h' ⟨h1, h2, ⟨h3, r.res⟩, r.dist, r.imp⟩

theorem rounds_inv (P : BF → Prop) (x : List Int) (hr : ∀ st, P st → P { st with upd := false })
    (hs : ∀ st, P st → P (I.sweep x st)) (k : Nat) (st : BF) : P st → P (I.rounds x k st) := by
  -- case1: no round left; case2: the sweep changed something, go on; case3: it did not, stop
  fun_induction rounds I x k st with
  | case1 => exact id
  | case2 k st st' hu ih => exact fun h => ih (hs _ (hr _ h))
  | case3 k st st' hu => exact fun h => hs _ (hr _ h)

theorem sweep_len (x : List Int) (st : BF) : (I.sweep x st).dist.length = st.dist.length :=
  I.sweep_inv (fun s => s.dist.length = st.dist.length) x st rfl
    (fun st' _ _ h' _ => by simp [relaxed, h'])

theorem rounds_len (x : List Int) : ∀ (k : Nat) (st : BF), (I.rounds x k st).dist.length = st.dist.length :=
  fun k st => I.rounds_inv (fun s => s.dist.length = st.dist.length) x (fun _ h => h)
    (fun s h => (I.sweep_len x s).trans h) k st rfl

/-- `st'` labels every node `st` labels, and not higher -/
def Le (st st' : BF) : Prop := ∀ v d, D st v = some d → AtMost st' v d

theorem Le.refl (st : BF) : Le st st := fun _ d h => ⟨d, h, Int.le_refl _⟩

theorem Le.trans {a b c : BF} (h1 : Le a b) (h2 : Le b c) : Le a c := by
  intro v d hd
  obtain ⟨d1, e1, l1⟩ := h1 v d hd
  obtain ⟨d2, e2, l2⟩ := h2 v d1 e1
  exact ⟨d2, e2, by omega⟩

theorem relaxE_le (x : List Int) (u v : Nat) (st : BF) (e : Nat × Bool) : Le st (I.relaxE x u v st e) := by
  rcases I.relaxE_cases x u v st e with ⟨h1, _⟩ | ⟨du, r⟩
  · rw [h1]; exact Le.refl st
  · rw [r.eq]
    intro w d hd
    unfold AtMost
    rw [D_relaxed]
    split
    · rename_i cw
      rw [cw.1] at hd
      exact ⟨_, rfl, Int.le_of_lt (lt_of_improves r.imp hd)⟩
    · exact ⟨d, hd, Int.le_refl _⟩

theorem foldl_relaxE_le (x : List Int) (l : List (Nat × Nat × (Nat × Bool))) (st : BF) :
    Le st (l.foldl (fun st c => I.relaxE x c.1 c.2.1 st c.2.2) st) :=
  foldl_inv (Le st) (Le.refl st) fun st' _ _ h' => h'.trans (I.relaxE_le x _ _ st' _)

theorem sweep_le (x : List Int) (st : BF) : Le st (I.sweep x st) := by
  rw [sweep_eq]
  exact I.foldl_relaxE_le x _ st

theorem relaxE_len (x : List Int) (u v : Nat) (st : BF) (e : Nat × Bool) :
    (I.relaxE x u v st e).dist.length = st.dist.length := by
  rcases I.relaxE_cases x u v st e with ⟨h1, _⟩ | ⟨du, r⟩
  · rw [h1]
  · rw [r.eq]; simp [relaxed]

theorem relaxE_post (x : List Int) (st : BF) (e : Nat × Bool) (hr : I.IsRes x e)
    (hl : I.head e < st.dist.length) {du : Int} (hd : D st (I.tail e) = some du) :
    AtMost (I.relaxE x (I.tail e) (I.head e) st e) (I.head e) (du + I.ecost e) := by
  rcases I.relaxE_cases x (I.tail e) (I.head e) st e with ⟨h1, h2⟩ | ⟨du', r⟩
  · rw [h1]; exact h2 rfl rfl hr.2 du hd
  · cases hd.symm.trans r.dist
    rw [r.eq]
    exact ⟨du + I.ecost e, by rw [D_relaxed, if_pos ⟨rfl, hl⟩], Int.le_refl _⟩

theorem foldl_post (x : List Int) (e : Nat × Bool) (hr : I.IsRes x e) :
    ∀ (l : List (Nat × Nat × (Nat × Bool))) (st : BF) (du : Int), (I.tail e, I.head e, e) ∈ l →
      I.head e < st.dist.length → D st (I.tail e) = some du →
      AtMost (l.foldl (fun st c => I.relaxE x c.1 c.2.1 st c.2.2) st) (I.head e) (du + I.ecost e)
  | [], _, _, h, _, _ => by cases h
  | c :: l, st, du, hm, hl, hd => by
    simp only [List.foldl_cons]
    by_cases hc : c = (I.tail e, I.head e, e)
    · subst hc
      obtain ⟨dv, h1, h2⟩ := I.relaxE_post x st e hr hl hd
      obtain ⟨dv', h3, h4⟩ := I.foldl_relaxE_le x l _ _ dv h1
      exact ⟨dv', h3, by omega⟩
    · have hm' : (I.tail e, I.head e, e) ∈ l := (List.mem_cons.1 hm).resolve_left (fun h => hc h.symm)
      obtain ⟨du', hd', hle⟩ := I.relaxE_le x c.1 c.2.1 st c.2.2 _ du hd
      obtain ⟨dv, h1, h2⟩ := foldl_post x e hr l _ du' hm' (by rw [I.relaxE_len]; exact hl) hd'
      exact ⟨dv, h1, by omega⟩

theorem sweep_post (hv : I.Valid) (x : List Int) (st : BF) (hl : st.dist.length = I.n) (e : Nat × Bool)
    (hr : I.IsRes x e) {du : Int} (hd : D st (I.tail e) = some du) :
    AtMost (I.sweep x st) (I.head e) (du + I.ecost e) := by
  rw [sweep_eq]
  exact I.foldl_post x e hr _ st du (I.mem_cands.2 ⟨I.tail_lt hv hr.1, I.head_lt hv hr.1, hr.1⟩)
    (by rw [hl]; exact I.head_lt hv hr.1) hd

/-- no residual arc can improve its head -/
def Quiet (x : List Int) (st : BF) : Prop :=
  ∀ e, I.IsRes x e → ∀ du, D st (I.tail e) = some du → AtMost st (I.head e) (du + I.ecost e)

theorem foldl_quiet (x : List Int) : ∀ (l : List (Nat × Nat × (Nat × Bool))) (st : BF),
    (l.foldl (fun st c => I.relaxE x c.1 c.2.1 st c.2.2) st).upd = false →
    l.foldl (fun st c => I.relaxE x c.1 c.2.1 st c.2.2) st = st ∧
    ∀ e, (I.tail e, I.head e, e) ∈ l → 0 < I.resOf x e → ∀ du, D st (I.tail e) = some du →
      AtMost st (I.head e) (du + I.ecost e)
  | [], _, _ => ⟨rfl, fun _ h => by cases h⟩
  | c :: l, st, h => by
    simp only [List.foldl_cons] at h ⊢
    obtain ⟨e1, q⟩ := foldl_quiet x l _ h
    rcases I.relaxE_cases x c.1 c.2.1 st c.2.2 with ⟨h1, h2⟩ | ⟨du, r⟩
    · rw [h1] at e1 q ⊢
      refine ⟨e1, fun e he hr du hd => ?_⟩
      rcases List.mem_cons.1 he with rfl | he
      · exact h2 rfl rfl hr du hd
      · exact q e he hr du hd
    · rw [e1, r.eq] at h; cases h

theorem sweep_quiet (hv : I.Valid) (x : List Int) (st : BF) (h : (I.sweep x st).upd = false) :
    I.sweep x st = st ∧ I.Quiet x st := by
  rw [sweep_eq] at h ⊢
  obtain ⟨e1, q⟩ := I.foldl_quiet x _ st h
  exact ⟨e1, fun e hr => q e (I.mem_cands.2 ⟨I.tail_lt hv hr.1, I.head_lt hv hr.1, hr.1⟩) hr.2⟩

theorem sweep_noop {x : List Int} {st : BF} (hq : I.Quiet x st) : I.sweep x st = st := by
  rw [sweep_eq]
  refine foldl_inv (· = st) rfl (fun st' c hc h' => ?_)
  obtain ⟨u, v, e⟩ := c
  rw [h']
  rcases I.relaxE_cases x u v st e with ⟨h1, _⟩ | ⟨du, r⟩
  · exact h1
  · obtain ⟨rfl, rfl⟩ := And.intro r.tail r.head
    obtain ⟨dv, h2, h3⟩ := hq e ⟨(I.mem_cands.1 hc).2.2, r.res⟩ du r.dist
    have := lt_of_improves r.imp h2
    omega

end Inst
end Solvor.Flow
