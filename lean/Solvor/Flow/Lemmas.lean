import Solvor.Flow.SumLemmas
import Solvor.Flow.ArcSums
import Solvor.Flow.CutLemmas
import Solvor.Flow.EKLemmas
import Solvor.Flow.EKArcs
import Solvor.Flow.SSPLemmas
import Solvor.Flow.AssignLemmas
import Solvor.Flow.PairLemmas
import Solvor.Flow.BellmanFord
import Solvor.Flow.SSPRounds
import Solvor.Flow.SSPCert
import Solvor.Flow.SSPConv
import Solvor.Flow.SSPReduce
/-! Flow: the lemma modules, imported together for `Theorems.lean`. -/
