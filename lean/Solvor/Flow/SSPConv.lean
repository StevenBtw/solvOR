import Solvor.Flow.SSPCert
/-!
Flow: the search of `SSP.lean` always answers when the residual network admits feasible node potentials (⇔ it has no
negative-cost cycle): the labels converge, the parent pointers stay acyclic, and potentials survive an augmentation
along tight arcs.
-/
namespace Solvor.Flow
namespace Inst
variable (I : Inst)

/-- along a walk of residual arcs feasible potentials rise by at most its cost: the cost is the sum of the reduced costs,
which are non-negative, plus the potential gained -/
theorem pot_walk {x : List Int} {p : Nat → Int} (hp : I.Pot x p) : ∀ (w : List (Nat × Bool)) (a b : Nat),
    I.Link a w b → (∀ e ∈ w, I.IsRes x e) → p b - p a ≤ I.wcost w
  | [], a, b, h, _ => by
    obtain rfl : a = b := h
    simp [wcost]
  | e :: r, a, b, h, hr => by
    have h1 := pot_walk hp r _ b h.2 (fun e' he' => hr e' (List.mem_cons_of_mem _ he'))
    have h2 := hp e (hr e List.mem_cons_self)
    unfold erc at h2
    rw [h.1] at h2
    simp only [wcost]
    omega

theorem nc_of_pot {x : List Int} {p : Nat → Int} (hp : I.Pot x p) : I.NC x := fun a w hl hr => by
  have := I.pot_walk hp w a a hl hr
  omega

theorem zero_quiet (hv : I.Valid) {x : List Int} (hnc : I.NC x) : I.Quiet x (I.rounds x I.n I.zeroInit) :=
  I.rounds_quiet hv hnc _ I.zeroInit_allSome.1 (by omega)

theorem potentials_isSome (hv : I.Valid) {x : List Int} (hnc : I.NC x) : ∃ q, I.potentials x = some q := by
  have hq : I.Quiet x { I.rounds x I.n I.zeroInit with upd := false } := I.zero_quiet hv hnc
  rw [potentials_eq, I.sweep_noop hq]
  simp

/-- following the parents from any node ends -/
def Acyc (st : BF) : Prop := ∀ v, ∃ k, I.Steps st.par v k

theorem acyc_relaxed {x : List Int} {p : Nat → Int} (hp : I.Pot x p) {s : Nat} {st : BF} (h : I.WF x s st)
    (ha : I.Acyc st) {e : Nat × Bool} (hvn : I.head e < I.n) {du : Int} (hd : D st (I.tail e) = some du)
    (he : I.IsRes x e) (himp : improves (D st (I.head e)) (du + I.ecost e) = true) :
    I.Acyc (relaxed st (I.head e) (du + I.ecost e) e) := by
  have hvp : I.head e < st.par.length := by rw [h.plen]; exact hvn
  have hrc := hp e he
  unfold erc at hrc
  have hlow : ∀ dvo, D st (I.head e) = some dvo → du + I.ecost e < dvo := fun _ => lt_of_improves himp
  have Pv : (relaxed st (I.head e) (du + I.ecost e) e).par.getD (I.head e) none = some e := by
    show (st.par.set (I.head e) (some e)).getD (I.head e) none = _
    rw [getD_set, if_pos ⟨rfl, hvp⟩]
  have Pw : ∀ w, w ≠ I.head e →
      (relaxed st (I.head e) (du + I.ecost e) e).par.getD w none = st.par.getD w none := by
    intro w hw
    show (st.par.set (I.head e) (some e)).getD w none = st.par.getD w none
    rw [getD_set, if_neg (fun hc => hw hc.1.symm)]
  -- The reduced label `D w - p w` does not increase towards the parents (tightness of the parent arcs), and that of the
  -- tail of the new parent arc is below the old one of its head: the chain from the tail stays among the nodes whose
  -- reduced label is below the old reduced label of the head, and so never meets the head.
  let Below : Nat → Prop := fun w =>
    ∃ dw, D st w = some dw ∧ ∀ dvo, D st (I.head e) = some dvo → dw - p w < dvo - p (I.head e)
  have below_ne : ∀ w, Below w → w ≠ I.head e := by
    rintro w ⟨dw, h1, h2⟩ e0
    subst e0
    have := h2 dw h1
    omega
  have below_u : Below (I.tail e) := ⟨du, hd, fun dvo h0 => by have := hlow dvo h0; omega⟩
  have below_up : ∀ w e', Below w → st.par.getD w none = some e' → Below (I.tail e') := by
    rintro w e' ⟨dw, h1, h2⟩ hpar
    have hpe := h.par w e' hpar
    obtain ⟨dv', du', t⟩ := hpe.tight
    have hrc' := hp e' hpe.res
    unfold erc at hrc'
    rw [hpe.head] at hrc'
    obtain rfl : dv' = dw := Option.some.inj (t.hd.symm.trans h1)
    exact ⟨du', t.tl, fun dvo h0 => by have := h2 dvo h0; have := t.le; omega⟩
  have avoid : ∀ (k w : Nat), I.Steps st.par w k → Below w →
      I.Steps (relaxed st (I.head e) (du + I.ecost e) e).par w k := by
    intro k
    induction k with
    | zero =>
      intro w hs hb
      show (relaxed st (I.head e) (du + I.ecost e) e).par.getD w none = none
      rw [Pw w (below_ne w hb)]; exact hs
    | succ k ih =>
      intro w hs hb
      obtain ⟨e', hpar, hs'⟩ := hs
      exact ⟨e', by rw [Pw w (below_ne w hb)]; exact hpar, ih _ hs' (below_up w e' hb hpar)⟩
  obtain ⟨ku, hku⟩ := ha (I.tail e)
  have hv' : I.Steps (relaxed st (I.head e) (du + I.ecost e) e).par (I.head e) (ku + 1) :=
    ⟨e, Pv, avoid ku _ hku below_u⟩
  have all : ∀ (k w : Nat), I.Steps st.par w k →
      ∃ k', I.Steps (relaxed st (I.head e) (du + I.ecost e) e).par w k' := by
    intro k
    induction k with
    | zero =>
      intro w hs
      by_cases c : w = I.head e
      · rw [c]; exact ⟨_, hv'⟩
      · exact ⟨0, by show (relaxed st (I.head e) (du + I.ecost e) e).par.getD w none = none; rw [Pw w c]; exact hs⟩
    | succ k ih =>
      intro w hs
      by_cases c : w = I.head e
      · rw [c]; exact ⟨_, hv'⟩
      · obtain ⟨e', hpar, hs'⟩ := hs
        obtain ⟨k', hk'⟩ := ih _ hs'
        exact ⟨k' + 1, e', by rw [Pw w c]; exact hpar, hk'⟩
  intro w
  obtain ⟨k, hk⟩ := ha w
  exact all k w hk

theorem acyc_rounds {x : List Int} {p : Nat → Int} (hp : I.Pot x p) {s : Nat} (k : Nat) {st : BF}
    (h : I.WF x s st) (ha : I.Acyc st) : I.Acyc (I.rounds x k st) :=
  (I.rounds_inv (fun st => I.WF x s st ∧ I.Acyc st) x
    (fun _ hs => ⟨hs.1.reset, hs.2⟩)
    (fun st hs => I.sweep_inv (fun st => I.WF x s st ∧ I.Acyc st) x st hs (fun _ _ _ h' r =>
      ⟨I.wf_relaxed h'.1 r.head_lt r.res r.dist r.imp, I.acyc_relaxed hp h'.1 h'.2 r.head_lt r.dist r.res r.imp⟩))
    k st ⟨h, ha⟩).2

theorem acyc_init (s : Nat) : I.Acyc (I.initBF s) := by
  intro v
  refine ⟨0, ?_⟩
  show (List.replicate I.n (none : Option (Nat × Bool))).getD v none = none
  by_cases hvn : v < I.n <;> simp [List.getD, hvn]

theorem walk_some (par : List (Option (Nat × Bool))) (k fuel node : Nat) (acc : List (Nat × Bool)) :
    I.Steps par node k → k < fuel → ∃ path, I.walk par fuel node acc = some path := by
  -- cases as in `walk_spec`
  fun_induction walk I par fuel node acc generalizing k with
  | case1 => exact fun _ h => absurd h (Nat.not_lt_zero _)
  | case2 fuel node acc hp => exact fun _ _ => ⟨acc, rfl⟩
  | case3 fuel node acc i fwd hp ih =>
    intro hs hk
    cases k with
    | zero => rw [show par.getD node none = none from hs] at hp; cases hp
    | succ k =>
      obtain ⟨e, he, hs'⟩ := hs
      rw [hp] at he; cases he
      exact ih k hs' (Nat.lt_of_succ_lt_succ hk)

theorem pchain_snoc (par : List (Option (Nat × Bool))) (e : Nat × Bool) (he : par.getD (I.head e) none = some e) :
    ∀ (p : List (Nat × Bool)) (a : Nat), I.PChain par a p (I.tail e) → I.PChain par a (p ++ [e]) (I.head e)
  | [], a, h => by
    have : a = I.tail e := h
    exact ⟨this.symm, he, rfl⟩
  | e0 :: r, a, h => ⟨h.1, h.2.1, pchain_snoc par e he r _ h.2.2⟩

theorem steps_chain (par : List (Option (Nat × Bool))) (hpar : ∀ v e, par.getD v none = some e → I.head e = v) :
    ∀ (k w : Nat), I.Steps par w k → ∃ root path, I.PChain par root path w ∧ I.Steps par root 0 ∧ path.length = k
  | 0, w, h => ⟨w, [], rfl, h, rfl⟩
  | k + 1, w, ⟨e, he, hs⟩ => by
    obtain ⟨root, path, hc, hr, hl⟩ := steps_chain par hpar k _ hs
    have hh := hpar w e he
    refine ⟨root, path ++ [e], ?_, hr, by simp [hl]⟩
    have := I.pchain_snoc par e (by rw [hh]; exact he) path root hc
    rw [hh] at this
    exact this

theorem steps_lt (hv : I.Valid) {x : List Int} {s : Nat} {st : BF} (h : I.WF x s st) {w k : Nat} (hw : w < I.n)
    (hs : I.Steps st.par w k) : k + 1 ≤ I.n := by
  have hpar : ∀ v e, st.par.getD v none = some e → I.head e = v := fun v e he => (h.par v e he).head
  obtain ⟨root, path, hc, hr, hl⟩ := I.steps_chain st.par hpar k w hs
  have hres : ∀ e ∈ path, I.IsRes x e := by
    intro e he
    have := I.pchain_mem st.par path root w hc e he
    exact (h.par _ e this).res
  have hnd := I.pchain_nodup st.par w path root 0 hc hr
  have hroot : root < I.n := by
    cases path with
    | nil =>
      have : root = w := hc
      rw [this]; exact hw
    | cons e r => exact hc.1 ▸ I.tail_lt hv (hres e List.mem_cons_self).1
  have := I.simple_length hv hroot hres hnd
  omega

theorem walk_isSome (hv : I.Valid) {x : List Int} {s : Nat} {st : BF} (h : I.WF x s st) (ha : I.Acyc st)
    {t : Nat} (ht : t < I.n) : ∃ path, I.walk st.par (I.n + 1) t [] = some path := by
  obtain ⟨k, hk⟩ := ha t
  have := I.steps_lt hv h ht hk
  exact I.walk_some st.par k (I.n + 1) t [] hk (by omega)

theorem push_other (d : Int) : ∀ (w : List (Nat × Bool)) (x : List Int) (i : Nat), (∀ e ∈ w, e.1 ≠ i) →
    fl (push x d w) i = fl x i
  | [], _, _, _ => rfl
  | e :: r, x, i, h => by
    rw [push_cons, push_other d r _ i (fun e' he' => h e' (List.mem_cons_of_mem _ he'))]
    unfold fl
    rw [getD_set, if_neg (fun hc => h e List.mem_cons_self hc.1)]

theorem exists_ub (n : Nat) (g : Nat → Int) : ∃ K, ∀ i < n, g i ≤ K :=
  ⟨_, fun i hi => (foldl_max_spec g (List.range n) 0).2 i (List.mem_range.2 hi)⟩

theorem pot_push {x : List Int} {p : Nat → Int} (hp : I.Pot x p) {st : BF} (hq : I.Quiet x st)
    {w : List (Nat × Bool)} (d : Int)
    (htight : ∀ e0 ∈ w, ∃ dv du, D st (I.head e0) = some dv ∧ D st (I.tail e0) = some du ∧ dv = du + I.ecost e0) :
    ∃ p', I.Pot (push x d w) p' := by
  -- labelled nodes keep their label; the others get `p` shifted by a `K` that makes every arc
  -- from an unlabelled to a labelled node slack
  let gap : Nat × Bool → Int := fun e => (D st (I.head e)).getD 0 - I.ecost e - p (I.tail e)
  obtain ⟨K, hK⟩ := exists_ub I.m fun i => max (gap (i, true)) (gap (i, false))
  let p' : Nat → Int := fun v => match D st v with
    | some dv => dv
    | none => p v + K
  have p'some : ∀ v dv, D st v = some dv → p' v = dv := by
    intro v dv h; show (match D st v with | some dv => dv | none => p v + K) = dv; rw [h]
  have p'none : ∀ v, D st v = none → p' v = p v + K := by
    intro v h; show (match D st v with | some dv => dv | none => p v + K) = p v + K; rw [h]
  refine ⟨p', ?_⟩
  intro e he
  unfold erc
  by_cases hB : ∃ e0 ∈ w, e0.1 = e.1
  · -- an arc of the path or its reverse: reduced cost 0
    obtain ⟨e0, he0, hidx⟩ := hB
    obtain ⟨dv, du, h1, h2, h3⟩ := htight e0 he0
    rcases same_index hidx.symm with rfl | rfl
    · rw [p'some _ _ h1, p'some _ _ h2]; omega
    · rw [I.tail_rev, I.head_rev, I.ecost_rev, p'some _ _ h1, p'some _ _ h2]; omega
  · -- untouched arc: residual before the augmentation as well
    have hsame : fl (push x d w) e.1 = fl x e.1 :=
      push_other d w x e.1 (fun e0 he0 hc => hB ⟨e0, he0, hc⟩)
    have hex : I.IsRes x e := ⟨he.1, I.resOf_congr hsame ▸ he.2⟩
    have hrc := hp e hex
    unfold erc at hrc
    cases ht : D st (I.tail e) with
    | some dt =>
      obtain ⟨dh, h1, h2⟩ := hq e hex dt ht
      rw [p'some _ _ ht, p'some _ _ h1]; omega
    | none =>
      cases hh : D st (I.head e) with
      | none => rw [p'none _ ht, p'none _ hh]; omega
      | some dh =>
        rw [p'none _ ht, p'some _ _ hh]
        have hg : gap e ≤ K := by
          have := hK e.1 he.1
          obtain ⟨i, b⟩ := e
          cases b
          · exact Int.le_trans (Int.le_max_right _ _) this
          · exact Int.le_trans (Int.le_max_left _ _) this
        have : gap e = dh - I.ecost e - p (I.tail e) := by
          show (D st (I.head e)).getD 0 - _ - _ = _; rw [hh]; rfl
        omega

theorem loop_answers (hv : I.Valid) {s t : Nat} (hs : s < I.n) (ht : t < I.n) {demand : Int}
    (fuel : Nat) (x : List Int) (total : Int) (k c : Nat) :
    I.LInv s t x total → (∃ p, I.Pot x p) → total ≤ demand → (demand - total).toNat < fuel →
      (I.sspLoop s t demand fuel x total k c).status ≠ .negcycle := by
  -- cases as in `loop_cert`
  fun_induction sspLoop I s t demand fuel x total k c with
  | case1 => exact fun _ _ _ hf => absurd hf (Nat.not_lt_zero _)
  | case2 | case7 => exact fun _ _ _ _ => nofun
  | case6 fuel x total k c hlt hnone =>
    rintro _ ⟨p, hp⟩ _ _
    obtain ⟨q, hq⟩ := I.potentials_isSome hv (I.nc_of_pot hp)
    rw [hq] at hnone; cases hnone
  | case3 fuel x total k c hlt st dt hd hw =>
    rintro _ ⟨p, hp⟩ _ _
    obtain ⟨path, hw'⟩ := I.walk_isSome hv (I.wf_search x hs _)
      (I.acyc_rounds hp _ (I.wf_init x hs) (I.acyc_init s)) ht
    rw [hw'] at hw; cases hw
  | case4 fuel x total k c hlt st dt hd path hw d hnp =>
    intro hL _ _ _
    obtain ⟨hpath, _⟩ := I.aug_step hv ht hL (I.wf_search x hs _) (labelled_of_some hd) hw
    exact absurd ((foldl_min_spec (I.resOf x) path _).2.2 (by omega : 0 < demand - total) fun e he => (hpath e he).2.2)
      (Int.not_lt.2 hnp)
  | case5 fuel x total k c hlt st dt hd path hw d hpos ih =>
    rintro hL ⟨p, hp⟩ hle hf
    have hwf : I.WF x s st := I.wf_search x hs _
    have hq : I.Quiet x st := I.rounds_quiet hv (I.nc_of_pot hp) _ (by simp [initBF]) (Nat.le_refl _)
    obtain ⟨hpath, hstep⟩ := I.aug_step hv ht hL hwf (labelled_of_some hd) hw
    have hmin := foldl_min_spec (I.resOf x) path (demand - total)
    refine ih (hstep _ (by omega) hmin.2.1) ?_ (by have := hmin.1; omega) (by have := hmin.1; omega)
    -- the arcs of the path are tight: potentials survive
    apply I.pot_push hp hq
    intro e0 he0
    have hpe := hwf.par _ e0 (hpath e0 he0).1
    obtain ⟨dv, du, t⟩ := hpe.tight
    obtain ⟨dv', q1, q2⟩ := hq e0 hpe.res du t.tl
    obtain rfl : dv' = dv := Option.some.inj (q1.symm.trans t.hd)
    exact ⟨dv', du, t.hd, t.tl, by have := t.le; omega⟩

theorem pot_zero_iff {p : Nat → Int} :
    I.Pot (List.replicate I.m 0) p ↔ ∀ i < I.m, 0 < (I.arc i).cap → 0 ≤ I.rc p i := by
  rw [pot_iff_slack]
  constructor
  · intro h i hi hc
    exact (h i hi).1 (by rw [fl_replicate_zero]; exact hc)
  · intro h i hi
    rw [fl_replicate_zero]
    exact ⟨h i hi, fun hc => absurd hc (Int.lt_irrefl 0)⟩

/-- core of `ssp_certifies`: with feasible potentials for the input (no negative-cost cycle) the search always ends
with an answer -/
theorem ssp_answers (hv : I.Valid) (hcap : ∀ i < I.m, 0 ≤ (I.arc i).cap) {s t : Nat} (hs : s < I.n) (ht : t < I.n)
    {demand : Int} (hd : 0 ≤ demand) {p : Nat → Int} (hp : ∀ i < I.m, 0 < (I.arc i).cap → 0 ≤ I.rc p i) :
    (I.ssp s t demand).status ≠ .negcycle :=
  I.loop_answers hv hs ht _ _ 0 0 0 (I.linv_zero hcap s t) ⟨p, I.pot_zero_iff.2 hp⟩ hd (by
    have : (demand - 0).toNat = demand.toNat := by simp
    omega)

theorem pot_of_nc (hv : I.Valid) {x : List Int} (hnc : I.NC x) : ∃ p, I.Pot x p :=
  ⟨_, I.pot_of_quiet hv (I.allSome_rounds x _ I.zeroInit_allSome) (I.zero_quiet hv hnc)⟩

end Inst
end Solvor.Flow
