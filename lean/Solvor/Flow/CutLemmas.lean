import Solvor.Flow.SumLemmas
import Solvor.Flow.EK
/-! Flow: specification of feasible flows / cuts and the weak-duality argument (core Lean only). -/
namespace Solvor.Flow
namespace Net
variable (N : Net)

/-- the networks `max_flow` is specified on: distinct terminals, non-negative pooled capacities,
every arc of positive capacity is a key of `capacity[u]`, and the key relation is symmetric (the
repaired construction creates the reverse key) -/
structure WF : Prop where
  nodup      : N.V.Nodup
  s_mem      : N.s ∈ N.V
  t_mem      : N.t ∈ N.V
  s_ne_t     : N.s ≠ N.t
  cap_nonneg : ∀ u v, 0 ≤ N.cap u v
  cap_adj    : ∀ u v, 0 < N.cap u v → v ∈ N.adj u
  adj_symm   : ∀ u v, v ∈ N.adj u → u ∈ N.adj v
  adj_mem    : ∀ u v, v ∈ N.adj u → v ∈ N.V

/-- `g` is a feasible s-t flow on the pooled capacities -/
structure Feasible (g : Nat → Nat → Int) : Prop where
  nonneg : ∀ u ∈ N.V, ∀ v ∈ N.V, 0 ≤ g u v
  le_cap : ∀ u ∈ N.V, ∀ v ∈ N.V, g u v ≤ N.cap u v
  cons   : ∀ v ∈ N.V, v ≠ N.s → v ≠ N.t → N.inflow g v = N.outflow g v

def Saturated (g : Nat → Nat → Int) (S : List Nat) : Prop :=
  ∀ u ∈ N.V, ∀ v ∈ N.V, u ∈ S → v ∉ S → g u v = N.cap u v ∧ g v u = 0

def inside (S : List Nat) : List Nat := N.V.filter fun u => S.contains u
def outside (S : List Nat) : List Nat := N.V.filter fun v => !S.contains v

theorem mem_inside {S : List Nat} {x : Nat} : x ∈ N.inside S ↔ x ∈ N.V ∧ x ∈ S := by
  simp [inside]

theorem mem_outside {S : List Nat} {x : Nat} : x ∈ N.outside S ↔ x ∈ N.V ∧ x ∉ S := by
  simp [outside]

theorem cutCap_eq (S : List Nat) :
    N.cutCap S = lsum (N.inside S) fun u => lsum (N.outside S) fun v => N.cap u v := rfl

theorem value_eq_cross (hV : N.V.Nodup) (ht : N.t ∈ N.V) {S : List Nat} (hs : N.s ∈ S)
    (htS : N.t ∉ S) {g : Nat → Nat → Int} (hg : N.Feasible g) :
    N.value g = lsum (N.outside S) fun v => lsum (N.inside S) fun u => g u v - g v u := by
  have hBnd : (N.outside S).Nodup := hV.filter _
  have htB : N.t ∈ N.outside S := (N.mem_outside).2 ⟨ht, htS⟩
  -- (1) value = Σ_{v ∉ S} (in v − out v)
  have h1 : N.value g = lsum (N.outside S) fun v => N.inflow g v - N.outflow g v := by
    rw [lsum_single hBnd htB (g := fun v => N.inflow g v - N.outflow g v)]
    · rfl
    · intro v hv hvt
      have hv' := (N.mem_outside).1 hv
      have hvs : v ≠ N.s := fun h => hv'.2 (h ▸ hs)
      have := hg.cons v hv'.1 hvs hvt
      omega
  -- (2) in v − out v = Σ_{u ∈ S}(g u v − g v u) + Σ_{u ∉ S}(g u v − g v u)
  have h2 : ∀ v, N.inflow g v - N.outflow g v =
      lsum (N.inside S) (fun u => g u v - g v u) + lsum (N.outside S) (fun u => g u v - g v u) := by
    intro v
    unfold inflow outflow
    rw [← lsum_sub]
    exact lsum_filter_split N.V (fun u => S.contains u) _
  -- (3) the part inside V \ S cancels
  have h3 : lsum (N.outside S) (fun v => lsum (N.outside S) (fun u => g u v - g v u)) = 0 := by
    have e : ∀ v, lsum (N.outside S) (fun u => g u v - g v u)
        = lsum (N.outside S) (fun u => g u v) - lsum (N.outside S) (fun u => g v u) :=
      fun v => lsum_sub _ _ _
    rw [lsum_congr (fun v _ => e v), lsum_sub, lsum_comm (N.outside S) (N.outside S) (fun v u => g u v)]
    omega
  rw [h1, lsum_congr (fun v _ => h2 v), lsum_add, h3]
  omega

theorem value_le_cutCap (hV : N.V.Nodup) (ht : N.t ∈ N.V) {S : List Nat} (hs : N.s ∈ S)
    (htS : N.t ∉ S) {g : Nat → Nat → Int} (hg : N.Feasible g) : N.value g ≤ N.cutCap S := by
  rw [N.value_eq_cross hV ht hs htS hg, cutCap_eq, lsum_comm (N.inside S) (N.outside S)]
  apply lsum_le
  intro v hv
  apply lsum_le
  intro u hu
  have hu' := (N.mem_inside).1 hu
  have hv' := (N.mem_outside).1 hv
  have := hg.le_cap u hu'.1 v hv'.1
  have := hg.nonneg v hv'.1 u hu'.1
  omega

theorem value_eq_cutCap (hV : N.V.Nodup) (ht : N.t ∈ N.V) {S : List Nat} (hs : N.s ∈ S)
    (htS : N.t ∉ S) {g : Nat → Nat → Int} (hg : N.Feasible g) (hsat : N.Saturated g S) :
    N.value g = N.cutCap S := by
  rw [N.value_eq_cross hV ht hs htS hg, cutCap_eq, lsum_comm (N.inside S) (N.outside S)]
  apply lsum_congr
  intro v hv
  apply lsum_congr
  intro u hu
  have hu' := (N.mem_inside).1 hu
  have hv' := (N.mem_outside).1 hv
  have := hsat u hu'.1 v hv'.1 hu'.2 hv'.2
  omega

end Net
end Solvor.Flow
