import Solvor.Flow.PairCost
import Solvor.Flow.SumLemmas
/-! Flow: off the feature class of `PairCost.lean` the node-pair cost table is faithful (`pairCosts_inv`).  That it
misprices on the class is shown by one instance, `pair_costs_misprice` in Theorems.lean. -/
namespace Solvor.Flow

theorem CostT.get_set (t : CostT) (u v : Nat) (c : Int) (a b : Nat) :
    (t.set u v c).get a b = if a = u ∧ b = v then some c else t.get a b :=
  lookup_set t u v c a b

def NoFeature (l : List Arc) : Prop :=
  ∀ a ∈ l, ∀ b ∈ l, (a.src = b.src → a.tgt = b.tgt → a.cost = b.cost) ∧
    (a.src = b.tgt → a.tgt = b.src → a.src = a.tgt)

theorem noPairFeature_iff (l : List Arc) : noPairFeature l = true ↔ NoFeature l := by
  simp only [noPairFeature, NoFeature, List.all_eq_true, Bool.and_eq_true, not_or_eq_true, beq_iff_eq, and_imp]

/-- what the table must say after the arcs `l` -/
structure PairInv (t : CostT) (l : List Arc) : Prop where
  fwd  : ∀ a ∈ l, t.get a.src a.tgt = some a.cost
  bwd  : ∀ a ∈ l, a.src ≠ a.tgt → t.get a.tgt a.src = some (- a.cost)
  only : ∀ u v c, t.get u v = some c →
    ∃ a ∈ l, (a.src = u ∧ a.tgt = v ∧ a.cost = c) ∨ (a.src ≠ a.tgt ∧ a.tgt = u ∧ a.src = v ∧ - a.cost = c)

theorem pairStep_get {t : CostT} {l : List Arc} {a : Arc} (hI : PairInv t l)
    (hN : NoFeature (l ++ [a])) (u v : Nat) :
    (pairStep t a).get u v =
      if u = a.src ∧ v = a.tgt then some a.cost
      else if (u = a.tgt ∧ v = a.src) ∧ a.src ≠ a.tgt then some (- a.cost)
      else t.get u v := by
  have ha : a ∈ l ++ [a] := by simp
  have hl : ∀ b ∈ l, b ∈ l ++ [a] := fun b hb => List.mem_append_left _ hb
  have hfw : newFwd t a = a.cost := by
    unfold newFwd
    cases hg : t.get a.src a.tgt with
    | none => rfl
    | some c =>
      obtain ⟨b, hb, ⟨hs, ht, hc⟩ | ⟨hne, ht, hs, _⟩⟩ := hI.only _ _ _ hg
      · -- the entry comes from an earlier arc on the same pair: same cost
        have := (hN b (hl b hb) a ha).1 hs ht
        simp only; rw [← hc, this]; exact Int.min_self _
      · -- it comes from an earlier anti-parallel arc: that arc would be a loop
        exact absurd ((hN b (hl b hb) a ha).2 hs ht) hne
  unfold pairStep
  simp only [hfw]
  by_cases hloop : a.src = a.tgt
  · -- self-loop: the reverse key is the forward key, already set
    have : (t.set a.src a.tgt a.cost).get a.tgt a.src = some a.cost := by
      rw [CostT.get_set]; simp [hloop]
    rw [this]
    rw [CostT.get_set]
    have : ¬ ((u = a.tgt ∧ v = a.src) ∧ a.src ≠ a.tgt) := fun h => h.2 hloop
    simp only [this, if_false]
  · have hkey : ¬ (a.tgt = a.src ∧ a.src = a.tgt) := fun h => hloop h.2
    have e1 : (t.set a.src a.tgt a.cost).get a.tgt a.src = t.get a.tgt a.src := by
      rw [CostT.get_set]; simp [hkey]
    rw [e1]
    cases hg : t.get a.tgt a.src with
    | none =>
      rw [CostT.get_set, CostT.get_set]
      by_cases h1 : u = a.src ∧ v = a.tgt
      · obtain ⟨rfl, rfl⟩ := h1
        have : ¬ (a.src = a.tgt ∧ a.tgt = a.src) := fun h => hloop h.1
        simp [this]
      · simp only [h1, if_false]
        by_cases h2 : u = a.tgt ∧ v = a.src
        · simp [h2, hloop]
        · simp [h2]
    | some c =>
      rw [CostT.get_set]
      -- the existing reverse entry is already -cost
      have hc : c = - a.cost := by
        obtain ⟨b, hb, ⟨hs, ht, _⟩ | ⟨_, ht, hs, hc⟩⟩ := hI.only _ _ _ hg
        · -- it comes from an earlier arc `a.tgt → a.src`: that arc, and with it `a`, would be a loop
          have e := (hN b (hl b hb) a ha).2 hs ht
          exact absurd (ht.symm.trans (e.symm.trans hs)) hloop
        · -- it comes from an earlier arc on the same pair: same cost
          rw [← hc, (hN b (hl b hb) a ha).1 hs ht]
      by_cases h1 : u = a.src ∧ v = a.tgt
      · simp [h1]
      · simp only [h1, if_false]
        by_cases h2 : u = a.tgt ∧ v = a.src
        · obtain ⟨rfl, rfl⟩ := h2
          simp [hloop, hg, hc]
        · simp [h2]

theorem pairStep_inv {t : CostT} {l : List Arc} {a : Arc} (hI : PairInv t l)
    (hN : NoFeature (l ++ [a])) : PairInv (pairStep t a) (l ++ [a]) := by
  have ha : a ∈ l ++ [a] := by simp
  have hl : ∀ b ∈ l, b ∈ l ++ [a] := fun b hb => List.mem_append_left _ hb
  have G := fun u v => pairStep_get hI hN u v
  refine ⟨?_, ?_, ?_⟩
  · intro b hb
    rw [G]
    rcases List.mem_append.1 hb with hb | hb
    · by_cases h1 : b.src = a.src ∧ b.tgt = a.tgt
      · rw [if_pos h1, (hN b (hl b hb) a ha).1 h1.1 h1.2]
      · rw [if_neg h1]
        by_cases h2 : (b.src = a.tgt ∧ b.tgt = a.src) ∧ a.src ≠ a.tgt
        · exfalso
          obtain ⟨⟨e1, e2⟩, hna⟩ := h2
          have e : b.src = b.tgt := (hN b (hl b hb) a ha).2 e1 e2
          exact hna (by rw [← e2, ← e1, e])
        · rw [if_neg h2]; exact hI.fwd b hb
    · have : b = a := by simpa using hb
      subst this
      simp
  · intro b hb hne
    rw [G]
    rcases List.mem_append.1 hb with hb | hb
    · by_cases h1 : b.tgt = a.src ∧ b.src = a.tgt
      · exfalso
        exact hne ((hN b (hl b hb) a ha).2 h1.2 h1.1)
      · rw [if_neg h1]
        by_cases h2 : (b.tgt = a.tgt ∧ b.src = a.src) ∧ a.src ≠ a.tgt
        · rw [if_pos h2, (hN b (hl b hb) a ha).1 h2.1.2 h2.1.1]
        · rw [if_neg h2]; exact hI.bwd b hb hne
    · have : b = a := by simpa using hb
      subst this
      simp [hne]
  · intro u v c hc
    rw [G] at hc
    by_cases h1 : u = a.src ∧ v = a.tgt
    · rw [if_pos h1] at hc
      exact ⟨a, ha, Or.inl ⟨h1.1.symm, h1.2.symm, Option.some.inj hc⟩⟩
    · rw [if_neg h1] at hc
      by_cases h2 : (u = a.tgt ∧ v = a.src) ∧ a.src ≠ a.tgt
      · rw [if_pos h2] at hc
        exact ⟨a, ha, Or.inr ⟨h2.2, h2.1.1.symm, h2.1.2.symm, Option.some.inj hc⟩⟩
      · rw [if_neg h2] at hc
        obtain ⟨b, hb, h⟩ := hI.only u v c hc
        exact ⟨b, hl b hb, h⟩

theorem NoFeature.mono {l l' : List Arc} (h : NoFeature l') (hs : ∀ a ∈ l, a ∈ l') : NoFeature l :=
  fun a ha b hb => h a (hs a ha) b (hs b hb)

theorem foldl_pairStep_inv : ∀ (l2 l1 : List Arc) (t : CostT), PairInv t l1 → NoFeature (l1 ++ l2) →
    PairInv (l2.foldl pairStep t) (l1 ++ l2)
  | [], l1, t, hI, _ => by simpa using hI
  | a :: l2, l1, t, hI, hN => by
    have h1 : NoFeature (l1 ++ [a]) := hN.mono (fun b hb => by
      rcases List.mem_append.1 hb with h | h
      · exact List.mem_append_left _ h
      · have : b = a := by simpa using h
        subst this; simp)
    have := foldl_pairStep_inv l2 (l1 ++ [a]) (pairStep t a) (pairStep_inv hI h1)
      (by simpa [List.append_assoc] using hN)
    simpa [List.append_assoc] using this

theorem pairCosts_inv {arcs : List Arc} (h : NoFeature arcs) : PairInv (pairCosts arcs) arcs := by
  have h0 : PairInv [] [] :=
    ⟨(fun _ h => by cases h), (fun _ h => by cases h), (fun u v c h => by simp [CostT.get] at h)⟩
  have := foldl_pairStep_inv arcs [] [] h0 (by simpa using h)
  simpa [pairCosts] using this

end Solvor.Flow
