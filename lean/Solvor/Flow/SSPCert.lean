import Solvor.Flow.SSPRounds
/-!
Flow: the successive-shortest-paths model of `SSP.lean` certifies its answers: the verified checker accepts flow +
potentials of a `feasible` answer and the set of reached nodes of an `infeasible` one as an infeasibility cut.
-/
namespace Solvor.Flow
namespace Inst
variable (I : Inst)

def erc (p : Nat → Int) (e : Nat × Bool) : Int := I.ecost e + p (I.tail e) - p (I.head e)

/-- `p` are feasible potentials for the residual network of `x` -/
def Pot (x : List Int) (p : Nat → Int) : Prop := ∀ e, I.IsRes x e → 0 ≤ I.erc p e

theorem erc_fwd (p : Nat → Int) (i : Nat) : I.erc p (i, true) = I.rc p i := rfl

theorem erc_bwd (p : Nat → Int) (i : Nat) : I.erc p (i, false) = - I.rc p i := by
  show - (I.arc i).cost + p (I.arc i).tgt - p (I.arc i).src = - ((I.arc i).cost + p (I.arc i).src - p (I.arc i).tgt)
  omega

theorem pot_iff_slack (x : List Int) (p : Nat → Int) : I.Pot x p ↔ I.Slack (fl x) p := by
  constructor
  · intro h i hi
    refine ⟨fun hc => I.erc_fwd p i ▸ h (i, true) (I.isRes_fwd hi hc), fun hc => ?_⟩
    have := h (i, false) (I.isRes_bwd hi hc)
    rw [erc_bwd] at this; omega
  · rintro h ⟨i, fwd⟩ ⟨hi, hr⟩
    cases fwd
    · rw [erc_bwd]
      have := (h i hi).2 hr
      omega
    · rw [erc_fwd]; exact (h i hi).1 (Int.sub_pos.1 hr)

def Labelled (st : BF) (v : Nat) : Prop := (D st v).isSome = true

theorem labelled_relaxed {st : BF} (v : Nat) (y : Int) (e : Nat × Bool) {w : Nat} (hw : Labelled st w) :
    Labelled (relaxed st v y e) w := by
  unfold Labelled; rw [D_relaxed]; split
  · rfl
  · exact hw

theorem labelled_of_some {st : BF} {v : Nat} {d : Int} (h : D st v = some d) : Labelled st v := by
  unfold Labelled; rw [h]; rfl

theorem Labelled.some {st : BF} {v : Nat} (h : Labelled st v) : ∃ d, D st v = some d :=
  Option.isSome_iff_exists.1 h

def AllSome (st : BF) : Prop := st.dist.length = I.n ∧ ∀ v < I.n, Labelled st v

theorem allSome_rounds (x : List Int) (k : Nat) {st : BF} (h : I.AllSome st) : I.AllSome (I.rounds x k st) :=
  I.rounds_inv I.AllSome x (fun _ h => h) (fun st hs => I.sweep_inv I.AllSome x st hs
    (fun st' e du h' _ => ⟨by simp [relaxed, h'.1], fun w hw => labelled_relaxed _ _ _ (h'.2 w hw)⟩))
    k st h

theorem pot_of_quiet (hv : I.Valid) {x : List Int} {st : BF} (hall : I.AllSome st) (hq : I.Quiet x st) :
    I.Pot x (fun v => (D st v).getD 0) := by
  intro e he
  obtain ⟨dt, hdt⟩ := (hall.2 _ (I.tail_lt hv he.1)).some
  obtain ⟨dh, h1, h2⟩ := hq e he dt hdt
  unfold erc
  simp only [hdt, h1, Option.getD_some]
  omega

/-- the zero-initialised labels of `potentials` -/
def zeroInit : BF := ⟨List.replicate I.n (some 0), List.replicate I.n none, false⟩

theorem zeroInit_allSome : I.AllSome I.zeroInit :=
  ⟨by simp [zeroInit], fun v hv => by simp [Labelled, D, zeroInit, List.getD, hv]⟩

theorem potentials_eq (x : List Int) : I.potentials x =
    if (I.sweep x { I.rounds x I.n I.zeroInit with upd := false }).upd then none
    else some ((I.rounds x I.n I.zeroInit).dist.map fun o => o.getD 0) := rfl

theorem potentials_slack (hv : I.Valid) (x : List Int) {p : List Int} (h : I.potentials x = some p) :
    I.Slack (fl x) (fl p) := by
  rw [potentials_eq] at h
  split at h
  · cases h
  · rename_i hq
    obtain ⟨_, q⟩ := I.sweep_quiet hv x { I.rounds x I.n I.zeroInit with upd := false } (by simpa using hq)
    have hall : I.AllSome (I.rounds x I.n I.zeroInit) := I.allSome_rounds x _ I.zeroInit_allSome
    have := (I.pot_iff_slack x _).1 (I.pot_of_quiet hv hall q)
    have hp : fl p = fun v => (D (I.rounds x I.n I.zeroInit) v).getD 0 := by
      funext v
      simp only [Option.some.injEq] at h
      rw [← h]
      show ((I.rounds x I.n I.zeroInit).dist.map fun o => o.getD 0).getD v 0 = _
      simp only [D, List.getD, List.getElem?_map]
      cases (I.rounds x I.n I.zeroInit).dist[v]? <;> rfl
    rw [hp]; exact this

/-- `dv`, `du` are the labels of `v` and of the tail of `e` (`hd`, `tl`: head and tail of the arc), and going through `e`
is not dearer than `dv`.  An inequality: equality holds only once the state is `Quiet` (SSPConv, `loop_answers`). -/
structure Tight (lab : Nat → Option Int) (v : Nat) (e : Nat × Bool) (dv du : Int) : Prop where
  hd : lab v = some dv
  tl : lab (I.tail e) = some du
  le : du + I.ecost e ≤ dv

/-- `e` as parent arc of `v`: a residual arc into `v` along which the label does not increase -/
structure IsParent (x : List Int) (lab : Nat → Option Int) (v : Nat) (e : Nat × Bool) : Prop where
  res   : I.IsRes x e
  head  : I.head e = v
  tight : ∃ dv du, I.Tight lab v e dv du

/-- An invariant of the search state, not well-formedness of the input (that is `Inst.Valid`): what holds of labels and
parent pointers at every moment of the search from `s`, whatever the cycles. -/
structure WF (x : List Int) (s : Nat) (st : BF) : Prop where
  dlen : st.dist.length = I.n
  plen : st.par.length = I.n
  src  : Labelled st s
  par  : ∀ v e, st.par.getD v none = some e → I.IsParent x (D st) v e
  hasParent : ∀ v < I.n, Labelled st v → v = s ∨ (st.par.getD v none).isSome = true

variable {I} in
theorem WF.reset {x : List Int} {s : Nat} {st : BF} (h : I.WF x s st) : I.WF x s { st with upd := false } :=
  ⟨h.dlen, h.plen, h.src, h.par, h.hasParent⟩

theorem wf_relaxed {x : List Int} {s : Nat} {st : BF} (h : I.WF x s st) {e : Nat × Bool} (hv : I.head e < I.n)
    (he : I.IsRes x e) {du : Int} (hd : D st (I.tail e) = some du)
    (hi : improves (D st (I.head e)) (du + I.ecost e) = true) :
    I.WF x s (relaxed st (I.head e) (du + I.ecost e) e) := by
  have hvl : I.head e < st.dist.length := by rw [h.dlen]; exact hv
  have hvp : I.head e < st.par.length := by rw [h.plen]; exact hv
  have hlow : ∀ dvo, D st (I.head e) = some dvo → du + I.ecost e < dvo := fun _ => lt_of_improves hi
  have Dv : D (relaxed st (I.head e) (du + I.ecost e) e) (I.head e) = some (du + I.ecost e) := by
    rw [D_relaxed, if_pos ⟨rfl, hvl⟩]
  have Dw : ∀ w, w ≠ I.head e → D (relaxed st (I.head e) (du + I.ecost e) e) w = D st w := fun w hw => by
    rw [D_relaxed, if_neg (fun hc => hw hc.1)]
  refine ⟨by simp [relaxed, h.dlen], by simp [relaxed, h.plen], labelled_relaxed _ _ _ h.src, ?_, ?_⟩
  · intro w e' he'
    simp only [relaxed, getD_set] at he'
    split at he'
    · rename_i c
      cases he'
      rw [← c.1]
      refine ⟨he, rfl, du + I.ecost e, ?_⟩
      by_cases c2 : I.tail e = I.head e
      · -- a self-loop that improves its own node has negative cost
        have := hlow du (c2 ▸ hd)
        exact ⟨du + I.ecost e, Dv, c2 ▸ Dv, by omega⟩
      · exact ⟨du, Dv, (Dw _ c2).trans hd, Int.le_refl _⟩
    · rename_i c
      have cw : w ≠ I.head e := fun hw => c ⟨hw.symm, hvp⟩
      have hp := h.par w e' he'
      obtain ⟨dv', du', t⟩ := hp.tight
      refine ⟨hp.res, hp.head, dv', ?_⟩
      by_cases c2 : I.tail e' = I.head e
      · have := hlow du' (c2 ▸ t.tl)
        have := t.le
        exact ⟨du + I.ecost e, (Dw w cw).trans t.hd, c2 ▸ Dv, by omega⟩
      · exact ⟨du', (Dw w cw).trans t.hd, (Dw _ c2).trans t.tl, t.le⟩
  · intro w hw hs
    simp only [relaxed, getD_set]
    by_cases c : w = I.head e
    · right; rw [if_pos ⟨c.symm, hvp⟩]; rfl
    · rw [if_neg (fun hh => c hh.1.symm)]
      obtain ⟨d, hd'⟩ := hs.some
      exact h.hasParent w hw (labelled_of_some ((Dw w c).symm.trans hd'))

theorem wf_rounds {x : List Int} {s : Nat} (k : Nat) {st : BF} (h : I.WF x s st) :
    I.WF x s (I.rounds x k st) :=
  I.rounds_inv (I.WF x s) x (fun _ hs => hs.reset)
    (fun st hs => I.sweep_inv (I.WF x s) x st hs (fun _ _ _ h' r => I.wf_relaxed h' r.head_lt r.res r.dist r.imp))
    k st h

theorem wf_init (x : List Int) {s : Nat} (hs : s < I.n) : I.WF x s (I.initBF s) := by
  unfold initBF
  refine ⟨by simp, by simp, ?_, ?_, ?_⟩
  · unfold Labelled D; rw [getD_set]; simp [hs]
  · intro v e he
    by_cases hv : v < I.n <;> simp [List.getD, hv] at he
  · intro v hv h
    unfold Labelled D at h
    rw [getD_set] at h
    by_cases c : v = s
    · exact Or.inl c
    · rw [if_neg (fun hh => c hh.1.symm)] at h
      simp [List.getD, hv] at h

theorem wf_search (x : List Int) {s : Nat} (hs : s < I.n) (k : Nat) : I.WF x s (I.rounds x k (I.initBF s)) :=
  I.wf_rounds k (I.wf_init x hs)

/-- `p` is a chain of parent arcs leading from `a` to `b` -/
def PChain (par : List (Option (Nat × Bool))) : Nat → List (Nat × Bool) → Nat → Prop
  | a, [], b => a = b
  | a, e :: r, b => I.tail e = a ∧ par.getD (I.head e) none = some e ∧ PChain par (I.head e) r b

/-- following the parents from `node` ends after exactly `k` steps -/
def Steps (par : List (Option (Nat × Bool))) : Nat → Nat → Prop
  | node, 0 => par.getD node none = none
  | node, k + 1 => ∃ e, par.getD node none = some e ∧ Steps par (I.tail e) k

theorem steps_unique (par : List (Option (Nat × Bool))) :
    ∀ (k k' node : Nat), I.Steps par node k → I.Steps par node k' → k = k'
  | 0, 0, _, _, _ => rfl
  | 0, k' + 1, _, h, ⟨e, he, _⟩ => by
    have h0 : par.getD _ none = none := h
    rw [h0] at he; cases he
  | k + 1, 0, _, ⟨e, he, _⟩, h => by
    have h0 : par.getD _ none = none := h
    rw [h0] at he; cases he
  | k + 1, k' + 1, _, ⟨e, he, hs⟩, ⟨e', he', hs'⟩ => by
    rw [he] at he'; cases he'
    rw [steps_unique par k k' _ hs hs']

theorem walk_spec (par : List (Option (Nat × Bool))) (t : Nat)
    (hpar : ∀ v e, par.getD v none = some e → I.head e = v)
    (fuel node : Nat) (acc path : List (Nat × Bool)) : I.PChain par node acc t →
      I.walk par fuel node acc = some path →
      ∃ root, I.PChain par root path t ∧ I.Steps par root 0 := by
  -- case1: fuel spent; case2: `node` has no parent, the walk ends; case3: one step to the parent
  fun_induction walk I par fuel node acc with
  | case1 => nofun
  | case2 fuel node acc hp => exact fun hc h => ⟨node, Option.some.inj h ▸ hc, hp⟩
  | case3 fuel node acc i fwd hp ih =>
    intro hc h
    have hh := hpar node _ hp
    exact ih ⟨rfl, by rw [hh]; exact hp, by rw [hh]; exact hc⟩ h

theorem pchain_steps (par : List (Option (Nat × Bool))) (t : Nat) :
    ∀ (p : List (Nat × Bool)) (a k : Nat), I.PChain par a p t → I.Steps par a k →
      ∀ w ∈ p.map I.head, ∃ j, 1 ≤ j ∧ I.Steps par w (k + j)
  | [], _, _, _, _ => fun _ h => by cases h
  | e :: r, a, k, hc, hs => by
    obtain ⟨h1, h2, h3⟩ := hc
    have hs' : I.Steps par (I.head e) (k + 1) := ⟨e, h2, by rw [h1]; exact hs⟩
    intro w hw
    simp only [List.map_cons, List.mem_cons] at hw
    rcases hw with rfl | hw
    · exact ⟨1, Nat.le_refl _, hs'⟩
    · obtain ⟨j, hj, hj'⟩ := pchain_steps par t r _ _ h3 hs' w hw
      exact ⟨1 + j, by omega, by rw [← Nat.add_assoc]; exact hj'⟩

theorem pchain_nodup (par : List (Option (Nat × Bool))) (t : Nat) :
    ∀ (p : List (Nat × Bool)) (a k : Nat), I.PChain par a p t → I.Steps par a k →
      (a :: p.map I.head).Nodup
  | [], _, _, _, _ => by simp
  | e :: r, a, k, hc, hs => by
    have hall := I.pchain_steps par t (e :: r) a k hc hs
    obtain ⟨h1, h2, h3⟩ := hc
    have hs' : I.Steps par (I.head e) (k + 1) := ⟨e, h2, by rw [h1]; exact hs⟩
    rw [List.nodup_cons]
    refine ⟨fun hmem => ?_, pchain_nodup par t r _ _ h3 hs'⟩
    obtain ⟨j, hj, hj'⟩ := hall a hmem
    have := I.steps_unique par _ _ a hs hj'
    omega

def bal (x : List Int) (v : Nat) : Int := I.outF (fl x) v - I.inF (fl x) v

theorem fl_set (x : List Int) (i j : Nat) (y : Int) (hi : i < x.length) :
    fl (x.set i y) j = if j = i then y else fl x j := by
  unfold fl
  rw [getD_set]
  by_cases h : j = i
  · simp [h, hi]
  · simp [h, Ne.symm h]

theorem lsum_sel_set (k : Nat → Nat) {x : List Int} {i : Nat} (hi : i < I.m) (hx : x.length = I.m) (y : Int)
    (v : Nat) :
    lsum (List.range I.m) (fun j => if k j = v then fl (x.set i y) j else 0) =
      lsum (List.range I.m) (fun j => if k j = v then fl x j else 0) + (if v = k i then y - fl x i else 0) := by
  have e : ∀ j, (if k j = v then fl (x.set i y) j else 0) =
      (if k j = v then fl x j else 0) + (if j = i then (if v = k i then y - fl x i else 0) else 0) := by
    intro j
    rw [fl_set x i j y (by rw [hx]; exact hi)]
    by_cases h : j = i
    · subst h
      by_cases c : k j = v
      · rw [if_pos c, if_pos c, if_pos rfl, if_pos rfl, if_pos c.symm]; omega
      · rw [if_neg c, if_neg c, if_pos rfl, if_neg (fun h => c h.symm)]; rfl
    · rw [if_neg h, if_neg h]; omega
  rw [lsum_congr (fun j _ => e j), lsum_add, lsum_ite_eq List.nodup_range (List.mem_range.2 hi)]

/-- the value `push` writes for the residual arc `e` -/
def pushed (x : List Int) (d : Int) (e : Nat × Bool) : Int := if e.2 then fl x e.1 + d else fl x e.1 - d

theorem bal_set {x : List Int} {i : Nat} (hi : i < I.m) (hx : x.length = I.m) (y : Int) (v : Nat) :
    I.bal (x.set i y) v = I.bal x v + (if v = (I.arc i).src then y - fl x i else 0) -
      (if v = (I.arc i).tgt then y - fl x i else 0) := by
  unfold bal outF inF
  rw [I.lsum_sel_set (fun j => (I.arc j).src) hi hx, I.lsum_sel_set (fun j => (I.arc j).tgt) hi hx]
  omega

theorem bal_step {x : List Int} {e : Nat × Bool} (hi : e.1 < I.m) (hx : x.length = I.m) (d : Int) (v : Nat) :
    I.bal (x.set e.1 (pushed x d e)) v =
      I.bal x v + (if v = I.tail e then d else 0) - (if v = I.head e then d else 0) := by
  rw [I.bal_set hi hx]
  obtain ⟨i, fwd⟩ := e
  cases fwd
  · simp only [pushed, tail, head, Bool.false_eq_true, if_false, sub_sub_cancel_left]
    split <;> split <;> omega
  · simp only [pushed, tail, head, if_true, add_sub_cancel_left]

theorem pchain_link (par : List (Option (Nat × Bool))) :
    ∀ (p : List (Nat × Bool)) (a b : Nat), I.PChain par a p b → I.Link a p b
  | [], _, _, h => h
  | _ :: r, _, _, h => ⟨h.1, pchain_link par r _ _ h.2.2⟩

theorem link_nodes : ∀ (p : List (Nat × Bool)) (a b : Nat), I.Link a p b →
    ∀ e ∈ p, I.tail e ∈ a :: p.map I.head ∧ I.head e ∈ p.map I.head
  | [], _, _, _ => fun _ h => by cases h
  | e0 :: r, a, b, h => by
    intro e he
    rcases List.mem_cons.1 he with rfl | he
    · exact ⟨h.1 ▸ List.mem_cons_self, List.mem_cons_self⟩
    · obtain ⟨q1, q2⟩ := link_nodes r _ _ h.2 e he
      exact ⟨List.mem_cons_of_mem _ q1, List.mem_cons_of_mem _ q2⟩

theorem push_cons (x : List Int) (d : Int) (e : Nat × Bool) (r : List (Nat × Bool)) :
    push x d (e :: r) = push (x.set e.1 (pushed x d e)) d r := by
  rfl

def Bounds (x : List Int) : Prop := ∀ j < I.m, 0 ≤ fl x j ∧ fl x j ≤ (I.arc j).cap

theorem push_spec {d : Int} (hd : 0 ≤ d) :
    ∀ (p : List (Nat × Bool)) (x : List Int) (a b : Nat), x.length = I.m → I.Bounds x → I.Link a p b →
      (a :: p.map I.head).Nodup → (∀ e ∈ p, e.1 < I.m ∧ d ≤ I.resOf x e) →
      (push x d p).length = I.m ∧ I.Bounds (push x d p) ∧
      ∀ v, I.bal (push x d p) v = I.bal x v + (if v = a then d else 0) - (if v = b then d else 0)
  | [], x, a, b, hx, hb, hl, _, _ => by
    have : a = b := hl
    subst this
    exact ⟨hx, hb, fun v => by simp [push]⟩
  | e :: r, x, a, b, hx, hb, hl, hnd, hres => by
    rw [push_cons]
    obtain ⟨he1, he2⟩ := hres e List.mem_cons_self
    have hx' : (x.set e.1 (pushed x d e)).length = I.m := by simp [hx]
    have hil : e.1 < x.length := by rw [hx]; exact he1
    -- later arcs use other arc indices
    have hdiff : ∀ e' ∈ r, e'.1 ≠ e.1 := by
      intro e' he' heq
      obtain ⟨q1, q2⟩ := I.link_nodes r _ _ hl.2 e' he'
      have hnd' := List.nodup_cons.1 hnd
      have ha : a ∉ (e :: r).map I.head := hnd'.1
      rw [← hl.1] at ha
      rcases same_index heq with rfl | rfl
      · exact ha q1
      · exact ha (List.mem_cons_of_mem _ (I.head_rev e ▸ q2))
    have hb' : I.Bounds (x.set e.1 (pushed x d e)) := by
      intro j hj
      rw [fl_set x e.1 j _ hil]
      by_cases c : j = e.1
      · rw [if_pos c]
        subst c
        obtain ⟨i, fwd⟩ := e
        have hbi : 0 ≤ fl x i ∧ fl x i ≤ (I.arc i).cap := hb i he1
        cases fwd <;> simp only [pushed, resOf, if_true, Bool.false_eq_true, if_false] at he2 ⊢ <;> omega
      · rw [if_neg c]; exact hb j hj
    have hres' : ∀ e' ∈ r, e'.1 < I.m ∧ d ≤ I.resOf (x.set e.1 (pushed x d e)) e' := by
      intro e' he'
      obtain ⟨r1, r2⟩ := hres e' (List.mem_cons_of_mem _ he')
      refine ⟨r1, ?_⟩
      rw [I.resOf_congr (x := x) (by rw [fl_set x e.1 e'.1 _ hil, if_neg (hdiff e' he')])]
      exact r2
    have hnd' : (I.head e :: r.map I.head).Nodup := (List.nodup_cons.1 hnd).2
    obtain ⟨o1, o2, o3⟩ := push_spec hd r _ _ b hx' hb' hl.2 hnd' hres'
    refine ⟨o1, o2, fun v => ?_⟩
    rw [o3 v, I.bal_step he1 hx d v, hl.1]
    omega

/-- the labelled nodes are closed under residual arcs -/
def Closed (x : List Int) (st : BF) : Prop := ∀ e, I.IsRes x e → Labelled st (I.tail e) → Labelled st (I.head e)

theorem rounds_closed (hv : I.Valid) (x : List Int) (st : BF) (hl : st.dist.length = I.n) {k : Nat}
    (hk : I.n - 1 ≤ k) : I.Closed x (I.rounds x k st) := fun _ hr ht =>
  let ⟨_, hdu⟩ := ht.some
  let ⟨_, ⟨_, h2, _⟩, _⟩ := I.rounds_reach hv x st hl hk hr hdu
  labelled_of_some h2

/-- loop invariant: `x` routes `total` units from `s` to `t` within the capacities -/
structure LInv (s t : Nat) (x : List Int) (total : Int) : Prop where
  len : x.length = I.m
  bnd : I.Bounds x
  bal : ∀ v < I.n, I.bal x v = (if v = s then total else 0) - (if v = t then total else 0)

/-- the cut the search answers `infeasible` with; `chkInfeas` accepts it (`chkInfeas_of_out`) -/
structure OutCut (s t : Nat) (R : List Nat) : Prop where
  src : R.contains s = true
  snk : R.contains t = false
  lt  : I.capOutOf R < I.supplyOf R

/-- what the search hands to `certify`: flow and potentials that `chkMinCost` accepts, or such a cut -/
def Cert (s t : Nat) (o : SOut) : Prop :=
  (o.status = .feasible → I.chkMinCost o.x o.pot o.cost = true) ∧
  (o.status = .infeasible → I.OutCut s t o.reach)

theorem pchain_mem (par : List (Option (Nat × Bool))) :
    ∀ (p : List (Nat × Bool)) (a b : Nat), I.PChain par a p b → ∀ e ∈ p, par.getD (I.head e) none = some e
  | [], _, _, _ => fun _ h => by cases h
  | e0 :: r, _, _, h => by
    intro e he
    rcases List.mem_cons.1 he with rfl | he
    · exact h.2.1
    · exact pchain_mem par r _ _ h.2.2 e he

theorem foldl_min_spec (g : Nat × Bool → Int) : ∀ (l : List (Nat × Bool)) (a : Int),
    l.foldl (fun acc e => min acc (g e)) a ≤ a ∧ (∀ e ∈ l, l.foldl (fun acc e => min acc (g e)) a ≤ g e) ∧
    (0 < a → (∀ e ∈ l, 0 < g e) → 0 < l.foldl (fun acc e => min acc (g e)) a)
  | [], a => ⟨Int.le_refl _, nofun, fun ha _ => ha⟩
  | e0 :: r, a => by
    simp only [List.foldl_cons]
    obtain ⟨h1, h2, h3⟩ := foldl_min_spec g r (min a (g e0))
    refine ⟨Int.le_trans h1 (Int.min_le_left _ _), fun e he => ?_, fun ha hg => ?_⟩
    · rcases List.mem_cons.1 he with rfl | he
      · exact Int.le_trans h1 (Int.min_le_right _ _)
      · exact h2 e he
    · exact h3 (Int.lt_min.2 ⟨ha, hg e0 List.mem_cons_self⟩) fun e he => hg e (List.mem_cons_of_mem _ he)

theorem mem_finite (d : List (Option Int)) (v : Nat) :
    v ∈ finite d ↔ v < d.length ∧ (d.getD v none).isSome = true := by
  simp [finite]

theorem feasible_cert (hv : I.Valid) {s t : Nat} {demand : Int} (hsup : I.STsup s t demand) {x p : List Int}
    (hL : I.LInv s t x demand) (hp : I.potentials x = some p) :
    I.chkMinCost x p (I.costF (fl x)) = true :=
  (I.chkMinCost_iff x p _).2 ⟨⟨hL.len, fun i hi => (hL.bnd i hi).1, fun i hi => (hL.bnd i hi).2,
    fun v hvn => (hL.bal v hvn).trans (hsup v hvn).symm⟩, I.potentials_slack hv x hp, rfl⟩

theorem infeasible_cut (hv : I.Valid) {s t : Nat} (hs : s < I.n) (ht : t < I.n) {demand total : Int}
    (hsup : I.STsup s t demand) {x : List Int} (hL : I.LInv s t x total) (hlt : total < demand)
    (hnone : (I.rounds x (I.n - 1) (I.initBF s)).dist.getD t none = none) :
    I.OutCut s t (finite (I.rounds x (I.n - 1) (I.initBF s)).dist) := by
  generalize hst : I.rounds x (I.n - 1) (I.initBF s) = st at hnone
  have hwf : I.WF x s st := by rw [← hst]; exact I.wf_search x hs _
  have hcl : I.Closed x st := by rw [← hst]; exact I.rounds_closed hv x _ (by simp [initBF]) (Nat.le_refl _)
  have hR : ∀ v, v < I.n → ((finite st.dist).contains v = true ↔ Labelled st v) := by
    intro v hvn
    rw [List.contains_iff_mem, mem_finite, hwf.dlen]
    exact ⟨fun h => h.2, fun h => ⟨hvn, h⟩⟩
  have hsR : (finite st.dist).contains s = true := (hR s hs).2 hwf.src
  have htR : (finite st.dist).contains t = false := by
    cases h : (finite st.dist).contains t
    · rfl
    · obtain ⟨d, hd⟩ := ((hR t ht).1 h).some
      cases hnone.symm.trans (show st.dist.getD t none = some d from hd)
  -- net supply of a set that holds s and not t, when `q` units are asked from `s` to `t`
  have supplyVal : ∀ (q : Int) (sup : Nat → Int),
      (∀ v < I.n, sup v = (if v = s then q else 0) - (if v = t then q else 0)) →
      lsum ((List.range I.n).filter fun v => (finite st.dist).contains v) sup = q := fun q sup hs' =>
    (lsum_filter_st hs ht _ hs').trans (by rw [hsR, htR]; exact Int.sub_zero q)
  have hsupply : I.supplyOf (finite st.dist) = demand := supplyVal demand I.sup hsup
  -- across the closed set: leaving arcs are full, entering arcs are empty
  have hcap : I.capOutOf (finite st.dist) = total := by
    rw [← supplyVal total (fun v => I.outF (fl x) v - I.inF (fl x) v) hL.bal, I.cross_eq hv]
    unfold capOutOf
    apply lsum_congr
    intro i hi
    have him : i < I.m := List.mem_range.1 hi
    obtain ⟨hsrc, htgt⟩ := hv i him
    have hb := hL.bnd i him
    cases h1 : (finite st.dist).contains (I.arc i).src <;> cases h2 : (finite st.dist).contains (I.arc i).tgt
    · simp
    · -- entering arc: empty, otherwise its backward residual arc would leave the set
      have hx0 : fl x i = 0 := by
        by_contra hne
        have hpos : 0 < fl x i := by omega
        have := hcl (i, false) (I.isRes_bwd him hpos) (by
          show Labelled st (I.arc i).tgt
          exact (hR _ htgt).1 h2)
        have : Labelled st (I.arc i).src := this
        rw [← hR _ hsrc, h1] at this; cases this
      simp [hx0]
    · -- leaving arc: full
      have hxc : fl x i = (I.arc i).cap := by
        by_contra hne
        have hlt' : fl x i < (I.arc i).cap := by omega
        have := hcl (i, true) (I.isRes_fwd him hlt') (by
          show Labelled st (I.arc i).src
          exact (hR _ hsrc).1 h1)
        have : Labelled st (I.arc i).tgt := this
        rw [← hR _ htgt, h2] at this; cases this
      simp [hxc]
    · simp
  exact ⟨hsR, htR, by rw [hcap, hsupply]; exact hlt⟩

theorem aug_step (hv : I.Valid) {s t : Nat} (ht : t < I.n) {x : List Int} {total : Int} (hL : I.LInv s t x total) {st : BF}
    (hwf : I.WF x s st) (hd : Labelled st t) {path : List (Nat × Bool)}
    (hw : I.walk st.par (I.n + 1) t [] = some path) :
    (∀ e ∈ path, st.par.getD (I.head e) none = some e ∧ I.IsRes x e) ∧
    ∀ d, 0 ≤ d → (∀ e ∈ path, d ≤ I.resOf x e) → I.LInv s t (push x d path) (total + d) := by
  obtain ⟨root, hpc, hroot⟩ := I.walk_spec st.par t
    (fun v e he => (hwf.par v e he).head) (I.n + 1) t [] path rfl hw
  have hmem := I.pchain_mem st.par path root t hpc
  have harc : ∀ e ∈ path, I.IsRes x e ∧ I.tail e < I.n ∧ Labelled st (I.tail e) := fun e he =>
    have hp := hwf.par _ e (hmem e he)
    have ⟨_, _, t⟩ := hp.tight
    ⟨hp.res, I.tail_lt hv hp.res.1, labelled_of_some t.tl⟩
  -- the root is a finite node without parent: the source
  have hfin : root < I.n ∧ Labelled st root := by
    cases path with
    | nil => exact (show root = t from hpc) ▸ ⟨ht, hd⟩
    | cons e r => exact hpc.1 ▸ (harc e List.mem_cons_self).2
  have hrs : root = s := (hwf.hasParent root hfin.1 hfin.2).resolve_right (fun h => by
    rw [show st.par.getD root none = none from hroot] at h; cases h)
  subst hrs
  refine ⟨fun e he => ⟨hmem e he, (harc e he).1⟩, fun d hd0 hres => ?_⟩
  obtain ⟨o1, o2, o3⟩ := I.push_spec hd0 path x root t hL.len hL.bnd (I.pchain_link _ _ _ _ hpc)
    (I.pchain_nodup st.par t path root 0 hpc hroot) (fun e he => ⟨(harc e he).1.1, hres e he⟩)
  refine ⟨o1, o2, fun v hvn => ?_⟩
  rw [o3 v, hL.bal v hvn]
  split <;> split <;> omega

theorem loop_cert (hv : I.Valid) {s t : Nat} (hs : s < I.n) (ht : t < I.n) {demand : Int}
    (hsup : I.STsup s t demand) (fuel : Nat) (x : List Int) (total : Int) (k c : Nat) :
    I.LInv s t x total → total ≤ demand → I.Cert s t (I.sspLoop s t demand fuel x total k c) := by
  -- the exits of `sspLoop`: case1 fuel spent; case2 `t` unlabelled (infeasible); case3 the parents cycle; case4 bottleneck
  -- `≤ 0`; case5 augment and go on; case6 demand met, no potentials; case7 demand met, potentials found (feasible)
  fun_induction sspLoop I s t demand fuel x total k c with
  | case1 | case3 | case4 | case6 => exact fun _ _ => ⟨nofun, nofun⟩
  | case2 fuel x total k c hlt st hd =>
    exact fun hL _ => ⟨nofun, fun _ => I.infeasible_cut hv hs ht hsup hL hlt hd⟩
  | case5 fuel x total k c hlt st dt hd path hw d hpos ih =>
    intro hL hle
    have hmin := foldl_min_spec (I.resOf x) path (demand - total)
    obtain ⟨_, hstep⟩ := I.aug_step hv ht hL (I.wf_search x hs _) (labelled_of_some hd) hw
    exact ih (hstep _ (Int.le_of_lt (Int.not_le.1 hpos)) hmin.2.1) (by have := hmin.1; omega)
  | case7 fuel x total k c hlt p hp =>
    intro hL hle
    obtain rfl : total = demand := by omega
    exact ⟨fun _ => I.feasible_cert hv hsup hL hp, nofun⟩

theorem fl_replicate_zero (n j : Nat) : fl (List.replicate n 0) j = 0 := getD_replicate_self n j 0

theorem linv_zero (hcap : ∀ i < I.m, 0 ≤ (I.arc i).cap) (s t : Nat) : I.LInv s t (List.replicate I.m 0) 0 := by
  refine ⟨by simp, fun j hj => ?_, fun v _ => ?_⟩
  · rw [fl_replicate_zero]
    exact ⟨Int.le_refl _, hcap j hj⟩
  · unfold bal outF inF
    rw [lsum_eq_zero (fun i _ => by simp [fl_replicate_zero]), lsum_eq_zero (fun i _ => by simp [fl_replicate_zero])]
    simp

/-- core of `ssp_certifies_partial`: whatever the search answers, the verified checker accepts it -/
theorem ssp_cert (hv : I.Valid) (hcap : ∀ i < I.m, 0 ≤ (I.arc i).cap) {s t : Nat} (hs : s < I.n)
    (ht : t < I.n) {demand : Int} (hd : 0 ≤ demand) (hsup : I.STsup s t demand) :
    I.Cert s t (I.ssp s t demand) :=
  I.loop_cert hv hs ht hsup _ _ 0 0 0 (I.linv_zero hcap s t) hd

theorem certify_eq (o : SOut) (h1 : o.status = .feasible → I.chkMinCost o.x o.pot o.cost = true)
    (h2 : o.status = .infeasible → I.chkInfeas o.reach = true) : I.certify o = o := by
  unfold certify
  cases hs : o.status with
  | feasible => simp only; rw [if_pos (h1 hs)]
  | infeasible => simp only; rw [if_pos (h2 hs)]
  | negcycle => rfl

end Inst
end Solvor.Flow
