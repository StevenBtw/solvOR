import Solvor.Flow.Basic
import Solvor.Common.ListLemmas
/-! Flow: lemmas about `lsum`, the lookup tables (`FlowT`) and `dedup` (core Lean only).  `Common/ListLemmas` is imported
for the modules that build on this one; no lemma of this file uses it. -/
namespace Solvor.Flow

@[simp] theorem lsum_nil (g : Nat → Int) : lsum [] g = 0 := rfl
@[simp] theorem lsum_cons (x : Nat) (xs : List Nat) (g : Nat → Int) :
    lsum (x :: xs) g = g x + lsum xs g := rfl

theorem lsum_congr {l : List Nat} {g h : Nat → Int} (H : ∀ x ∈ l, g x = h x) :
    lsum l g = lsum l h := by
  induction l with
  | nil => rfl
  | cons x xs ih =>
    simp only [lsum_cons]
    rw [H x List.mem_cons_self, ih (fun y hy => H y (List.mem_cons_of_mem _ hy))]

theorem lsum_zero (l : List Nat) : lsum l (fun _ => 0) = 0 := by
  induction l with
  | nil => rfl
  | cons x xs ih => simp [ih]

theorem lsum_eq_zero {l : List Nat} {g : Nat → Int} (H : ∀ x ∈ l, g x = 0) : lsum l g = 0 := by
  rw [lsum_congr H]; exact lsum_zero l

theorem lsum_add (l : List Nat) (g h : Nat → Int) :
    lsum l (fun x => g x + h x) = lsum l g + lsum l h := by
  induction l with
  | nil => rfl
  | cons x xs ih => simp only [lsum_cons, ih]; omega

theorem lsum_sub (l : List Nat) (g h : Nat → Int) :
    lsum l (fun x => g x - h x) = lsum l g - lsum l h := by
  induction l with
  | nil => rfl
  | cons x xs ih => simp only [lsum_cons, ih]; omega

theorem lsum_neg (l : List Nat) (g : Nat → Int) :
    lsum l (fun x => - g x) = - lsum l g := by
  have := lsum_sub l (fun _ => 0) g
  simp only [Int.zero_sub, lsum_zero] at this
  exact this

theorem lsum_le {l : List Nat} {g h : Nat → Int} (H : ∀ x ∈ l, g x ≤ h x) :
    lsum l g ≤ lsum l h := by
  induction l with
  | nil => simp
  | cons x xs ih =>
    simp only [lsum_cons]
    have h1 := H x List.mem_cons_self
    have h2 := ih (fun y hy => H y (List.mem_cons_of_mem _ hy))
    omega

theorem lsum_nonneg {l : List Nat} {g : Nat → Int} (H : ∀ x ∈ l, 0 ≤ g x) : 0 ≤ lsum l g := by
  have := lsum_le (l := l) (g := fun _ => 0) (h := g) H
  rw [lsum_zero] at this; exact this

theorem lsum_append (l₁ l₂ : List Nat) (g : Nat → Int) :
    lsum (l₁ ++ l₂) g = lsum l₁ g + lsum l₂ g := by
  induction l₁ with
  | nil => simp
  | cons x xs ih => simp only [List.cons_append, lsum_cons, ih]; omega

theorem lsum_comm (l₁ l₂ : List Nat) (g : Nat → Nat → Int) :
    lsum l₁ (fun x => lsum l₂ (fun y => g x y)) = lsum l₂ (fun y => lsum l₁ (fun x => g x y)) := by
  induction l₁ with
  | nil => simp [lsum_zero]
  | cons x xs ih =>
    simp only [lsum_cons, ih]
    rw [← lsum_add]

theorem lsum_single {l : List Nat} (hnd : l.Nodup) {a : Nat} (ha : a ∈ l) {g : Nat → Int}
    (H : ∀ x ∈ l, x ≠ a → g x = 0) : lsum l g = g a := by
  induction l with
  | nil => cases ha
  | cons x xs ih =>
    simp only [lsum_cons]
    rw [List.nodup_cons] at hnd
    by_cases hxa : x = a
    · subst hxa
      have : lsum xs g = 0 := lsum_eq_zero (fun y hy => H y (List.mem_cons_of_mem _ hy)
        (fun h => hnd.1 (h ▸ hy)))
      omega
    · have ha' : a ∈ xs := by
        rcases List.mem_cons.1 ha with h | h
        · exact absurd h.symm hxa
        · exact h
      rw [ih hnd.2 ha' (fun y hy => H y (List.mem_cons_of_mem _ hy)), H x List.mem_cons_self hxa]
      omega

theorem lsum_ite_eq {l : List Nat} (hnd : l.Nodup) {a : Nat} (ha : a ∈ l) (d : Int) :
    lsum l (fun x => if x = a then d else 0) = d := by
  rw [lsum_single hnd ha (g := fun x => if x = a then d else 0)]
  · simp
  · intro x _ hx; simp [hx]

theorem lsum_ite_false {l : List Nat} {p : Nat → Prop} [DecidablePred p] (g : Nat → Int)
    (h : ∀ x ∈ l, ¬ p x) : lsum l (fun x => if p x then g x else 0) = 0 :=
  lsum_eq_zero (fun x hx => by rw [if_neg (h x hx)])

theorem lsum_ite_eq_of_not_mem {l : List Nat} {a : Nat} (ha : a ∉ l) (d : Int) :
    lsum l (fun x => if x = a then d else 0) = 0 :=
  lsum_ite_false _ fun _ hx h => ha (h ▸ hx)

/-- a condition that does not depend on the index moves out of the sum (the decidability instance may still
mention the index, as it does when the condition arose by reducing a term that did) -/
theorem lsum_ite_const (c : Prop) [Decidable c] {inst : Nat → Decidable c} (l : List Nat) (g : Nat → Int) :
    lsum l (fun x => @ite Int c (inst x) (g x) 0) = if c then lsum l g else 0 := by
  by_cases h : c
  · rw [if_pos h]; exact lsum_congr (fun x _ => @if_pos _ (inst x) h _ _ _)
  · rw [if_neg h]; exact lsum_eq_zero (fun x _ => @if_neg _ (inst x) h _ _ _)

theorem lsum_ite_shift (c N v : Nat) (g : Nat → Int) :
    lsum (List.range N) (fun x => if c + x = v then g x else 0) =
      if c ≤ v ∧ v < c + N then g (v - c) else 0 := by
  split
  · rw [lsum_single List.nodup_range (a := v - c) (List.mem_range.2 (by omega))]
    · rw [if_pos (by omega)]
    · intro x _ hx; rw [if_neg (by omega)]
  · exact lsum_ite_false _ (fun x hx => by have := List.mem_range.1 hx; omega)

theorem lsum_ite_range (N v : Nat) (g : Nat → Int) :
    lsum (List.range N) (fun x => if x = v then g x else 0) = if v < N then g v else 0 := by
  split
  · rename_i h
    rw [lsum_single List.nodup_range (a := v) (List.mem_range.2 h)]
    · rw [if_pos rfl]
    · intro x _ hx; rw [if_neg hx]
  · exact lsum_ite_false _ (fun x hx => by have := List.mem_range.1 hx; omega)

theorem lsum_mul_left (l : List Nat) (c : Int) (g : Nat → Int) :
    c * lsum l g = lsum l (fun x => c * g x) := by
  induction l with
  | nil => simp
  | cons x xs ih => simp only [lsum_cons, ← ih, Int.mul_add]

theorem lsum_ite_eq' {l : List Nat} (hnd : l.Nodup) (a : Nat) (d : Nat → Int) :
    lsum l (fun v => if a = v then d v else 0) = if a ∈ l then d a else 0 := by
  by_cases ha : a ∈ l
  · rw [if_pos ha, lsum_single hnd ha (g := fun v => if a = v then d v else 0)]
    · simp
    · intro x _ hx
      have : ¬ (a = x) := fun h => hx h.symm
      simp [this]
  · rw [if_neg ha]
    exact lsum_ite_false _ fun _ hx h => ha (h ▸ hx)

theorem lsum_filter (l : List Nat) (q : Nat → Bool) (g : Nat → Int) :
    lsum (l.filter q) g = lsum l (fun u => if q u then g u else 0) := by
  induction l with
  | nil => rfl
  | cons x xs ih =>
    cases hq : q x
    · simp [ih, hq]
    · simp [ih, hq]

/-- for `g` the supplies of an s-t instance: the supply of the node set `q` -/
theorem lsum_filter_st {n s t : Nat} (hs : s < n) (ht : t < n) (q : Nat → Bool) {g : Nat → Int} {D : Int}
    (hg : ∀ v < n, g v = (if v = s then D else 0) - (if v = t then D else 0)) :
    lsum ((List.range n).filter q) g = (if q s then D else 0) - (if q t then D else 0) := by
  have one : ∀ a < n, lsum ((List.range n).filter q) (fun v => if v = a then D else 0) = if q a then D else 0 := by
    intro a ha
    by_cases hq : q a = true
    · rw [if_pos hq]
      exact lsum_ite_eq (List.nodup_range.filter _) (List.mem_filter.2 ⟨List.mem_range.2 ha, hq⟩) D
    · rw [if_neg hq]
      exact lsum_ite_eq_of_not_mem (fun h => hq (List.mem_filter.1 h).2) D
  rw [lsum_congr (fun v hv => hg v (List.mem_range.1 (List.mem_filter.1 hv).1)), lsum_sub, one s hs, one t ht]

theorem lsum_split_bool (l : List Nat) (q : Nat → Bool) (g : Nat → Int) :
    lsum l g = lsum l (fun u => if q u = true then g u else 0) + lsum l (fun u => if q u = false then g u else 0) := by
  rw [← lsum_add]
  apply lsum_congr
  intro u _
  cases q u <;> simp

theorem lsum_filter_split (l : List Nat) (p : Nat → Bool) (g : Nat → Int) :
    lsum l g = lsum (l.filter p) g + lsum (l.filter fun x => !p x) g := by
  rw [lsum_filter, lsum_filter, lsum_split_bool l p g]
  congr 1
  exact lsum_congr fun u _ => by cases p u <;> rfl

theorem lsum_map (l : List Nat) (f : Nat → Nat) (g : Nat → Int) :
    lsum (l.map f) g = lsum l (fun x => g (f x)) := by
  induction l with
  | nil => rfl
  | cons x xs ih => simp [ih]

theorem lsum_range_succ (n : Nat) (g : Nat → Int) :
    lsum (List.range (n + 1)) g = lsum (List.range n) g + g n := by
  rw [List.range_succ, lsum_append]; simp

theorem term_le_lsum {l : List Nat} {g : Nat → Int} (hg : ∀ y ∈ l, 0 ≤ g y) {a : Nat} (ha : a ∈ l) :
    g a ≤ lsum l g := by
  obtain ⟨s, t, rfl⟩ := List.append_of_mem ha
  have h1 := lsum_nonneg (l := s) (g := g) fun y hy => hg y (List.mem_append_left _ hy)
  have h2 := lsum_nonneg (l := t) (g := g) fun y hy => hg y (List.mem_append_right _ (List.mem_cons_of_mem _ hy))
  rw [lsum_append, lsum_cons]
  omega

theorem lsum_eq_forces {l : List Nat} {g h : Nat → Int} (hle : ∀ u ∈ l, g u ≤ h u) (he : lsum l g = lsum l h) :
    ∀ u ∈ l, g u = h u := by
  intro u hu
  have h0 : lsum l (fun w => h w - g w) = 0 := by rw [lsum_sub]; omega
  have := term_le_lsum (g := fun w => h w - g w) (fun w hw => by have := hle w hw; omega) hu
  have := hle u hu
  omega

@[simp] theorem FlowT.get_nil (u v : Nat) : FlowT.get [] u v = 0 := rfl

theorem lookup_filter_ne (f : FlowT) (k k' : Nat × Nat) (h : k' ≠ k) :
    (f.filter (fun e => !(e.1 == k))).lookup k' = f.lookup k' := by
  induction f with
  | nil => rfl
  | cons e es ih =>
    obtain ⟨ek, ev⟩ := e
    by_cases hek : ek = k
    · subst hek
      have h1 : (k' == ek) = false := by simp [h]
      simp [List.lookup_cons, h1, ih]
    · have h1 : (ek == k) = false := by simp [hek]
      simp only [List.filter_cons, h1, Bool.not_false, if_true, List.lookup_cons, ih]

theorem lookup_set (f : FlowT) (u v : Nat) (x : Int) (a b : Nat) :
    (((u, v), x) :: f.filter (fun e => !(e.1 == (u, v)))).lookup (a, b) =
      if a = u ∧ b = v then some x else f.lookup (a, b) := by
  by_cases h : a = u ∧ b = v
  · obtain ⟨rfl, rfl⟩ := h
    simp
  · have hne : (a, b) ≠ (u, v) := by
      intro hh; apply h; cases hh; exact ⟨rfl, rfl⟩
    have h1 : ((a, b) == (u, v)) = false := by simpa using h
    rw [List.lookup_cons, h1, lookup_filter_ne f (u, v) (a, b) hne, if_neg h]

theorem FlowT.get_set (f : FlowT) (u v : Nat) (x : Int) (a b : Nat) :
    (f.set u v x).get a b = if a = u ∧ b = v then x else f.get a b := by
  unfold FlowT.get FlowT.set
  rw [lookup_set]
  by_cases h : a = u ∧ b = v
  · rw [if_pos h, if_pos h]
  · rw [if_neg h, if_neg h]

theorem mem_dedupAux (xs acc : List Nat) (y : Nat) :
    y ∈ dedupAux xs acc ↔ y ∈ acc ∨ y ∈ xs := by
  induction xs generalizing acc with
  | nil => simp [dedupAux]
  | cons x xs ih =>
    unfold dedupAux
    split
    · rename_i h
      rw [ih]
      have hx : x ∈ acc := by simpa using h
      constructor
      · rintro (h | h)
        · exact Or.inl h
        · exact Or.inr (List.mem_cons_of_mem _ h)
      · rintro (h | h)
        · exact Or.inl h
        · rcases List.mem_cons.1 h with h | h
          · exact Or.inl (h ▸ hx)
          · exact Or.inr h
    · rw [ih]
      simp only [List.mem_append, List.mem_cons, List.not_mem_nil, or_false, or_assoc]

theorem mem_dedup (l : List Nat) (y : Nat) : y ∈ dedup l ↔ y ∈ l := by
  unfold dedup; rw [mem_dedupAux]; simp

end Solvor.Flow
