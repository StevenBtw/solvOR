import Solvor.Flow.Lemmas
/-!
Flow: the property theorems of C08 (`max_flow`: the theorems on `Net`) and C09 (`min_cost_flow`, `network_simplex`,
`solve_assignment`, the pair-cost finding: the theorems on `Inst`); `Audit/C08.lean`, `Audit/C09.lean` list them.
-/
namespace Solvor.Flow
namespace Net
variable (N : Net)

/-- C08, the certificate: a feasible flow with a saturated s-t cut is maximum, and the cut minimum. -/
theorem cut_cert (hV : N.V.Nodup) (ht : N.t ∈ N.V) {f : Nat → Nat → Int} (hf : N.Feasible f)
    {S : List Nat} (hs : N.s ∈ S) (htS : N.t ∉ S) (hsat : N.Saturated f S) :
    N.value f = N.cutCap S ∧ (∀ g, N.Feasible g → N.value g ≤ N.value f) ∧
    (∀ S', N.s ∈ S' → N.t ∉ S' → N.cutCap S ≤ N.cutCap S') := by
  have e := N.value_eq_cutCap hV ht hs htS hf hsat
  refine ⟨e, fun g hg => ?_, fun S' hs' ht' => ?_⟩
  · rw [e]; exact N.value_le_cutCap hV ht hs htS hg
  · rw [← e]; exact N.value_le_cutCap hV ht hs' ht' hf

/-- The audited name of `Net.chkFeasible_iff` (EKLemmas): a `false` verdict on an implementation's dict is a genuine
violation of the capacity / conservation clause. -/
theorem chk_feasible_iff (f : FlowT) : (N.chkCap f && N.chkCons f) = true ↔ N.Feasible f.get :=
  N.chkFeasible_iff f

/-- the audited name of `Net.chkValue_iff` (EKLemmas) -/
theorem chk_value_iff (f : FlowT) (val : Int) : N.chkValue f val = true ↔ N.value f.get = val :=
  N.chkValue_iff f val

/-- C08, checker side: an accepted `(f, S, val)` is a maximum flow, its value is `val`, and `val` is the capacity of `S`. -/
theorem chkMaxFlow_sound (hV : N.V.Nodup) (ht : N.t ∈ N.V) (f : FlowT) (S : List Nat) (val : Int)
    (h : N.chkMaxFlow f S val = true) :
    N.Feasible f.get ∧ N.value f.get = val ∧ val = N.cutCap S ∧
      ∀ g, N.Feasible g → N.value g ≤ val := by
  obtain ⟨hf, hv, c1, c2, c3⟩ := (N.chkMaxFlow_iff f S val).1 h
  obtain ⟨e1, e2, _⟩ := N.cut_cert hV ht hf c1 c2 c3
  exact ⟨hf, hv, by rw [← hv, e1], fun g hg => by rw [← hv]; exact e2 g hg⟩

/-- Pushing `path_flow` (the minimum residual, which is ≥ 1)
along a simple residual s-t path with the cancel-reverse-first rule keeps every capacity
constraint (anti-parallel arcs included), keeps conservation, and raises the value by exactly
`path_flow`. -/
theorem augment_preserves_feasible (h : N.WF) {f : FlowT} (hc : N.CapOK f) (hf : N.Feasible f.get)
    {vis p : List Nat} (hp : N.GoodPath f vis N.t p) (hvis : ∀ x ∈ vis, x ∈ N.V) {d : Int}
    (hd : N.pathFlow f p none = some d) :
    1 ≤ d ∧ N.CapOK (aug f d p) ∧ N.Feasible (aug f d p).get ∧
      N.value (aug f d p).get = N.value f.get + d := by
  have hI : N.LInv f (N.value f.get) :=
    ⟨hc, fun x hx hs ht => by rw [excess_eq, hf.cons x hx hs ht]; omega, N.excess_eq _ _⟩
  obtain ⟨hd1, hI'⟩ := hI.aug h hp hvis hd
  exact ⟨hd1, hI'.capOK, hI'.feasible, hI'.value⟩

/-- The fuel `cutCap {s} + 1` is never exhausted – every augmentation raises
the integer value by ≥ 1 and the value is bounded by the capacity out of the source; each BFS
ends within `2·|V| + 2` pops. -/
theorem ek_terminates (h : N.WF) : N.maxFlow.done = true :=
  (N.maxFlow_correct h).done

/-- The visited set of the last BFS contains the source, not the sink, and is
a saturated cut for the returned flow. -/
theorem ek_certifies (h : N.WF) :
    N.s ∈ N.maxFlow.vis ∧ N.t ∉ N.maxFlow.vis ∧ N.Saturated N.maxFlow.flow.get N.maxFlow.vis := by
  have c := N.maxFlow_correct h
  exact ⟨c.s_mem, c.t_not_mem, c.saturated⟩

/-- C08 for the mirror, on every well-formed network: it returns a maximum flow on the pooled capacities with its
value and its minimum cut, and the Boolean checker accepts the mirror's own certificate.  It is the conjunction read
off `Net.maxFlow_correct : N.Correct N.maxFlow` (EKLemmas) through `cut_cert` and `chkMaxFlow_iff`. -/
theorem max_flow_correct (h : N.WF) :
    N.maxFlow.done = true ∧ N.Feasible N.maxFlow.flow.get ∧
    N.value N.maxFlow.flow.get = N.maxFlow.value ∧
    N.maxFlow.value = N.cutCap N.maxFlow.vis ∧
    (∀ g, N.Feasible g → N.value g ≤ N.maxFlow.value) ∧
    (∀ S', N.s ∈ S' → N.t ∉ S' → N.maxFlow.value ≤ N.cutCap S') ∧
    N.chkMaxFlow N.maxFlow.flow N.maxFlow.vis N.maxFlow.value = true := by
  have c := N.maxFlow_correct h
  obtain ⟨e1, e2, e3⟩ := N.cut_cert h.nodup h.t_mem c.feasible c.s_mem c.t_not_mem c.saturated
  rw [c.value] at e1 e2
  exact ⟨c.done, c.feasible, c.value, e1, e2, fun S' hs ht => e1 ▸ e3 S' hs ht,
    (N.chkMaxFlow_iff _ _ _).2 ⟨c.feasible, c.value, c.s_mem, c.t_not_mem, c.saturated⟩⟩

end Net

/-- `max_flow_correct` on the `graph` argument: for every arc list with non-negative integer
capacities over nodes `0..n-1` (parallel, anti-parallel, self-loop, zero-capacity arcs, arcs into
the source / out of the sink, unreachable parts all included) and distinct terminals, the mirror
of the repaired `max_flow` returns a maximum flow with its minimum cut. -/
theorem max_flow_correct_arcs {n : Nat} {arcs : Arcs} {s t : Nat} (h : ArcsOK n arcs) (hs : s < n)
    (ht : t < n) (hst : s ≠ t) :
    let N := Net.ofArcs true n arcs s t
    N.maxFlow.done = true ∧ N.Feasible N.maxFlow.flow.get ∧
    N.value N.maxFlow.flow.get = N.maxFlow.value ∧
    N.maxFlow.value = N.cutCap N.maxFlow.vis ∧
    (∀ g, N.Feasible g → N.value g ≤ N.maxFlow.value) ∧
    (∀ S', N.s ∈ S' → N.t ∉ S' → N.maxFlow.value ≤ N.cutCap S') ∧
    N.chkMaxFlow N.maxFlow.flow N.maxFlow.vis N.maxFlow.value = true :=
  Net.max_flow_correct _ (Net.ofArcs_wf h hs ht hst)

/-- the C08 witness: s=0, a=1, c=2, b=3, d=4, t=5 -/
def witnessArcs : Arcs := [(0, 1, 1), (0, 2, 1), (1, 3, 1), (1, 4, 1), (2, 3, 1), (3, 5, 1), (4, 5, 1)]

theorem witness_ok : ArcsOK 6 witnessArcs := by unfold ArcsOK; decide

-- hypotheses of `max_flow_correct_arcs` / `max_flow_correct` / `ek_*` are met by the witness
example : (Net.ofArcs true 6 witnessArcs 0 5).WF := Net.ofArcs_wf witness_ok (by decide) (by decide) (by decide)
example : (Net.ofArcs true 6 witnessArcs 0 5).maxFlow.value = 2 := by decide +kernel

-- hypotheses of `cut_cert` / `chkMaxFlow_sound` are met by a concrete flow and cut
example : (Net.ofArcs true 6 witnessArcs 0 5).chkMaxFlow
    [((0, 1), 1), ((0, 2), 1), ((1, 4), 1), ((2, 3), 1), ((3, 5), 1), ((4, 5), 1)] [0] 2 = true := by decide +kernel

/-- Negative statement about the unrepaired code: with the key sets of the unrepaired
construction (`rev := false`: `capacity[v][u]` exists only if an arc `v → u` was given) the mirror
stops at value 1 on the witness although a feasible flow of value 2 exists – the reverse residual
arc `b → a` is never followed. -/
theorem unrepaired_not_maximum :
    (Net.ofArcs false 6 witnessArcs 0 5).maxFlow.value = 1 ∧
    (Net.ofArcs false 6 witnessArcs 0 5).maxFlow.done = true ∧
    ∃ f : FlowT, (Net.ofArcs false 6 witnessArcs 0 5).Feasible f.get ∧
      (Net.ofArcs false 6 witnessArcs 0 5).value f.get = 2 := by
  refine ⟨by decide +kernel, by decide +kernel,
    [((0, 1), 1), ((0, 2), 1), ((1, 4), 1), ((2, 3), 1), ((3, 5), 1), ((4, 5), 1)], ?_, by decide⟩
  exact (Net.chkFeasible_iff _ _).1 (by decide +kernel)

namespace Inst
variable (I : Inst)

/-- C09, the optimality certificate: potentials under which every residual arc (forward where `x < cap`, backward where
`x > 0`) has non-negative reduced cost make a feasible flow cheapest. -/
theorem reduced_cost_cert (hv : I.Valid) {x p : Nat → Int} (hx : I.Feas x) (hs : I.Slack x p) :
    ∀ y, I.Feas y → I.costF x ≤ I.costF y :=
  fun _ hy => I.cost_le_of_slack hv hx hy hs

/-- C09, the infeasibility certificate: a node set whose supply cannot leave it, or whose demand cannot enter it. -/
theorem infeasible_cut_cert (hv : I.Valid) (S : List Nat)
    (h : I.capOutOf S < I.supplyOf S ∨ I.capInOf S < - I.supplyOf S) : ¬ ∃ y, I.Feas y := by
  rintro ⟨y, hy⟩
  rcases h with h | h
  · have := I.supply_le_capOut hv S hy; omega
  · have := I.neg_supply_le_capIn hv S hy; omega

/-- the audited name of `Inst.chkFeas_iff` (SSPLemmas) -/
theorem chk_feas_iff (x : List Int) : I.chkFeas x = true ↔ x.length = I.m ∧ I.Feas (fl x) :=
  I.chkFeas_iff x

/-- C09, checker side: an accepted `(x, p, val)` is a minimum-cost feasible flow of cost `val`. -/
theorem chkMinCost_sound (hv : I.valid = true) (x p : List Int) (val : Int)
    (h : I.chkMinCost x p val = true) :
    I.Feas (fl x) ∧ I.costF (fl x) = val ∧ ∀ y, I.Feas y → val ≤ I.costF y := by
  obtain ⟨⟨_, hx⟩, hs, h3⟩ := (I.chkMinCost_iff x p val).1 h
  exact ⟨hx, h3, fun y hy => h3 ▸ I.reduced_cost_cert ((I.valid_iff).1 hv) hx hs y hy⟩

theorem chkInfeas_sound (hv : I.valid = true) (S : List Nat) (h : I.chkInfeas S = true) :
    ¬ ∃ y, I.Feas y :=
  I.infeasible_cut_cert ((I.valid_iff).1 hv) S ((I.chkInfeas_iff S).1 h)

/-- the certified verdict on an instance is unique -/
theorem certified_verdict_unique (hv : I.valid = true) {x p x' p' : List Int} {val val' : Int}
    (h : I.chkMinCost x p val = true) :
    (∀ S, I.chkInfeas S = false) ∧ (I.chkMinCost x' p' val' = true → val = val') := by
  obtain ⟨f1, f2, f3⟩ := I.chkMinCost_sound hv x p val h
  refine ⟨fun S => ?_, fun h' => ?_⟩
  · cases hS : I.chkInfeas S
    · rfl
    · exact absurd ⟨_, f1⟩ (I.chkInfeas_sound hv S hS)
  · obtain ⟨g1, g2, g3⟩ := I.chkMinCost_sound hv x' p' val' h'
    have a := f3 _ g1
    have b := g3 _ f1
    omega

end Inst

/-- every answer `certify` hands out is right, for every instance and whatever the search produced -/
theorem Inst.certify_sound (J : Inst) (hv : J.valid = true) (o : Inst.SOut) :
    ((J.certify o).status = .feasible →
      J.Feas (Inst.fl (J.certify o).x) ∧ J.costF (Inst.fl (J.certify o).x) = (J.certify o).cost ∧
      ∀ y, J.Feas y → (J.certify o).cost ≤ J.costF y) ∧
    ((J.certify o).status = .infeasible → ¬ ∃ y, J.Feas y) := by
  -- case1/2: `feasible`, certificate accepted / rejected; case3/4: `infeasible`, likewise; case5: `negcycle`
  fun_cases Inst.certify J o
  case case1 hs hc => exact ⟨fun _ => J.chkMinCost_sound hv _ _ _ hc, (fun h => by rw [hs] at h; cases h)⟩
  case case3 hs hc => exact ⟨(fun h => by rw [hs] at h; cases h), fun _ => J.chkInfeas_sound hv _ hc⟩
  case case2 | case4 => exact ⟨nofun, nofun⟩
  case case5 hs => exact ⟨(fun h => by rw [hs] at h; cases h), (fun h => by rw [hs] at h; cases h)⟩

/-- C09 for `min_cost_flow` instances: a `feasible` answer of the certified SSP model routes the demand within the
capacities at minimum cost and reports that cost; an `infeasible` answer means that no routing exists. -/
theorem ssp_sound (n : Nat) (arcs : List Arc) (s t : Nat) (d : Int)
    (hv : (Inst.ofST n arcs s t d).valid = true) :
    ((solveST n arcs s t d).status = .feasible →
      (Inst.ofST n arcs s t d).Feas (Inst.fl (solveST n arcs s t d).x) ∧
      (Inst.ofST n arcs s t d).costF (Inst.fl (solveST n arcs s t d).x) = (solveST n arcs s t d).cost ∧
      ∀ y, (Inst.ofST n arcs s t d).Feas y → (solveST n arcs s t d).cost ≤ (Inst.ofST n arcs s t d).costF y) ∧
    ((solveST n arcs s t d).status = .infeasible → ¬ ∃ y, (Inst.ofST n arcs s t d).Feas y) :=
  Inst.certify_sound _ hv _

/-- `ssp_sound` for transshipment instances (`network_simplex`'s problem) -/
theorem ssp_sound_transshipment (I : Inst) (hv : I.valid = true) :
    ((solveTS I).status = .feasible →
      I.Feas (Inst.fl (solveTS I).x) ∧ I.costF (Inst.fl (solveTS I).x) = (solveTS I).cost ∧
      ∀ y, I.Feas y → (solveTS I).cost ≤ I.costF y) ∧
    ((solveTS I).status = .infeasible → ¬ ∃ y, I.Feas y) := by
  unfold solveTS
  split
  · exact Inst.certify_sound _ hv _
  · exact Inst.certify_sound _ hv _

/-- `min_cost_flow` / `solve_assignment` instances: whatever the successive-shortest-path search answers is accepted by the
verified checker, so `certify` never withholds an answer of the search (`solveST = ssp`).  No hypothesis on cycles is
needed for this part. -/
theorem ssp_certifies_partial (n : Nat) (arcs : List Arc) (s t : Nat) (d : Int)
    (hv : (Inst.ofST n arcs s t d).valid = true) (hcap : ∀ a ∈ arcs, 0 ≤ a.cap)
    (hs : s < n) (ht : t < n) (hd : 0 ≤ d) :
    solveST n arcs s t d = (Inst.ofST n arcs s t d).ssp s t d ∧
    (((Inst.ofST n arcs s t d).ssp s t d).status = .feasible →
      (Inst.ofST n arcs s t d).chkMinCost ((Inst.ofST n arcs s t d).ssp s t d).x
        ((Inst.ofST n arcs s t d).ssp s t d).pot ((Inst.ofST n arcs s t d).ssp s t d).cost = true) ∧
    (((Inst.ofST n arcs s t d).ssp s t d).status = .infeasible →
      (Inst.ofST n arcs s t d).chkInfeas ((Inst.ofST n arcs s t d).ssp s t d).reach = true) := by
  have hV := ((Inst.ofST n arcs s t d).valid_iff).1 hv
  have hc := ofST_cap n s t d hcap
  have c := (Inst.ofST n arcs s t d).ssp_cert hV hc (s := s) (t := t) hs ht hd ofST_sup
  have c2 := fun h => Inst.chkInfeas_of_out _ (c.2 h).lt
  exact ⟨Inst.certify_eq _ _ c.1 c2, c.1, c2⟩

/-- Potentials certify the absence of a negative cycle; conversely the converged zero-initialised Bellman-Ford labels are
feasible potentials. -/
theorem Inst.no_negative_cycle_iff_potentials (I : Inst) (hv : I.Valid) (x : List Int) :
    I.NC x ↔ ∃ p, I.Pot x p :=
  ⟨fun h => I.pot_of_nc hv h, fun ⟨_, hp⟩ => I.nc_of_pot hp⟩

/-- `min_cost_flow` / `solve_assignment` instances: if the input network has no negative-cost cycle (for the zero flow the
residual arcs are the arcs of positive capacity), the certified SSP model always answers – `negcycle` stands for "no
certified answer" – and by `ssp_sound` that answer is right. -/
theorem ssp_certifies (n : Nat) (arcs : List Arc) (s t : Nat) (d : Int)
    (hv : (Inst.ofST n arcs s t d).valid = true) (hcap : ∀ a ∈ arcs, 0 ≤ a.cap)
    (hs : s < n) (ht : t < n) (hd : 0 ≤ d)
    (hnc : (Inst.ofST n arcs s t d).NC (List.replicate (Inst.ofST n arcs s t d).m 0)) :
    (solveST n arcs s t d).status ≠ .negcycle := by
  have hV := ((Inst.ofST n arcs s t d).valid_iff).1 hv
  have hc := ofST_cap n s t d hcap
  obtain ⟨p, hp⟩ := (Inst.ofST n arcs s t d).pot_of_nc hV hnc
  rw [(ssp_certifies_partial n arcs s t d hv hcap hs ht hd).1]
  exact (Inst.ofST n arcs s t d).ssp_answers hV hc (s := s) (t := t) hs ht hd
    ((Inst.ofST n arcs s t d).pot_zero_iff.1 hp)

/-- `ssp_certifies` for transshipment instances (`network_simplex`'s problem, solved through the super-source / super-sink
reduction `Inst.toST`): unbalanced supplies are answered `infeasible` with the whole node set as cut, otherwise the
certificate found for the reduced instance, restricted to the original arcs and nodes, is accepted by the checker of the
original instance. -/
theorem ssp_certifies_transshipment (I : Inst) (hv : I.valid = true) (hcap : ∀ i < I.m, 0 ≤ (I.arc i).cap)
    (hnc : I.NC (List.replicate I.m 0)) : (solveTS I).status ≠ .negcycle := by
  have hV := (I.valid_iff).1 hv
  obtain ⟨p, hp⟩ := I.pot_of_nc hV hnc
  exact I.solveTS_answers hV hcap (I.pot_zero_iff.1 hp)

/-- C09 for `solve_assignment`: the feasible flows of its unit-capacity bipartite network with demand `min n m` are exactly
the valid assignments, with equal costs. -/
theorem assignment_of_flow {n m : Nat} (C : Nat → Nat → Int) :
    (∀ α, ValidAssign n m α →
      (assignInst n m C).Feas (flowOfAssign n m C α) ∧
      (assignInst n m C).costF (flowOfAssign n m C α) = assignCost n C α) ∧
    (∀ y, (assignInst n m C).Feas y →
      ∃ α, ValidAssign n m α ∧ assignCost n C α = (assignInst n m C).costF y) :=
  ⟨fun _ h => assign_feasible C h, fun _ hy => assign_of_feasible C hy⟩

/-- consequence used by the check: a certified optimum of the assignment network is a lower bound
for every valid assignment and is attained by one, so a returned valid assignment is optimal iff
its cost equals the certified value. -/
theorem assignment_optimal_of_cert {n m : Nat} (C : Nat → Nat → Int) {x p : List Int} {val : Int}
    (h : (assignInst n m C).chkMinCost x p val = true) :
    (∀ α, ValidAssign n m α → val ≤ assignCost n C α) ∧
    (∃ α, ValidAssign n m α ∧ assignCost n C α = val) := by
  have hv : (assignInst n m C).valid = true := ((assignInst n m C).valid_iff).2 (assignInst_valid n m C)
  obtain ⟨f1, f2, f3⟩ := (assignInst n m C).chkMinCost_sound hv x p val h
  refine ⟨fun α hα => ?_, ?_⟩
  · obtain ⟨g1, g2⟩ := assign_feasible C hα
    rw [← g2]; exact f3 _ g1
  · obtain ⟨α, hα, hc⟩ := assign_of_feasible C f1
    exact ⟨α, hα, by rw [hc, f2]⟩

/-- the audited name of `chkAssign_valid` (AssignLemmas) -/
theorem chkAssign_sound {n m : Nat} {a : List Int} (h : chkAssign n m a = true) :
    a.length = n ∧ ValidAssign n m (aOf a) := chkAssign_valid h

/-- The known finding of `min_cost_flow` (one cost per ordered node pair), positive statement on the complement of its
class: when no two different nodes carry an anti-parallel pair of arcs and parallel arcs have equal cost, the cost table
the unchanged `min_cost_flow` builds is the per-arc residual network of the `ssp` model.  The same three clauses for
every arc list are not proved: they are false of the unchanged code (`pair_costs_misprice`). -/
theorem pair_costs_faithful_partial {arcs : List Arc} (h : hasPairFeature arcs = false) :
    (∀ a ∈ arcs, (pairCosts arcs).get a.src a.tgt = some a.cost) ∧
    (∀ a ∈ arcs, a.src ≠ a.tgt → (pairCosts arcs).get a.tgt a.src = some (- a.cost)) ∧
    (∀ u v c, (pairCosts arcs).get u v = some c →
      ∃ a ∈ arcs, (a.src = u ∧ a.tgt = v ∧ a.cost = c) ∨
        (a.src ≠ a.tgt ∧ a.tgt = u ∧ a.src = v ∧ - a.cost = c)) := by
  have hN : NoFeature arcs := (noPairFeature_iff arcs).1 (by
    unfold hasPairFeature at h; simpa using h)
  have := pairCosts_inv hN
  exact ⟨this.fwd, this.bwd, this.only⟩

/-- Negative statement about the unchanged code: on the minimised witness of the finding
(arcs 1→0 with capacity 0, cost 0 and 0→1 with capacity 1, cost 1; route 1 unit from 0 to 1) the
instance has the feature, the table prices the only usable arc 0→1 at 0 instead of 1, and the
certified minimum cost is 1 (the unchanged code reports 0). -/
theorem pair_costs_misprice :
    hasPairFeature [⟨1, 0, 0, 0⟩, ⟨0, 1, 1, 1⟩] = true ∧
    (pairCosts [⟨1, 0, 0, 0⟩, ⟨0, 1, 1, 1⟩]).get 0 1 = some 0 ∧
    (Inst.ofST 2 [⟨1, 0, 0, 0⟩, ⟨0, 1, 1, 1⟩] 0 1 1).chkMinCost [0, 1] [-1, 0] 1 = true := by
  decide

/-- the C09 witness (anti-parallel arcs and parallel arcs of different cost):
minimum cost 20, where the unchanged `min_cost_flow` reports −8 -/
def witnessInst : Inst := Inst.ofST 2 [⟨1, 0, 2, 2⟩, ⟨0, 1, 1, 5⟩, ⟨0, 1, 4, 5⟩, ⟨1, 0, 3, 5⟩] 0 1 4

example : witnessInst.valid = true := by decide
-- hypotheses of `chkMinCost_sound` / `reduced_cost_cert`: met by the model's own answer
example : witnessInst.chkMinCost [0, 1, 3, 0] [-5, 0] 20 = true := by decide
example : (witnessInst.ssp 0 1 4).cost = 20 := by decide
-- `ssp_sound`: the certified model answers on the witness (status feasible, cost 20) and on an infeasible one
example : (solveST 2 [⟨1, 0, 2, 2⟩, ⟨0, 1, 1, 5⟩, ⟨0, 1, 4, 5⟩, ⟨1, 0, 3, 5⟩] 0 1 4).status = .feasible := by decide
example : (solveST 2 [⟨1, 0, 2, 2⟩, ⟨0, 1, 1, 5⟩, ⟨0, 1, 4, 5⟩] 0 1 9).status = .infeasible := by decide
example : (solveTS ⟨3, [⟨0, 1, 5, 2⟩, ⟨1, 2, 5, 1⟩, ⟨0, 2, 2, 4⟩], [6, 0, -6]⟩).status = .feasible := by decide +kernel
-- hypothesis of `ssp_certifies` / `ssp_certifies_transshipment`: a network with a negative-cost arc and no
-- negative cycle, certified by the potentials (0, -1, 0)
example : (Inst.ofST 3 [⟨0, 1, 2, -1⟩, ⟨1, 2, 2, 3⟩, ⟨0, 2, 1, 1⟩] 0 2 2).NC (List.replicate 3 0) :=
  Inst.nc_of_pot _ ((Inst.pot_zero_iff _ (p := fun v => if v = 1 then -1 else 0)).2 (by decide))
example : (solveST 3 [⟨0, 1, 2, -1⟩, ⟨1, 2, 2, 3⟩, ⟨0, 2, 1, 1⟩] 0 2 2).status = .feasible := by decide +kernel
-- hypotheses of `chkInfeas_sound` / `infeasible_cut_cert`: demand 9 exceeds the capacity 5 out of {0}
example : (Inst.ofST 2 [⟨1, 0, 2, 2⟩, ⟨0, 1, 1, 5⟩, ⟨0, 1, 4, 5⟩] 0 1 9).chkInfeas [0] = true := by decide
-- hypotheses of `assignment_of_flow` / `chkAssign_sound`: a 2×3 assignment
example : chkAssign 2 3 [2, 0] = true := by decide
example : ValidAssign 2 3 (aOf [2, 0]) := (chkAssign_sound (by decide)).2
-- hypothesis of `pair_costs_faithful_partial`: a network with parallel arcs of equal cost
example : hasPairFeature [⟨0, 1, 2, 3⟩, ⟨0, 1, 1, 3⟩, ⟨1, 2, 4, -1⟩, ⟨0, 2, 1, 5⟩] = false := by decide

end Solvor.Flow
