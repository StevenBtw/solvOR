import Solvor.Flow.BellmanFord
/-!
Flow: `n - 1` rounds of the Bellman-Ford search of `SSP.lean` suffice.  A label is the cost of a walk of residual arcs
counted from a start label, `k` rounds bound every label by the cost of every such walk of at most `k` arcs, and every
walk shortens to one of at most `n - 1` arcs.  No hypothesis on cycles: `NC` only says that shortening does not raise the cost.
-/
namespace Solvor.Flow
namespace Inst
variable (I : Inst)

def Link : Nat → List (Nat × Bool) → Nat → Prop
  | a, [], b => a = b
  | a, e :: r, b => I.tail e = a ∧ Link (I.head e) r b

theorem link_snoc {e : Nat × Bool} : ∀ (w : List (Nat × Bool)) (a b : Nat),
    I.Link a (w ++ [e]) b ↔ I.Link a w (I.tail e) ∧ I.head e = b
  | [], a, b => ⟨fun h => ⟨h.1.symm, h.2⟩, fun h => ⟨h.1.symm, h.2⟩⟩
  | e0 :: r, a, b => by
    show (I.tail e0 = a ∧ I.Link (I.head e0) (r ++ [e]) b) ↔ (I.tail e0 = a ∧ I.Link (I.head e0) r (I.tail e)) ∧ I.head e = b
    rw [link_snoc r, and_assoc]

def wcost : List (Nat × Bool) → Int
  | [] => 0
  | e :: r => I.ecost e + wcost r

theorem wcost_append (p q : List (Nat × Bool)) : I.wcost (p ++ q) = I.wcost p + I.wcost q := by
  induction p with
  | nil => simp [wcost]
  | cons e r ih => simp only [List.cons_append, wcost, ih]; ring

theorem wcost_snoc (w : List (Nat × Bool)) (e : Nat × Bool) : I.wcost (w ++ [e]) = I.wcost w + I.ecost e := by
  rw [wcost_append]; show _ + (I.ecost e + 0) = _; omega

/-- no negative-cost cycle in the residual network of `x` -/
def NC (x : List Int) : Prop := ∀ (a : Nat) (w : List (Nat × Bool)), I.Link a w a → (∀ e ∈ w, I.IsRes x e) → 0 ≤ I.wcost w

theorem split_at {a : Nat} : ∀ (w : List (Nat × Bool)) (c b : Nat), I.Link c w b → a ∈ w.map I.head →
    ∃ q1 q2, w = q1 ++ q2 ∧ q1 ≠ [] ∧ I.Link c q1 a ∧ I.Link a q2 b
  | e :: r, c, b, hl, hm => by
    simp only [List.map_cons, List.mem_cons] at hm
    by_cases h0 : a = I.head e
    · exact ⟨[e], r, rfl, by simp, ⟨hl.1, h0.symm⟩, h0 ▸ hl.2⟩
    · obtain ⟨q1, q2, e1, _, l1, l2⟩ := split_at r _ b hl.2 (hm.resolve_left h0)
      exact ⟨e :: q1, q2, by simp [e1], by simp, ⟨hl.1, l1⟩, l2⟩

/-- a walk that repeats a node loses a closed part; without negative cycles that does not raise its cost -/
theorem cut_cycle {x : List Int} :
    ∀ (w : List (Nat × Bool)) (a b : Nat), I.Link a w b → (∀ e ∈ w, I.IsRes x e) →
      ¬ (a :: w.map I.head).Nodup →
      ∃ w', I.Link a w' b ∧ (∀ e ∈ w', I.IsRes x e) ∧ w'.length < w.length ∧ (I.NC x → I.wcost w' ≤ I.wcost w)
  | [], _, _, _, _, h => absurd (List.pairwise_singleton _ _) h
  | e :: r, a, b, hl, hr, hnd => by
    by_cases hm : a ∈ (e :: r).map I.head
    · obtain ⟨q1, q2, e1, hne, l1, l2⟩ := I.split_at (e :: r) a b hl hm
      have hr1 : ∀ e' ∈ q1, I.IsRes x e' := fun e' he' => hr e' (by rw [e1]; exact List.mem_append_left _ he')
      have hr2 : ∀ e' ∈ q2, I.IsRes x e' := fun e' he' => hr e' (by rw [e1]; exact List.mem_append_right _ he')
      refine ⟨q2, l2, hr2, ?_, fun hp => ?_⟩
      · rw [e1, List.length_append]
        have : 0 < q1.length := List.length_pos_iff.2 hne
        omega
      · have hc := hp a q1 l1 hr1
        rw [e1, wcost_append]; omega
    · have hnd' : ¬ (I.head e :: r.map I.head).Nodup := fun h => hnd (List.nodup_cons.2 ⟨hm, h⟩)
      obtain ⟨w', l', r', len', c'⟩ := cut_cycle r _ b hl.2 (fun e' he' => hr e' (List.mem_cons_of_mem _ he')) hnd'
      refine ⟨e :: w', ⟨hl.1, l'⟩, ?_, by simp only [List.length_cons]; omega,
        fun hp => by have := c' hp; simp only [wcost]; omega⟩
      intro e' he'
      rcases List.mem_cons.1 he' with rfl | h
      · exact hr _ List.mem_cons_self
      · exact r' e' h

theorem simple_walk {x : List Int} :
    ∀ (m : Nat) (w : List (Nat × Bool)) (a b : Nat), w.length ≤ m → I.Link a w b → (∀ e ∈ w, I.IsRes x e) →
      ∃ w', I.Link a w' b ∧ (∀ e ∈ w', I.IsRes x e) ∧ (a :: w'.map I.head).Nodup ∧ (I.NC x → I.wcost w' ≤ I.wcost w)
  | 0, w, a, b, hm, hl, hr => by
    have : w = [] := List.length_eq_zero_iff.1 (Nat.le_zero.1 hm)
    subst this
    exact ⟨[], hl, hr, by simp, fun _ => Int.le_refl _⟩
  | m + 1, w, a, b, hm, hl, hr => by
    by_cases hnd : (a :: w.map I.head).Nodup
    · exact ⟨w, hl, hr, hnd, fun _ => Int.le_refl _⟩
    · obtain ⟨w1, l1, r1, len1, c1⟩ := I.cut_cycle w a b hl hr hnd
      obtain ⟨w2, l2, r2, n2, c2⟩ := simple_walk m w1 a b (by omega) l1 r1
      exact ⟨w2, l2, r2, n2, fun hp => Int.le_trans (c2 hp) (c1 hp)⟩

theorem simple_length (hv : I.Valid) {x : List Int} {w : List (Nat × Bool)} {a : Nat} (ha : a < I.n)
    (hr : ∀ e ∈ w, I.IsRes x e) (hnd : (a :: w.map I.head).Nodup) : w.length + 1 ≤ I.n := by
  have := nodup_length_le hnd (n := I.n) fun v hv' => by
    rcases List.mem_cons.1 hv' with rfl | h
    · exact ha
    · obtain ⟨e, he, rfl⟩ := List.mem_map.1 h
      exact I.head_lt hv (hr e he).1
  simpa using this

/-- `w` is a walk of at most `k` residual arcs from `a` to `v`; `c` is its cost counted from the initial label `c0` of `a` -/
structure WalkTo (x : List Int) (d0 : Nat → Option Int) (k v : Nat) (c : Int) (a : Nat) (c0 : Int)
    (w : List (Nat × Bool)) : Prop where
  start_lt : a < I.n
  start : d0 a = some c0
  link : I.Link a w v
  res : ∀ e ∈ w, I.IsRes x e
  len : w.length ≤ k
  cost : c = c0 + I.wcost w

/-- `c` is the cost of some walk of at most `k` residual arcs into `v`, counted from the label `d0` gives its first node.
`d0` stands for the labels of the state the rounds start from (`D st`), so that one development serves the search
(`initBF s`) and the potentials (`zeroInit`); `sound_rounds`: every label is such a cost, `rounds_dom`: every such cost
is dominated by a label. -/
def W (x : List Int) (d0 : Nat → Option Int) (k v : Nat) (c : Int) : Prop := ∃ a c0 w, I.WalkTo x d0 k v c a c0 w

variable {I} in
theorem W.mono {x : List Int} {d0 : Nat → Option Int} {j k v : Nat} {c : Int} (h : I.W x d0 j v c) (hjk : j ≤ k) :
    I.W x d0 k v c :=
  let ⟨a, c0, w, h⟩ := h
  ⟨a, c0, w, { h with len := Nat.le_trans h.len hjk }⟩

theorem W_zero {x : List Int} {d0 : Nat → Option Int} {v : Nat} {c : Int} :
    I.W x d0 0 v c ↔ v < I.n ∧ d0 v = some c := by
  constructor
  · rintro ⟨a, c0, w, h⟩
    obtain rfl : w = [] := List.length_eq_zero_iff.1 (Nat.le_zero.1 h.len)
    obtain rfl : a = v := h.link
    exact ⟨h.start_lt, by rw [h.start, h.cost]; simp [wcost]⟩
  · exact fun h => ⟨v, c, [],
      { start_lt := h.1, start := h.2, link := rfl, res := nofun, len := Nat.le_refl _, cost := by simp [wcost] }⟩

variable {I} in
theorem W.step {x : List Int} {d0 : Nat → Option Int} {k : Nat} {e : Nat × Bool} {c' : Int}
    (h : I.W x d0 k (I.tail e) c') (hr : I.IsRes x e) : I.W x d0 (k + 1) (I.head e) (c' + I.ecost e) := by
  obtain ⟨a, c0, w, h⟩ := h
  refine ⟨a, c0, w ++ [e], { h with
    link := (I.link_snoc w a _).2 ⟨h.link, rfl⟩
    res := fun e' he' => ?_
    len := by rw [List.length_append]; exact Nat.succ_le_succ h.len
    cost := by rw [I.wcost_snoc, h.cost]; omega }⟩
  rcases List.mem_append.1 he' with h' | h'
  · exact h.res e' h'
  · exact List.mem_singleton.1 h' ▸ hr

theorem W_succ {x : List Int} {d0 : Nat → Option Int} {k v : Nat} {c : Int} (h : I.W x d0 (k + 1) v c) :
    I.W x d0 k v c ∨ ∃ e c', I.IsRes x e ∧ I.head e = v ∧ I.W x d0 k (I.tail e) c' ∧ c = c' + I.ecost e := by
  obtain ⟨a, c0, w, h⟩ := h
  rcases List.eq_nil_or_concat w with rfl | ⟨w', e, rfl⟩
  · exact Or.inl ⟨a, c0, [], { h with len := Nat.zero_le _ }⟩
  · rw [List.concat_eq_append] at h
    obtain ⟨hl', hh⟩ := (I.link_snoc w' a v).1 h.link
    have hlen := h.len
    rw [List.length_append] at hlen
    exact Or.inr ⟨e, c0 + I.wcost w', h.res e (List.mem_append_right _ List.mem_cons_self), hh,
      ⟨a, c0, w', { h with
        link := hl'
        res := fun e' he' => h.res e' (List.mem_append_left _ he')
        len := Nat.le_of_succ_le_succ hlen
        cost := rfl }⟩,
      by rw [h.cost, I.wcost_snoc]; omega⟩

theorem W_short (hv : I.Valid) {x : List Int} (d0 : Nat → Option Int)
    {k v : Nat} {c : Int} (h : I.W x d0 k v c) : ∃ c', I.W x d0 (I.n - 1) v c' ∧ (I.NC x → c' ≤ c) := by
  obtain ⟨a, c0, w, h⟩ := h
  obtain ⟨w', l', r', nd', c'⟩ := I.simple_walk w.length w a v (Nat.le_refl _) h.link h.res
  have hlen := I.simple_length hv h.start_lt r' nd'
  exact ⟨c0 + I.wcost w', ⟨a, c0, w', { h with link := l', res := r', len := by omega, cost := rfl }⟩,
    fun hp => by have := c' hp; have := h.cost; omega⟩

/-- every finite label is the cost of a walk -/
def Sound (x : List Int) (d0 : Nat → Option Int) (st : BF) : Prop :=
  ∀ v < I.n, ∀ d, D st v = some d → ∃ k, I.W x d0 k v d

/-- the labels are at most the cost of every walk with at most `j` arcs -/
def Dom (x : List Int) (d0 : Nat → Option Int) (j : Nat) (st : BF) : Prop :=
  ∀ v c, I.W x d0 j v c → AtMost st v c

theorem dom_sweep (hv : I.Valid) (x : List Int) (d0 : Nat → Option Int) {j : Nat} {st : BF}
    (hl : st.dist.length = I.n) (h : I.Dom x d0 j st) : I.Dom x d0 (j + 1) (I.sweep x st) := by
  intro v c hw
  rcases I.W_succ hw with hw | ⟨e, c', hr, hh, hw, hc⟩
  · obtain ⟨d, hd, hle⟩ := h v c hw
    obtain ⟨d', hd', hle'⟩ := I.sweep_le x st v d hd
    exact ⟨d', hd', by omega⟩
  · obtain ⟨du, hd, hle⟩ := h _ c' hw
    obtain ⟨dv, h1, h2⟩ := I.sweep_post hv x st hl e hr hd
    rw [hh] at h1
    exact ⟨dv, h1, by omega⟩

theorem dom_fix (hv : I.Valid) (x : List Int) (d0 : Nat → Option Int) {st : BF} (hl : st.dist.length = I.n)
    (hfix : I.sweep x st = st) {j : Nat} (h : I.Dom x d0 j st) : ∀ m, I.Dom x d0 (j + m) st
  | 0 => h
  | m + 1 => by
    have := I.dom_sweep hv x d0 hl (dom_fix hv x d0 hl hfix h m)
    rw [hfix] at this
    exact this

theorem rounds_dom (hv : I.Valid) (x : List Int) (d0 : Nat → Option Int) (k : Nat) (st : BF) (j : Nat) :
    st.dist.length = I.n → I.Dom x d0 j st → I.Dom x d0 (j + k) (I.rounds x k st) := by
  -- cases as in `rounds_inv`
  fun_induction rounds I x k st generalizing j with
  | case1 => exact fun _ h => h
  | case2 k st st' hu ih =>
    intro hl h
    have := ih (j + 1) ((I.sweep_len x _).trans hl) (I.dom_sweep hv x d0 (st := { st with upd := false }) hl h)
    rwa [Nat.add_right_comm] at this
  | case3 k st st' hu =>
    intro hl h
    obtain ⟨e0, _⟩ := I.sweep_quiet hv x { st with upd := false } (by simpa using hu)
    show I.Dom x d0 (j + (k + 1)) (I.sweep x { st with upd := false })
    rw [e0]
    exact I.dom_fix hv x d0 (st := { st with upd := false }) hl e0 h (k + 1)

theorem sound_rounds {x : List Int} {d0 : Nat → Option Int} (k : Nat) {st : BF} (h : I.Sound x d0 st) :
    I.Sound x d0 (I.rounds x k st) :=
  I.rounds_inv (I.Sound x d0) x (fun _ hs => hs) (fun st hs => I.sweep_inv (I.Sound x d0) x st hs
    (fun st' e du h' r w hw d hdw => by
      rw [D_relaxed] at hdw
      split at hdw
      · rename_i c
        cases hdw
        obtain ⟨k, hk⟩ := h' _ r.tail_lt du r.dist
        exact ⟨k + 1, c.1 ▸ hk.step r.res⟩
      · exact h' w hw d hdw)) k st h

/-- `c'` is the cost of some walk of at most `n - 1` arcs; only its comparison with the cost through `e` needs `NC` -/
theorem rounds_reach (hv : I.Valid) (x : List Int) (st : BF) (hl : st.dist.length = I.n) {k : Nat}
    (hk : I.n - 1 ≤ k) {e : Nat × Bool} (hr : I.IsRes x e) {du : Int} (hdu : D (I.rounds x k st) (I.tail e) = some du) :
    ∃ c', AtMost (I.rounds x k st) (I.head e) c' ∧ (I.NC x → c' ≤ du + I.ecost e) := by
  have hs : I.Sound x (D st) st := fun v hvn d hd => ⟨0, I.W_zero.2 ⟨hvn, hd⟩⟩
  have hd : I.Dom x (D st) 0 st := fun v c hw => ⟨c, (I.W_zero.1 hw).2, Int.le_refl _⟩
  -- the label of the tail is the cost of a walk; with `e` appended it shortens to one of at most `n - 1` arcs
  obtain ⟨j, hj⟩ := I.sound_rounds k hs _ (I.tail_lt hv hr.1) du hdu
  obtain ⟨c', hw, hc'⟩ := I.W_short hv (D st) (hj.step hr)
  exact ⟨c', I.rounds_dom hv x (D st) k st 0 hl hd _ c' (hw.mono (by omega)), hc'⟩

theorem rounds_quiet (hv : I.Valid) {x : List Int} (hp : I.NC x) (st : BF) (hl : st.dist.length = I.n) {k : Nat}
    (hk : I.n - 1 ≤ k) : I.Quiet x (I.rounds x k st) := fun _ hr _ hdu =>
  let ⟨_, ⟨dv, h2, h3⟩, hc⟩ := I.rounds_reach hv x st hl hk hr hdu
  ⟨dv, h2, Int.le_trans h3 (hc hp)⟩

end Inst
end Solvor.Flow
