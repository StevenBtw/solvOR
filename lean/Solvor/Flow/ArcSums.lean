import Solvor.Flow.SumLemmas
import Solvor.Flow.SSP
/-! Flow: sums over a list of arcs and how they split over `++`, `map` and `flatMap` – the shape in which the
networks of this directory are built (core Lean only).  The proofs use the sum with the arc index, `asumI`
(`Inst.lsum_arc_idx`); the index-free `asum` stands with its two equations only and has no user. -/
namespace Solvor.Flow

def asum : List Arc → (Arc → Int) → Int
  | [], _ => 0
  | a :: as, F => F a + asum as F

@[simp] theorem asum_nil (F : Arc → Int) : asum [] F = 0 := rfl
@[simp] theorem asum_cons (a : Arc) (as : List Arc) (F : Arc → Int) : asum (a :: as) F = F a + asum as F := rfl

/-- sum of `F index arc` over a list of arcs whose first element has index `k` -/
def asumI : List Arc → Nat → (Nat → Arc → Int) → Int
  | [], _, _ => 0
  | a :: as, k, F => F k a + asumI as (k + 1) F

theorem asumI_append (l₁ l₂ : List Arc) (k : Nat) (F : Nat → Arc → Int) :
    asumI (l₁ ++ l₂) k F = asumI l₁ k F + asumI l₂ (k + l₁.length) F := by
  induction l₁ generalizing k with
  | nil => simp [asumI]
  | cons a as ih =>
    simp only [List.cons_append, asumI, ih, List.length_cons]
    rw [show k + 1 + as.length = k + (as.length + 1) by omega]; omega

theorem asumI_map_range (n : Nat) (h : Nat → Arc) (k : Nat) (F : Nat → Arc → Int) :
    asumI ((List.range n).map h) k F = lsum (List.range n) (fun i => F (k + i) (h i)) := by
  induction n with
  | zero => rfl
  | succ n ih =>
    rw [lsum_range_succ, List.range_succ, List.map_append, asumI_append, ih]
    simp [asumI]

theorem length_flatMap_range_map (n m : Nat) (g : Nat → Nat → Arc) :
    ((List.range n).flatMap (fun i => (List.range m).map (g i))).length = n * m := by
  simp [List.length_flatMap, List.map_const', List.sum_replicate_nat]

theorem asumI_flatMap_range (n m : Nat) (g : Nat → Nat → Arc) (k : Nat) (F : Nat → Arc → Int) :
    asumI ((List.range n).flatMap (fun i => (List.range m).map (g i))) k F =
      lsum (List.range n) (fun i => lsum (List.range m) (fun j => F (k + i * m + j) (g i j))) := by
  induction n with
  | zero => rfl
  | succ n ih =>
    rw [lsum_range_succ, List.range_succ, List.flatMap_append, asumI_append, ih, length_flatMap_range_map]
    simp only [List.flatMap_cons, List.flatMap_nil, List.append_nil]
    rw [asumI_map_range]

theorem lsum_range_getD_idx (l : List Arc) (d : Arc) (F : Nat → Arc → Int) :
    lsum (List.range l.length) (fun i => F i (l.getD i d)) = asumI l 0 F := by
  have gen : ∀ (l : List Arc) (k : Nat),
      lsum (List.range l.length) (fun i => F (k + i) (l.getD i d)) = asumI l k F := by
    intro l
    induction l with
    | nil => intro k; rfl
    | cons a as ih =>
      intro k
      rw [List.length_cons, List.range_succ_eq_map, lsum_cons, lsum_map]
      simp only [List.getD_cons_zero, List.getD_cons_succ, asumI, Nat.add_zero]
      rw [← ih (k + 1)]
      congr 1
      exact lsum_congr (fun i _ => by rw [show k + (i + 1) = k + 1 + i by omega])
  simpa using gen l 0

theorem Inst.lsum_arc_idx (I : Inst) (F : Nat → Arc → Int) :
    lsum (List.range I.m) (fun i => F i (I.arc i)) = asumI I.arcs 0 F :=
  lsum_range_getD_idx I.arcs _ F

end Solvor.Flow
