import Solvor.Flow.CutLemmas
/-! Flow: the Edmonds-Karp mirror of `EK.lean`: what its Boolean checkers say, one augmentation, the BFS invariant,
termination (core Lean only). -/
namespace Solvor.Flow
namespace Net
variable (N : Net)

theorem chkCap_iff (f : FlowT) :
    N.chkCap f = true ↔ ∀ u ∈ N.V, ∀ v ∈ N.V, 0 ≤ f.get u v ∧ f.get u v ≤ N.cap u v := by
  simp [chkCap]

theorem chkCons_iff (f : FlowT) :
    N.chkCons f = true ↔
      ∀ v ∈ N.V, v ≠ N.s → v ≠ N.t → N.inflow f.get v = N.outflow f.get v := by
  simp only [chkCons, List.all_eq_true, Bool.or_eq_true, beq_iff_eq]
  constructor
  · intro h v hv hs ht
    rcases h v hv with (h | h) | h
    · exact absurd h hs
    · exact absurd h ht
    · exact h
  · intro h v hv
    by_cases hs : v = N.s
    · exact Or.inl (Or.inl hs)
    · by_cases ht : v = N.t
      · exact Or.inl (Or.inr ht)
      · exact Or.inr (h v hv hs ht)

theorem chkValue_iff (f : FlowT) (val : Int) : N.chkValue f val = true ↔ N.value f.get = val := by
  simp [chkValue]

theorem chkCut_iff (f : FlowT) (S : List Nat) :
    N.chkCut f S = true ↔ N.s ∈ S ∧ N.t ∉ S ∧ N.Saturated f.get S := by
  simp only [chkCut, Saturated, Bool.and_eq_true, List.all_eq_true, not_or_eq_true, beq_iff_eq, Bool.not_eq_true',
    ← Bool.not_eq_true, List.contains_iff_mem, and_assoc, and_imp]

theorem chkFeasible_iff (f : FlowT) :
    (N.chkCap f && N.chkCons f) = true ↔ N.Feasible f.get := by
  rw [Bool.and_eq_true, chkCap_iff, chkCons_iff]
  constructor
  · rintro ⟨h1, h2⟩
    exact ⟨fun u hu v hv => (h1 u hu v hv).1, fun u hu v hv => (h1 u hu v hv).2, h2⟩
  · intro h
    exact ⟨fun u hu v hv => ⟨h.nonneg u hu v hv, h.le_cap u hu v hv⟩, h.cons⟩

/-- what the checker decides -/
theorem chkMaxFlow_iff (f : FlowT) (S : List Nat) (val : Int) :
    N.chkMaxFlow f S val = true ↔
      N.Feasible f.get ∧ N.value f.get = val ∧ N.s ∈ S ∧ N.t ∉ S ∧ N.Saturated f.get S := by
  unfold chkMaxFlow
  rw [Bool.and_eq_true, Bool.and_eq_true, chkFeasible_iff, chkValue_iff, chkCut_iff, and_assoc]

/-- capacity constraints on every pair (the mirror's tables are 0 outside the arcs) -/
def CapOK (f : FlowT) : Prop := ∀ u v, 0 ≤ f.get u v ∧ f.get u v ≤ N.cap u v

theorem step_other (f : FlowT) (u v : Nat) (d : Int) (a b : Nat)
    (h1 : ¬(a = u ∧ b = v)) (h2 : ¬(a = v ∧ b = u)) : (step f u v d).get a b = f.get a b := by
  unfold step
  split
  · simp only [FlowT.get_set, h1, h2, if_false]
  · simp only [FlowT.get_set, h1, if_false]

theorem step_spec {f : FlowT} {u v : Nat} {d : Int} (huv : u ≠ v) (hd0 : 0 ≤ d)
    (hd : d ≤ N.res f u v) (hc : N.CapOK f) :
    0 ≤ (step f u v d).get u v ∧ (step f u v d).get u v ≤ N.cap u v ∧
    0 ≤ (step f u v d).get v u ∧ (step f u v d).get v u ≤ N.cap v u ∧
    (step f u v d).get u v - (step f u v d).get v u = f.get u v - f.get v u + d := by
  have h1 := hc u v
  have h2 := hc v u
  have hvu : ¬(v = u ∧ u = v) := fun h => huv h.2
  have huv' : ¬(u = v ∧ v = u) := fun h => huv h.1
  unfold res at hd
  unfold step
  split
  · rename_i hpos
    simp only [FlowT.get_set, and_self, if_true, hvu, huv', if_false]
    omega
  · rename_i hpos
    simp only [FlowT.get_set, and_self, if_true, hvu, if_false]
    omega

theorem step_capOK {f : FlowT} {u v : Nat} {d : Int} (huv : u ≠ v) (hd0 : 0 ≤ d)
    (hd : d ≤ N.res f u v) (hc : N.CapOK f) : N.CapOK (step f u v d) := by
  intro a b
  obtain ⟨s1, s2, s3, s4, _⟩ := N.step_spec huv hd0 hd hc
  by_cases h1 : a = u ∧ b = v
  · obtain ⟨rfl, rfl⟩ := h1; exact ⟨s1, s2⟩
  · by_cases h2 : a = v ∧ b = u
    · obtain ⟨rfl, rfl⟩ := h2; exact ⟨s3, s4⟩
    · rw [step_other f u v d a b h1 h2]; exact hc a b

def excess (g : Nat → Nat → Int) (x : Nat) : Int := lsum N.V fun y => g y x - g x y

theorem excess_eq (g : Nat → Nat → Int) (x : Nat) : N.excess g x = N.inflow g x - N.outflow g x := by
  unfold excess inflow outflow; exact lsum_sub _ _ _

theorem excess_step (hV : N.V.Nodup) {f : FlowT} {u v : Nat} {d : Int} (huv : u ≠ v)
    (hu : u ∈ N.V) (hv : v ∈ N.V) (hd0 : 0 ≤ d) (hd : d ≤ N.res f u v) (hc : N.CapOK f) (x : Nat) :
    N.excess (step f u v d).get x =
      N.excess f.get x + (if x = v then d else 0) - (if x = u then d else 0) := by
  obtain ⟨_, _, _, _, hnet⟩ := N.step_spec huv hd0 hd hc
  have key : ∀ y, (step f u v d).get y x - (step f u v d).get x y =
      (f.get y x - f.get x y) + ((if y = u then (if x = v then d else 0) else 0)
        - (if y = v then (if x = u then d else 0) else 0)) := by
    intro y
    by_cases c1 : y = u ∧ x = v
    · obtain ⟨rfl, rfl⟩ := c1
      rw [if_pos rfl, if_pos rfl, if_neg huv, hnet, Int.sub_zero]
    · by_cases c2 : y = v ∧ x = u
      · -- the reverse of the arc: `hnet` with the sign turned
        obtain ⟨rfl, rfl⟩ := c2
        rw [if_neg (Ne.symm huv), if_pos rfl, if_pos rfl]; omega
      · have e1 : (step f u v d).get y x = f.get y x := step_other f u v d y x c1 c2
        have e2 : (step f u v d).get x y = f.get x y :=
          step_other f u v d x y (fun h => c2 ⟨h.2, h.1⟩) (fun h => c1 ⟨h.2, h.1⟩)
        rw [e1, e2]
        have z1 : (if y = u then (if x = v then d else 0) else 0) = 0 := by
          by_cases h : y = u
          · have : x ≠ v := fun h' => c1 ⟨h, h'⟩
            simp [h, this]
          · simp [h]
        have z2 : (if y = v then (if x = u then d else 0) else 0) = 0 := by
          by_cases h : y = v
          · have : x ≠ u := fun h' => c2 ⟨h, h'⟩
            simp [h, this]
          · simp [h]
        rw [z1, z2]; omega
  have e1 := lsum_ite_eq hV hu (if x = v then d else 0)
  have e2 := lsum_ite_eq hV hv (if x = u then d else 0)
  unfold excess
  rw [lsum_congr (fun y _ => key y), lsum_add, lsum_sub _ (fun y => if y = u then (if x = v then d else 0) else 0), e1, e2]
  omega

def PathGe (g : Nat → Nat → Int) (d : Int) : List Nat → Prop
  | u :: v :: r => d ≤ g u v ∧ PathGe g d (v :: r)
  | _ => True

def LastIs (n : Nat) : List Nat → Prop
  | [] => False
  | [a] => a = n
  | _ :: b :: r => LastIs n (b :: r)

theorem pathGe_congr {g g' : Nat → Nat → Int} {d : Int} :
    ∀ (p : List Nat), PathGe g d p → (∀ a b, a ∈ p → b ∈ p → g' a b = g a b) → PathGe g' d p
  | [], _, _ => trivial
  | [_], _, _ => trivial
  | u :: v :: r, h, H => by
    refine ⟨?_, pathGe_congr (v :: r) h.2 (fun a b ha hb =>
      H a b (List.mem_cons_of_mem _ ha) (List.mem_cons_of_mem _ hb))⟩
    rw [H u v List.mem_cons_self (List.mem_cons_of_mem _ List.mem_cons_self)]; exact h.1

theorem pathGe_mono {g : Nat → Nat → Int} {d d' : Int} (hd : d' ≤ d) :
    ∀ (p : List Nat), PathGe g d p → PathGe g d' p
  | [], _ => trivial
  | [_], _ => trivial
  | _ :: v :: r, h => ⟨Int.le_trans hd h.1, pathGe_mono hd (v :: r) h.2⟩

theorem lastIs_append (nb : Nat) : ∀ (p : List Nat), LastIs nb (p ++ [nb])
  | [] => rfl
  | [_] => rfl
  | _ :: b :: r => lastIs_append nb (b :: r)

theorem pathGe_append {g : Nat → Nat → Int} {d : Int} {n nb : Nat} (hn : d ≤ g n nb) :
    ∀ (p : List Nat), PathGe g d p → LastIs n p → PathGe g d (p ++ [nb])
  | [a], _, h => by
    have : a = n := h
    subst this; exact ⟨hn, trivial⟩
  | u :: v :: r, h, hl => ⟨h.1, pathGe_append hn (v :: r) h.2 hl⟩

theorem lastIs_mem {n : Nat} : ∀ (p : List Nat), LastIs n p → n ∈ p
  | [a], h => (show a = n from h) ▸ List.mem_cons_self
  | _ :: b :: r, h => List.mem_cons_of_mem _ (lastIs_mem (b :: r) h)

theorem aug_spec (hV : N.V.Nodup) {d : Int} (hd0 : 0 ≤ d) (p : List Nat) (f : FlowT) :
    p.Nodup → (∀ x ∈ p, x ∈ N.V) → N.CapOK f → PathGe (N.res f) d p →
      N.CapOK (aug f d p) ∧
      (∀ src dst, p.head? = some src → LastIs dst p → ∀ x,
        N.excess (aug f d p).get x =
          N.excess f.get x + (if x = dst then d else 0) - (if x = src then d else 0)) := by
  fun_induction aug f d p with
  | case1 f u v r ih =>
    intro hnd hmem hc hp
    have hnd' := List.nodup_cons.1 hnd
    have huv : u ≠ v := fun h => hnd'.1 (h ▸ List.mem_cons_self)
    have hu : u ∈ N.V := hmem u List.mem_cons_self
    have hv : v ∈ N.V := hmem v (List.mem_cons_of_mem _ List.mem_cons_self)
    -- the later arcs do not touch `u`, so their residuals are those of `f`
    have hp' : PathGe (N.res (step f u v d)) d (v :: r) := by
      apply pathGe_congr (v :: r) hp.2
      intro a b ha hb
      have hau : a ≠ u := fun h => hnd'.1 (h ▸ ha)
      have hbu : b ≠ u := fun h => hnd'.1 (h ▸ hb)
      unfold res
      rw [step_other f u v d a b (fun h => hau h.1) (fun h => hbu h.2),
        step_other f u v d b a (fun h => hbu h.1) (fun h => hau h.2)]
    obtain ⟨ih1, ih2⟩ := ih hnd'.2 (fun x hx => hmem x (List.mem_cons_of_mem _ hx))
      (N.step_capOK huv hd0 hp.1 hc) hp'
    refine ⟨ih1, fun src dst h1 h2 x => ?_⟩
    obtain rfl : u = src := Option.some.inj h1
    rw [ih2 v dst rfl h2 x, N.excess_step hV huv hu hv hd0 hp.1 hc x]
    omega
  | case2 p f hne =>
    intro _ _ hc _
    refine ⟨hc, fun src dst h1 h2 x => ?_⟩
    match p, hne, h1, h2 with
    | [a], _, h1, h2 =>
      obtain rfl : a = src := Option.some.inj h1
      obtain rfl : a = dst := h2
      omega
    | u :: v :: r, hne, _, _ => exact absurd rfl (hne u v r)

/-- The third clause is integrality: residuals of at least one unit give a path flow of at least one unit, which is what
lets the fuel `cutCap {s} + 1` of `loop` suffice. -/
theorem pathFlow_spec (f : FlowT) (p : List Nat) (acc : Option Int) (d : Int) :
    N.pathFlow f p acc = some d →
      PathGe (N.res f) d p ∧ (∀ m, acc = some m → d ≤ m) ∧
      (PathGe (N.res f) 1 p → (∀ m, acc = some m → 1 ≤ m) → 1 ≤ d) := by
  -- case1: the path has another arc; case2: it has none left
  fun_induction pathFlow N f p acc with
  | case1 u v r acc ih =>
    intro h
    obtain ⟨i1, i2, i3⟩ := ih h
    have hle := i2 _ rfl
    cases acc with
    | none => exact ⟨⟨hle, i1⟩, nofun, fun hp _ => i3 hp.2 fun m hm => Option.some.inj hm ▸ hp.1⟩
    | some m0 =>
      refine ⟨⟨Int.le_trans hle (Int.min_le_right _ _), i1⟩,
        fun m hm => Option.some.inj hm ▸ Int.le_trans hle (Int.min_le_left _ _),
        fun hp hm => i3 hp.2 fun m hm' => Option.some.inj hm' ▸ Int.le_min.2 ⟨hm m0 rfl, hp.1⟩⟩
  | case2 p acc hne =>
    intro h
    have hp : ∀ c, PathGe (N.res f) c p := fun c => by
      match p, hne with
      | [], _ => trivial
      | [_], _ => trivial
      | u :: v :: r, hne => exact absurd rfl (hne u v r)
    exact ⟨hp d, fun m hm => Option.some.inj (hm.symm.trans h) ▸ Int.le_refl _, fun _ hm => hm d h⟩

theorem pathFlow_isSome (f : FlowT) :
    ∀ (r : List Nat) (u v : Nat) (acc : Option Int), ∃ d, N.pathFlow f (u :: v :: r) acc = some d
  | [], _, _, _ => ⟨_, rfl⟩
  | w :: r, u, v, acc => by
    obtain ⟨d, hd⟩ := pathFlow_isSome f r v w
      (some (match acc with | none => N.res f u v | some m => min m (N.res f u v)))
    exact ⟨d, hd⟩

/-- `p` is a simple residual path from the source to `n` that stays inside `vis` -/
structure GoodPath (f : FlowT) (vis : List Nat) (n : Nat) (p : List Nat) : Prop where
  head  : p.head? = some N.s
  last  : LastIs n p
  nodup : p.Nodup
  chain : PathGe (N.res f) 1 p
  sub   : ∀ x ∈ p, x ∈ vis

/-- `x` has been expanded: it is not the sink and every residual arc out of `x` along a key of `capacity[x]` stays
inside `vis` -/
def Expanded (f : FlowT) (vis : List Nat) (x : Nat) : Prop :=
  x ≠ N.t ∧ ∀ y ∈ N.adj x, 0 < N.res f x y → y ∈ vis

/-- invariant of `bfs()`: every queue entry carries a good path to its node, and every visited node waits in the queue
or has been expanded.  While a node is expanded its entry is kept as the head of the queue (`expand_spec`). -/
structure BInv (f : FlowT) (vis : List Nat) (q : List (Nat × List Nat)) : Prop where
  s_mem : N.s ∈ vis
  sub   : ∀ x ∈ vis, x ∈ N.V
  paths : ∀ e ∈ q, N.GoodPath f vis e.1 e.2
  cover : ∀ x ∈ vis, (∃ p, (x, p) ∈ q) ∨ N.Expanded f vis x

variable {N} in
theorem GoodPath.mono {f : FlowT} {vis vis' : List Nat} {n : Nat} {p : List Nat}
    (h : N.GoodPath f vis n p) (hs : ∀ x ∈ vis, x ∈ vis') : N.GoodPath f vis' n p :=
  ⟨h.head, h.last, h.nodup, h.chain, fun x hx => hs x (h.sub x hx)⟩

variable {N} in
theorem Expanded.mono {f : FlowT} {vis vis' : List Nat} {x : Nat}
    (h : N.Expanded f vis x) (hs : ∀ x ∈ vis, x ∈ vis') : N.Expanded f vis' x :=
  ⟨h.1, fun y hy hr => hs y (h.2 y hy hr)⟩

def unvis (vis : List Nat) : Nat := (N.V.filter fun x => !vis.contains x).length

theorem unvis_append_lt {vis : List Nat} {nb : Nat} (hV : nb ∈ N.V) (hn : nb ∉ vis) :
    N.unvis (vis ++ [nb]) < N.unvis vis := by
  unfold unvis
  apply filter_length_lt (z := nb) _ hV
  · simpa using hn
  · simp
  · intro x _ hx
    simp only [List.contains_append, Bool.not_eq_eq_eq_not, Bool.not_true, Bool.or_eq_false_iff] at hx
    simpa using hx.1

/-- The entry of `node` still counts as the head of the queue.  A discovery removes one unvisited node and adds one queue
entry, a pop removes one entry, so `2·unvis + |queue|` drops with every pop: `bfsFuel = 2·|V| + 2` pops suffice. -/
theorem expand_spec (f : FlowT) (node : Nat) (path : List Nat)
    (rest : List Nat) (st : List Nat × List (Nat × List Nat)) :
      N.BInv f st.1 ((node, path) :: st.2) → (∀ y ∈ rest, y ∈ N.V) →
      N.BInv f (N.expand f node path rest st).1 ((node, path) :: (N.expand f node path rest st).2) ∧
      (∀ x ∈ st.1, x ∈ (N.expand f node path rest st).1) ∧
      (∀ y ∈ rest, 0 < N.res f node y → y ∈ (N.expand f node path rest st).1) ∧
      2 * N.unvis (N.expand f node path rest st).1 + (N.expand f node path rest st).2.length
        ≤ 2 * N.unvis st.1 + st.2.length := by
  -- case1: no neighbour left; case2: `nb` is new and residual, it is discovered; case3: `nb` is skipped
  fun_induction expand N f node path rest st with
  | case1 st => exact fun hI _ => ⟨hI, fun _ h => h, nofun, Nat.le_refl _⟩
  | case2 nb rest vis q hc ih =>
    intro hI hR
    simp only [Bool.and_eq_true, Bool.not_eq_eq_eq_not, Bool.not_true, decide_eq_true_eq] at hc
    have hnv : nb ∉ vis := by simpa using hc.1
    have hnbV : nb ∈ N.V := hR nb List.mem_cons_self
    have hsub : ∀ x ∈ vis, x ∈ vis ++ [nb] := fun x hx => List.mem_append_left _ hx
    have hP : N.GoodPath f vis node path := hI.paths (node, path) List.mem_cons_self
    -- the queue is `((node, path) :: q) ++ [(nb, path ++ [nb])]`
    have hI' : N.BInv f (vis ++ [nb]) ((node, path) :: (q ++ [(nb, path ++ [nb])])) := by
      refine ⟨hsub _ hI.s_mem, ?_, ?_, ?_⟩
      · intro x hx
        rcases List.mem_append.1 hx with h | h
        · exact hI.sub x h
        · exact List.mem_singleton.1 h ▸ hnbV
      · intro e he
        rcases List.mem_append.1 (show e ∈ ((node, path) :: q) ++ [(nb, path ++ [nb])] from he) with h | h
        · exact (hI.paths e h).mono hsub
        · obtain rfl : e = (nb, path ++ [nb]) := List.mem_singleton.1 h
          refine ⟨?_, lastIs_append nb path, ?_, pathGe_append hc.2 path hP.chain hP.last, ?_⟩
          · have := hP.head
            cases path with
            | nil => cases this
            | cons a as => exact this
          · rw [List.nodup_append]
            refine ⟨hP.nodup, by simp, fun a ha b hb hab => ?_⟩
            exact hnv (List.mem_singleton.1 hb ▸ hab ▸ hP.sub a ha)
          · intro x hx
            rcases List.mem_append.1 hx with h | h
            · exact hsub x (hP.sub x h)
            · exact List.mem_append_right _ h
      · intro x hx
        rcases List.mem_append.1 hx with h | h
        · rcases hI.cover x h with ⟨p, c⟩ | c
          · exact Or.inl ⟨p, show (x, p) ∈ ((node, path) :: q) ++ _ from List.mem_append_left _ c⟩
          · exact Or.inr (c.mono hsub)
        · obtain rfl : x = nb := List.mem_singleton.1 h
          exact Or.inl ⟨path ++ [x],
            show _ ∈ ((node, path) :: q) ++ _ from List.mem_append_right _ List.mem_cons_self⟩
    obtain ⟨r1, r2, r3, r4⟩ := ih hI' fun y hy => hR y (List.mem_cons_of_mem _ hy)
    refine ⟨r1, fun x hx => r2 x (hsub x hx), fun y hy hry => ?_, ?_⟩
    · rcases List.mem_cons.1 hy with rfl | h
      · exact r2 y (List.mem_append_right _ List.mem_cons_self)
      · exact r3 y h hry
    · have := N.unvis_append_lt hnbV hnv
      simp only [List.length_append, List.length_cons, List.length_nil] at r4
      show 2 * N.unvis _ + _ ≤ 2 * N.unvis vis + q.length
      omega
  | case3 nb rest vis q hc ih =>
    intro hI hR
    obtain ⟨r1, r2, r3, r4⟩ := ih hI fun y hy => hR y (List.mem_cons_of_mem _ hy)
    refine ⟨r1, r2, fun y hy hry => ?_, r4⟩
    rcases List.mem_cons.1 hy with rfl | h
    · simp only [Bool.and_eq_true, Bool.not_eq_eq_eq_not, Bool.not_true, decide_eq_true_eq, not_and] at hc
      by_cases hv : y ∈ vis
      · exact r2 y hv
      · exact absurd hry (hc (by simpa using hv))
    · exact r3 y h hry

/-- what `bfs()` returns: a simple residual s-t path inside `V`, or a visited set containing the
source, not the sink, closed under residual arcs along the keys of `capacity[·]` -/
def BfsPost (f : FlowT) : Option (List Nat) × List Nat → Prop
  | (some p, vis) => N.GoodPath f vis N.t p ∧ ∀ x ∈ vis, x ∈ N.V
  | (none, vis) => N.s ∈ vis ∧ N.t ∉ vis ∧ ∀ x ∈ vis, ∀ y ∈ N.adj x, 0 < N.res f x y → y ∈ vis

theorem bfs_spec (hadj : ∀ u v, v ∈ N.adj u → v ∈ N.V) (f : FlowT)
    (fuel : Nat) (vis : List Nat) (q : List (Nat × List Nat)) :
      N.BInv f vis q → 2 * N.unvis vis + q.length < fuel → N.BfsPost f (N.bfs f fuel vis q) := by
  -- case1: fuel spent; case2: queue empty; case3: the sink is popped; case4: `node` is popped and expanded
  fun_induction bfs N f fuel vis q with
  | case1 => exact fun _ h => absurd h (Nat.not_lt_zero _)
  | case2 _ vis =>
    intro hI _
    have hcl : ∀ x ∈ vis, N.Expanded f vis x := fun x hx => (hI.cover x hx).resolve_left (fun ⟨_, c⟩ => by cases c)
    exact ⟨hI.s_mem, fun h => (hcl _ h).1 rfl, fun x hx => (hcl x hx).2⟩
  | case3 fuel vis path q =>
    exact fun hI _ => ⟨hI.paths (N.t, path) List.mem_cons_self, hI.sub⟩
  | case4 fuel vis node path q hnt st ih =>
    intro hI hm
    obtain ⟨r1, r2, r3, r4⟩ := N.expand_spec f node path (N.adj node) (vis, q) hI (hadj node)
    -- `node` leaves the queue: all its residual neighbours are visited now
    refine ih ⟨r1.s_mem, r1.sub, fun e he => r1.paths e (List.mem_cons_of_mem _ he), fun x hx => ?_⟩ ?_
    · rcases r1.cover x hx with ⟨p, c⟩ | c
      · rcases List.mem_cons.1 c with h | h
        · obtain rfl : x = node := congrArg Prod.fst h
          exact Or.inr ⟨hnt, r3⟩
        · exact Or.inl ⟨p, h⟩
      · exact Or.inr c
    · simp only [List.length_cons] at hm
      have : 2 * N.unvis st.1 + st.2.length ≤ 2 * N.unvis vis + q.length := r4
      omega

theorem bfs_init (hs : N.s ∈ N.V) (f : FlowT) : N.BInv f [N.s] [(N.s, [N.s])] := by
  refine ⟨List.mem_cons_self, ?_, ?_, ?_⟩
  · intro x hx
    have : x = N.s := List.mem_singleton.1 hx
    exact this ▸ hs
  · intro e he
    have : e = (N.s, [N.s]) := List.mem_singleton.1 he
    subst this
    exact ⟨rfl, rfl, by simp, trivial, fun x hx => hx⟩
  · intro x hx
    have : x = N.s := List.mem_singleton.1 hx
    subst this
    exact Or.inl ⟨[N.s], List.mem_cons_self⟩

theorem unvis_le (vis : List Nat) : N.unvis vis ≤ N.V.length := List.length_filter_le _ _

theorem bfs_top (h : N.WF) (f : FlowT) :
    N.BfsPost f (N.bfs f N.bfsFuel [N.s] [(N.s, [N.s])]) := by
  apply N.bfs_spec h.adj_mem f _ _ _ (N.bfs_init h.s_mem f)
  have := N.unvis_le [N.s]
  simp only [bfsFuel, List.length_cons, List.length_nil]
  omega

theorem closed_saturated (h : N.WF) {f : FlowT} (hc : N.CapOK f) {vis : List Nat}
    (hcl : ∀ x ∈ vis, ∀ y ∈ N.adj x, 0 < N.res f x y → y ∈ vis) : N.Saturated f.get vis := by
  intro u _ v _ huS hvS
  have h1 := hc u v
  have h2 := hc v u
  by_cases hr : 0 < N.res f u v
  · exfalso
    apply hvS
    apply hcl u huS v _ hr
    unfold res at hr
    by_cases hcap : 0 < N.cap u v
    · exact h.cap_adj u v hcap
    · have : 0 < N.cap v u := by omega
      exact h.adj_symm v u (h.cap_adj v u this)
  · unfold res at hr
    omega

/-- loop invariant of `while path := bfs()` -/
structure LInv (f : FlowT) (tot : Int) : Prop where
  capOK : N.CapOK f
  cons  : ∀ x ∈ N.V, x ≠ N.s → x ≠ N.t → N.excess f.get x = 0
  val   : N.excess f.get N.t = tot

theorem LInv.feasible {f : FlowT} {tot : Int} (h : N.LInv f tot) : N.Feasible f.get :=
  ⟨fun u _ v _ => (h.capOK u v).1, fun u _ v _ => (h.capOK u v).2, fun v hv hs ht => by
    have := h.cons v hv hs ht
    rw [excess_eq] at this; omega⟩

theorem LInv.value {f : FlowT} {tot : Int} (h : N.LInv f tot) : N.value f.get = tot := by
  have := h.val
  rw [excess_eq] at this
  exact this

theorem LInv.init (h : N.WF) : N.LInv [] 0 := by
  refine ⟨fun u v => ⟨by simp, by simpa using h.cap_nonneg u v⟩, ?_, ?_⟩
  · intro x _ _ _
    unfold excess
    exact lsum_eq_zero (fun y _ => by simp)
  · unfold excess
    exact lsum_eq_zero (fun y _ => by simp)

variable {N} in
theorem LInv.aug (h : N.WF) {f : FlowT} {tot : Int} (hI : N.LInv f tot) {vis p : List Nat}
    (hp : N.GoodPath f vis N.t p) (hvis : ∀ x ∈ vis, x ∈ N.V) {d : Int}
    (hd : N.pathFlow f p none = some d) : 1 ≤ d ∧ N.LInv (aug f d p) (tot + d) := by
  obtain ⟨g1, _, g3⟩ := N.pathFlow_spec f _ _ _ hd
  have hd1 : 1 ≤ d := g3 hp.chain (fun m hm => by cases hm)
  obtain ⟨a1, a2⟩ := N.aug_spec h.nodup (by omega : 0 ≤ d) p f hp.nodup
    (fun x hx => hvis x (hp.sub x hx)) hI.capOK g1
  refine ⟨hd1, a1, fun x hx hs ht => ?_, ?_⟩
  · rw [a2 N.s N.t hp.head hp.last x, hI.cons x hx hs ht, if_neg ht, if_neg hs]; rfl
  · rw [a2 N.s N.t hp.head hp.last N.t, hI.val, if_pos rfl, if_neg (fun e => h.s_ne_t e.symm)]
    omega

/-- the postcondition of `max_flow` -/
structure Correct (o : Out) : Prop where
  done      : o.done = true
  feasible  : N.Feasible o.flow.get
  value     : N.value o.flow.get = o.value
  s_mem     : N.s ∈ o.vis
  t_not_mem : N.t ∉ o.vis
  saturated : N.Saturated o.flow.get o.vis

variable {N} in
theorem LInv.le_cutCap (h : N.WF) {f : FlowT} {tot : Int} (hI : N.LInv f tot) : tot ≤ N.cutCap [N.s] := by
  have := N.value_le_cutCap h.nodup h.t_mem (S := [N.s]) (by simp)
    (by simpa using h.s_ne_t.symm) hI.feasible
  rwa [hI.value] at this

theorem loop_spec (h : N.WF) (n : Nat) (f : FlowT) (tot : Int) (k : Nat) (c : Cov) :
    N.LInv f tot → N.cutCap [N.s] - tot < n → N.Correct (N.loop n f tot k c) := by
  -- case1: fuel spent; case2: a path is found and augmented; case3: `pathFlow` is `inf` (a path of one node);
  -- case4: no path, the loop ends
  fun_induction loop N n f tot k c with
  | case1 f tot => exact fun hI hn => by have := hI.le_cutCap h; omega
  | case2 n f tot k c p vis' heq d hd ih =>
    intro hI hn
    have hb := N.bfs_top h f
    rw [heq] at hb
    obtain ⟨hP, hvis⟩ := hb
    obtain ⟨hd1, hI'⟩ := hI.aug h hP hvis hd
    exact ih hI' (by omega)
  | case3 n f tot k c p vis' heq hd =>
    intro hI _
    have hb := N.bfs_top h f
    rw [heq] at hb
    obtain ⟨hP, _⟩ := hb
    -- the path has at least two nodes since s ≠ t
    match p, hP.head, hP.last, hd with
    | [a], hh, hl, _ => exact absurd ((Option.some.inj hh).symm.trans hl) h.s_ne_t
    | u :: v :: r, _, _, hd =>
      obtain ⟨d, hd'⟩ := N.pathFlow_isSome f r u v none
      rw [hd'] at hd; cases hd
  | case4 n f tot k c vis heq =>
    intro hI _
    have hb := N.bfs_top h f
    rw [heq] at hb
    exact ⟨rfl, hI.feasible, hI.value, hb.1, hb.2.1, N.closed_saturated h hI.capOK hb.2.2⟩

theorem maxFlow_correct (h : N.WF) : N.Correct N.maxFlow :=
  N.loop_spec h _ [] 0 0 {} (LInv.init N h) (by have := (LInv.init N h).le_cutCap h; omega)

end Net
end Solvor.Flow
