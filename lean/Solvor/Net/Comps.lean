import Solvor.Net.Lemmas
/-! Net: reachability, the component list `comps` and its count: `comps` lists the reachability
classes, every transversal has `compCount` elements, and how the count of a graph compares with that
of a sub-graph (core Lean only).  The cut-vertex and bridge statements are phrased with the relation `Conn` of `Conn.lean`;
`reach_iff_conn` there (with `reach_sub_iff`, `reach_without_iff`) is the passage between `Reach` and `Conn`. -/
namespace Solvor.Net

variable {nodes : List Nat} {arc : Nat → Nat → Bool}

theorem linked_iff {S : List Nat} {w : Nat} :
    linked arc S w = true ↔ ∃ u ∈ S, (arc u w || arc w u) = true := by
  simp [linked]

theorem Reach.trans {a b c : Nat} (h1 : Reach nodes arc a b) (h2 : Reach nodes arc b c) :
    Reach nodes arc a c := by
  induction h2 with
  | refl => exact h1
  | step _ hv hw hl ih => exact Reach.step ih hv hw hl

theorem Reach.single {a b : Nat} (ha : a ∈ nodes) (hb : b ∈ nodes) (hl : (arc a b || arc b a) = true) :
    Reach nodes arc a b := Reach.step (Reach.refl a) ha hb hl

theorem Reach.symm {a b : Nat} (h : Reach nodes arc a b) : Reach nodes arc b a := by
  induction h with
  | refl => exact Reach.refl _
  | step _ hv hw hl ih =>
    exact Reach.trans (Reach.single hw hv (by rw [Bool.or_comm]; exact hl)) ih

theorem Reach.mem {a b : Nat} (h : Reach nodes arc a b) (ha : a ∈ nodes) : b ∈ nodes := by
  cases h with
  | refl => exact ha
  | step _ _ hw _ => exact hw

theorem grow_spec (s : Nat) : ∀ (fuel : Nat) (rest S : List Nat),
    (∀ x ∈ S, Reach nodes arc s x ∧ x ∈ nodes) →
    (∀ w ∈ nodes, w ∈ S ∨ w ∈ rest) → (∀ w ∈ rest, w ∈ nodes) → rest.length ≤ fuel →
    (∀ x ∈ S, x ∈ grow arc fuel rest S) ∧
    (∀ x ∈ grow arc fuel rest S, Reach nodes arc s x ∧ x ∈ nodes) ∧
    (∀ x ∈ grow arc fuel rest S, ∀ w ∈ nodes, (arc x w || arc w x) = true → w ∈ grow arc fuel rest S) := by
  intro fuel
  induction fuel with
  | zero =>
    intro rest S h1 h3 _ h5
    have hr : rest = [] := List.eq_nil_of_length_eq_zero (Nat.le_zero.1 h5)
    subst hr
    refine ⟨fun x hx => hx, h1, ?_⟩
    intro x _ w hw _
    rcases h3 w hw with h | h
    · exact h
    · cases h
  | succ f ih =>
    intro rest S h1 h3 h4 h5
    unfold grow
    simp only
    split
    · rename_i hemp
      refine ⟨fun x hx => hx, h1, ?_⟩
      intro x hx w hw hl
      rcases h3 w hw with h | h
      · exact h
      · exfalso
        have : w ∈ rest.filter (linked arc S) := by
          rw [List.mem_filter]; exact ⟨h, linked_iff.2 ⟨x, hx, hl⟩⟩
        rw [List.isEmpty_iff] at hemp
        rw [hemp] at this; cases this
    · rename_i hne
      have hlen : (rest.filter fun w => !linked arc S w).length ≤ f := by
        have hsum := length_filter_split (linked arc S) rest
        have hpos : 0 < (rest.filter (linked arc S)).length := by
          cases hq : rest.filter (linked arc S) with
          | nil => rw [hq] at hne; simp at hne
          | cons a as => simp
        refine Nat.le_of_lt_succ (Nat.lt_of_lt_of_le ?_ h5)
        rw [hsum]; exact Nat.lt_add_of_pos_left hpos
      have hrec := ih (rest.filter fun w => !linked arc S w) (S ++ rest.filter (linked arc S))
        (by
          intro x hx
          rcases List.mem_append.1 hx with hx | hx
          · exact h1 x hx
          · rw [List.mem_filter] at hx
            obtain ⟨u, hu, hl⟩ := linked_iff.1 hx.2
            exact ⟨Reach.step (h1 u hu).1 (h1 u hu).2 (h4 x hx.1) hl, h4 x hx.1⟩)
        (by
          intro w hw
          rcases h3 w hw with h | h
          · left; exact List.mem_append_left _ h
          · by_cases hl : linked arc S w = true
            · left; exact List.mem_append_right _ (List.mem_filter.2 ⟨h, hl⟩)
            · right; exact List.mem_filter.2 ⟨h, by simp [hl]⟩)
        (fun w hw => h4 w (List.mem_filter.1 hw).1) hlen
      exact ⟨fun x hx => hrec.1 x (List.mem_append_left _ hx), hrec.2.1, hrec.2.2⟩

theorem mem_closure_iff {s : Nat} (hs : s ∈ nodes) (w : Nat) :
    w ∈ closure nodes arc s ↔ Reach nodes arc s w := by
  have h := grow_spec (nodes := nodes) (arc := arc) s nodes.length (nodes.filter (· != s)) [s]
    (by intro x hx; simp only [List.mem_singleton] at hx; subst hx; exact ⟨Reach.refl _, hs⟩)
    (by
      intro w hw
      by_cases h : w = s
      · left; simp [h]
      · right; exact List.mem_filter.2 ⟨hw, by simpa using h⟩)
    (fun w hw => (List.mem_filter.1 hw).1) (List.length_filter_le _ _)
  unfold closure
  constructor
  · intro hw; exact (h.2.1 w hw).1
  · intro hr
    induction hr with
    | refl => exact h.1 s (by simp)
    | step _ _ hw hl ih => exact h.2.2 _ ih _ hw hl

/-- `C` lists reachability classes, no class twice; that every node lies in one of them is not part of it (`comps_ok`) -/
structure CompsOk (nodes : List Nat) (arc : Nat → Nat → Bool) (C : List (List Nat)) : Prop where
  classes  : ∀ c ∈ C, ∃ r ∈ nodes, ∀ w, w ∈ c ↔ Reach nodes arc r w
  disjoint : C.Pairwise (fun a b => ∀ v ∈ a, v ∉ b)

theorem compsAux_spec : ∀ (l : List Nat) (acc : List (List Nat)),
    (∀ v ∈ l, v ∈ nodes) → CompsOk nodes arc acc →
    CompsOk nodes arc (compsAux nodes arc l acc) ∧
    (∀ c ∈ acc, c ∈ compsAux nodes arc l acc) ∧
    (∀ v ∈ l, ∃ c ∈ compsAux nodes arc l acc, v ∈ c) := by
  intro l
  induction l with
  | nil => intro acc _ h; exact ⟨h, fun c hc => hc, by simp⟩
  | cons v vs ih =>
    intro acc hl hacc
    have hvs : ∀ x ∈ vs, x ∈ nodes := fun x hx => hl x (List.mem_cons_of_mem _ hx)
    have hv : v ∈ nodes := hl v List.mem_cons_self
    unfold compsAux
    split
    · rename_i hcov
      obtain ⟨h1, h2, h3⟩ := ih acc hvs hacc
      refine ⟨h1, h2, ?_⟩
      intro x hx
      rcases List.mem_cons.1 hx with rfl | hx
      · obtain ⟨c, hc, hvc⟩ := List.any_eq_true.1 hcov
        exact ⟨c, h2 c hc, by simpa using hvc⟩
      · exact h3 x hx
    · rename_i hcov
      have hnot : ∀ c ∈ acc, v ∉ c := by
        intro c hc hvc
        exact hcov (List.any_eq_true.2 ⟨c, hc, by simpa using hvc⟩)
      have hnew : CompsOk nodes arc (acc ++ [closure nodes arc v]) := by
        constructor
        · intro c hc
          rcases List.mem_append.1 hc with hc | hc
          · exact hacc.classes c hc
          · simp only [List.mem_singleton] at hc
            subst hc
            exact ⟨v, hv, mem_closure_iff hv⟩
        · rw [List.pairwise_append]
          refine ⟨hacc.disjoint, by simp, ?_⟩
          intro a ha b hb x hxa hxb
          simp only [List.mem_singleton] at hb
          subst hb
          obtain ⟨r, _, hr⟩ := hacc.classes a ha
          have h1 : Reach nodes arc r x := (hr x).1 hxa
          have h2 : Reach nodes arc v x := (mem_closure_iff hv x).1 hxb
          exact hnot a ha ((hr v).2 (h1.trans h2.symm))
      obtain ⟨h1, h2, h3⟩ := ih _ hvs hnew
      refine ⟨h1, fun c hc => h2 c (List.mem_append_left _ hc), ?_⟩
      intro x hx
      rcases List.mem_cons.1 hx with rfl | hx
      · exact ⟨closure nodes arc x, h2 _ (by simp), (mem_closure_iff hv x).2 (Reach.refl _)⟩
      · exact h3 x hx

theorem comps_ok (nodes : List Nat) (arc : Nat → Nat → Bool) :
    CompsOk nodes arc (comps nodes arc) ∧ ∀ v ∈ nodes, ∃ c ∈ comps nodes arc, v ∈ c := by
  obtain ⟨hok, _, hcov⟩ := compsAux_spec (nodes := nodes) (arc := arc) nodes []
    (fun v hv => hv) ⟨by simp, by simp⟩
  exact ⟨hok, hcov⟩

theorem length_le_of_inj {α β} [BEq β] [LawfulBEq β] (Rel : α → β → Prop) :
    ∀ (A : List α) (B : List β),
    A.Pairwise (fun a a' => ∀ b ∈ B, Rel a b → ¬ Rel a' b) →
    (∀ a ∈ A, ∃ b ∈ B, Rel a b) → A.length ≤ B.length := by
  intro A
  induction A with
  | nil => intro B _ _; simp
  | cons a A ih =>
    intro B hp hex
    obtain ⟨b, hb, hab⟩ := hex a List.mem_cons_self
    rw [List.pairwise_cons] at hp
    have h := ih (B.erase b)
      (hp.2.imp (fun {x y} hxy b' hb' => hxy b' (List.mem_of_mem_erase hb')))
      (by
        intro a' ha'
        obtain ⟨b', hb', hab'⟩ := hex a' (List.mem_cons_of_mem _ ha')
        have hne : b' ≠ b := by
          intro heq; subst heq
          exact hp.1 a' ha' b' hb' hab hab'
        exact ⟨b', (List.mem_erase_of_ne hne).2 hb', hab'⟩)
    rw [List.length_erase_of_mem hb] at h
    have : 0 < B.length := List.length_pos_of_mem hb
    simp only [List.length_cons]
    exact Nat.succ_le_of_lt (Nat.lt_of_le_of_lt h (Nat.sub_lt this Nat.one_pos))

/-- a *transversal*: one node of every reachability class -/
structure IsTransversal (nodes : List Nat) (arc : Nat → Nat → Bool) (R : List Nat) : Prop where
  sub   : ∀ r ∈ R, r ∈ nodes
  apart : R.Pairwise (fun r r' => ¬ Reach nodes arc r r')
  cover : ∀ v ∈ nodes, ∃ r ∈ R, Reach nodes arc r v

theorem transversal_length (R : List Nat) (hR : IsTransversal nodes arc R) :
    R.length = compCount nodes arc := by
  obtain ⟨hok, hcov⟩ := comps_ok nodes arc
  unfold compCount
  -- counted both ways: representatives into components, components into representatives
  apply Nat.le_antisymm
  · apply length_le_of_inj (fun (r : Nat) (c : List Nat) => r ∈ c) R (comps nodes arc)
    · refine hR.apart.imp ?_
      intro r r' hrr c hc hrc hr'c
      obtain ⟨r0, _, h0⟩ := hok.classes c hc
      exact hrr (((h0 r).1 hrc).symm.trans ((h0 r').1 hr'c))
    · intro r hr; exact hcov r (hR.sub r hr)
  · apply length_le_of_inj (fun (c : List Nat) (r : Nat) => r ∈ c) (comps nodes arc) R
    · refine hok.disjoint.imp ?_
      intro a b hab r _ hra hrb
      exact hab r hra hrb
    · intro c hc
      obtain ⟨r0, hr0, h0⟩ := hok.classes c hc
      obtain ⟨r, hr, hrr⟩ := hR.cover r0 hr0
      exact ⟨r, hr, (h0 r).2 hrr.symm⟩

theorem exists_transversal (nodes : List Nat) (arc : Nat → Nat → Bool) : ∃ T, IsTransversal nodes arc T := by
  have gen : ∀ l : List Nat, (∀ v ∈ l, v ∈ nodes) → ∃ T : List Nat, (∀ r ∈ T, r ∈ nodes) ∧
      T.Pairwise (fun r r' => ¬ Reach nodes arc r r') ∧ ∀ v ∈ l, ∃ r ∈ T, Reach nodes arc r v := by
    intro l
    induction l with
    | nil => intro _; exact ⟨[], by simp, List.Pairwise.nil, by simp⟩
    | cons v l ih =>
      intro hl
      obtain ⟨T, h1, h2, h3⟩ := ih fun x hx => hl x (List.mem_cons_of_mem _ hx)
      -- greedily: a node not reachable from the representatives chosen so far becomes one
      by_cases h : ∃ r ∈ T, Reach nodes arc r v
      · refine ⟨T, h1, h2, fun x hx => ?_⟩
        rcases List.mem_cons.1 hx with rfl | hx
        · exact h
        · exact h3 x hx
      · refine ⟨v :: T, ?_, List.pairwise_cons.2 ⟨fun r hr hvr => h ⟨r, hr, hvr.symm⟩, h2⟩, fun x hx => ?_⟩
        · intro r hr
          rcases List.mem_cons.1 hr with rfl | hr
          · exact hl r List.mem_cons_self
          · exact h1 r hr
        · rcases List.mem_cons.1 hx with rfl | hx
          · exact ⟨x, List.mem_cons_self, Reach.refl _⟩
          · obtain ⟨r, hr, hrx⟩ := h3 x hx
            exact ⟨r, List.mem_cons_of_mem _ hr, hrx⟩
  obtain ⟨T, h1, h2, h3⟩ := gen nodes fun v hv => hv
  exact ⟨T, h1, h2, h3⟩

section compare
variable {nodes1 nodes2 : List Nat} {arc1 arc2 : Nat → Nat → Bool}

theorem count_le_of_merge (hsub : ∀ z ∈ nodes2, z ∈ nodes1)
    (hmerge : ∀ x ∈ nodes2, ∀ y ∈ nodes2, Reach nodes1 arc1 x y → Reach nodes2 arc2 x y) :
    compCount nodes2 arc2 ≤ compCount nodes1 arc1 := by
  obtain ⟨T1, hT1⟩ := exists_transversal nodes1 arc1
  obtain ⟨T2, hT2⟩ := exists_transversal nodes2 arc2
  rw [← transversal_length T1 hT1, ← transversal_length T2 hT2]
  apply length_le_of_inj (fun (r' r : Nat) => Reach nodes1 arc1 r r') T2 T1
  · refine (List.Pairwise.and_mem.1 hT2.apart).imp ?_
    intro r1 r2 h r _ h1 h2
    exact h.2.2 (hmerge r1 (hT2.sub r1 h.1) r2 (hT2.sub r2 h.2.1) (h1.symm.trans h2))
  · intro r' hr'
    exact hT1.cover r' (hsub r' (hT2.sub r' hr'))

/-- `hH`: graph 2 may lack nodes of graph 1, but only nodes connected to `x0` (in `isCutVertex_iff`: the removed vertex, `x0` being
one of its neighbours) -/
theorem count_lt_of_split (hfine : ∀ x y, Reach nodes2 arc2 x y → Reach nodes1 arc1 x y)
    {x0 y0 : Nat} (hx0 : x0 ∈ nodes2) (hy0 : y0 ∈ nodes2) (hxy : Reach nodes1 arc1 x0 y0)
    (hsep : ¬ Reach nodes2 arc2 x0 y0)
    (hH : ∀ r ∈ nodes1, Reach nodes1 arc1 r x0 ∨ r ∈ nodes2) :
    compCount nodes1 arc1 < compCount nodes2 arc2 := by
  obtain ⟨T1, hT1⟩ := exists_transversal nodes1 arc1
  obtain ⟨T2, hT2⟩ := exists_transversal nodes2 arc2
  rw [← transversal_length T1 hT1, ← transversal_length T2 hT2]
  obtain ⟨x', hx', hxr⟩ := hT2.cover x0 hx0
  obtain ⟨y', hy', hyr⟩ := hT2.cover y0 hy0
  have hne : y' ≠ x' := by
    intro e; subst e
    exact hsep (hxr.symm.trans hyr)
  have hle : T1.length ≤ (T2.erase x').length := by
    apply length_le_of_inj (fun (r r' : Nat) => Reach nodes1 arc1 r r') T1 (T2.erase x')
    · refine hT1.apart.imp ?_
      intro r1 r2 h r _ h1 h2
      exact h (h1.trans h2.symm)
    · intro r hr
      by_cases hrx : Reach nodes1 arc1 r x0
      · exact ⟨y', (List.mem_erase_of_ne hne).2 hy', (hrx.trans hxy).trans (hfine _ _ hyr).symm⟩
      · have hr2 : r ∈ nodes2 := by
          rcases hH r (hT1.sub r hr) with h | h
          · exact absurd h hrx
          · exact h
        obtain ⟨r', hr', hrr⟩ := hT2.cover r hr2
        have hne' : r' ≠ x' := by
          intro e; subst e
          exact hrx (hfine _ _ (hrr.symm.trans hxr))
        exact ⟨r', (List.mem_erase_of_ne hne').2 hr', (hfine _ _ hrr).symm⟩
  rw [List.length_erase_of_mem hx'] at hle
  exact Nat.lt_of_le_of_lt hle (Nat.sub_lt (List.length_pos_of_mem hx') Nat.one_pos)

end compare

end Solvor.Net
