import Solvor.Net.Lemmas
/-! Net: the bookkeeping of the Louvain mirror: `node_to_comm` / `comm_nodes` stay a partition
(`LInv`), and how a run ends (core Lean only). -/
namespace Solvor.Net

/-- node `v` is in `comm_nodes[i]` iff `node_to_comm[v] = i`; the communities are duplicate-free subsets of the node set -/
structure LInv {α} (nodes : List Nat) (st : LSt α) : Prop where
  len   : st.cnodes.length = nodes.length
  lt    : ∀ v ∈ nodes, aget st.n2c v 0 < nodes.length
  iff   : ∀ v ∈ nodes, ∀ i, i < nodes.length → (v ∈ st.cnodes.getD i [] ↔ aget st.n2c v 0 = i)
  sub   : ∀ i, ∀ v ∈ st.cnodes.getD i [], v ∈ nodes
  nodup : ∀ i, (st.cnodes.getD i []).Nodup

theorem moveNode_inv {α} (O : Ops α) {nodes : List Nat} {st : LSt α} (h : LInv nodes st)
    {v best : Nat} (hv : v ∈ nodes) (hb : best < nodes.length) (vdeg : α) :
    LInv nodes (moveNode O st v best vdeg) := by
  have honly : ∀ j, v ∈ st.cnodes.getD j [] → j = aget st.n2c v 0 := by
    intro j hj
    rcases Nat.lt_or_ge j st.cnodes.length with hl | hl
    · exact ((h.iff v hv j (h.len ▸ hl)).1 hj).symm
    · rw [getD_of_ge hl] at hj; cases hj
  have hcn : ∀ i x, x ∈ (moveNode O st v best vdeg).cnodes.getD i [] ↔
      (x ≠ v ∧ x ∈ st.cnodes.getD i []) ∨ (x = v ∧ i = best) :=
    mem_move (fun _ _ => mem_addSet) h.nodup (h.len ▸ hb) honly
  have hn2c : ∀ u, aget (moveNode O st v best vdeg).n2c u 0 = if v = u then best else aget st.n2c u 0 :=
    fun u => aget_aset _ _ _ _ _
  constructor
  case len => simp only [moveNode, lInsert, lRemove, length_modAt, h.len]
  case lt =>
    intro u hu
    rw [hn2c]; split
    · exact hb
    · exact h.lt u hu
  case iff =>
    intro u hu i hi
    rw [hcn, hn2c]
    by_cases huv : v = u
    · rw [if_pos huv, ← huv]
      exact ⟨fun hx => hx.elim (fun hx => absurd rfl hx.1) fun hx => hx.2.symm,
        fun e => Or.inr ⟨rfl, e.symm⟩⟩
    · rw [if_neg huv, ← h.iff u hu i hi]
      exact ⟨fun hx => hx.elim (fun hx => hx.2) fun hx => absurd hx.1.symm huv,
        fun hx => Or.inl ⟨fun e => huv e.symm, hx⟩⟩
  case sub =>
    intro i u hu
    rcases (hcn i u).1 hu with hx | hx
    · exact h.sub i u hx.2
    · exact hx.1 ▸ hv
  case nodup => exact nodup_move (fun _ hl _ => nodup_addSet hl) h.nodup best honly

theorem lInit_inv {α} (O : Ops α) (G : Graph) (hn : G.nodes.Nodup) : LInv G.nodes (lInit O G) := by
  have hget : ∀ i, (lInit O G).cnodes.getD i [] = if h : i < G.nodes.length then [G.nodes[i]] else [] := by
    intro i
    simp only [lInit]
    split
    · rename_i h
      rw [getD_of_lt (by simpa using h)]; simp
    · rename_i h
      rw [getD_of_ge (by simpa using h)]
  have hidx : ∀ (i : Nat) (h : i < G.nodes.length), aget (lInit O G).n2c G.nodes[i] 0 = i := by
    intro i h
    have := aget_zipIdx G.nodes 0 hn i h
    simpa [lInit] using this
  constructor
  case len => simp [lInit]
  case lt =>
    intro v hv
    obtain ⟨i, hi, rfl⟩ := List.getElem_of_mem hv
    rw [hidx i hi]; exact hi
  case iff =>
    intro v hv i hi
    obtain ⟨j, hj, rfl⟩ := List.getElem_of_mem hv
    rw [hget, dif_pos hi, hidx j hj, List.mem_singleton]
    constructor
    · intro he; exact (List.getElem_inj hn).1 he
    · intro he; subst he; rfl
  case sub =>
    intro i v hv
    rw [hget] at hv
    split at hv
    · simp only [List.mem_singleton] at hv; subst hv; exact List.getElem_mem _
    · cases hv
  case nodup =>
    intro i
    rw [hget]; split <;> simp

theorem commEdges_keys {α} (O : Ops α) (n2c : List (Nat × Nat)) (nbrs : List Nat) :
    ∀ p ∈ commEdges O n2c nbrs, ∃ w ∈ nbrs, p.1 = aget n2c w 0 := by
  unfold commEdges
  refine foldl_inv (l := nbrs) (b := []) (fun ce : List (Nat × α) => ∀ p ∈ ce, ∃ w ∈ nbrs, p.1 = aget n2c w 0) (by simp) ?_
  intro ce w hw h q hq
  rcases mem_aset_key hq with h1 | ⟨r, hr, h1⟩
  · exact ⟨w, hw, h1⟩
  · rw [← h1]; exact h r hr

theorem chooseComm_mem {α} (O : Ops α) (γ tw vdeg : α) (cur : Nat) (ce : List (Nat × α)) (cdeg : List α) :
    chooseComm O γ tw vdeg cur ce cdeg = cur ∨ ∃ p ∈ ce, chooseComm O γ tw vdeg cur ce cdeg = p.1 := by
  unfold chooseComm
  simp only
  have h := foldl_inv (fun bg : Nat × α => bg.1 = cur ∨ ∃ p ∈ ce, bg.1 = p.1)
    (f := fun (bg : Nat × α) p =>
      if O.lt bg.2 (lGain O γ tw vdeg p.2 (cdeg.getD p.1 (O.ofNat 0))) then
        (p.1, lGain O γ tw vdeg p.2 (cdeg.getD p.1 (O.ofNat 0))) else bg) (l := ce)
    (b := (cur, O.ofNat 0)) (Or.inl rfl) fun bg p hp h => by
      split
      · exact Or.inr ⟨p, hp, rfl⟩
      · exact h
  generalize List.foldl _ (cur, O.ofNat 0) ce = bg at h ⊢
  -- whichever of `cur`, `bg.1` the two tests select
  have key : ∀ (c1 c2 : Prop) [Decidable c1] [Decidable c2] (x : Nat),
      x = (if c1 then (if c2 then cur else bg.1) else bg.1) → x = cur ∨ ∃ p ∈ ce, x = p.1 := by
    intro c1 c2 _ _ x hx
    split at hx
    · split at hx
      · exact Or.inl hx
      · exact hx ▸ h
    · exact hx ▸ h
  exact key _ _ _ rfl

theorem lNodeStep_inv {α} (O : Ops α) (G : Graph) (γ tw : α) {st : LSt α} (h : LInv G.nodes st)
    {v : Nat} (hv : v ∈ G.nodes) : LInv G.nodes (lNodeStep O G.sadj γ tw st v).1 := by
  have hbest : ∀ (vdeg : α) (cdeg : List α),
      chooseComm O γ tw vdeg (aget st.n2c v 0) (commEdges O st.n2c (G.sadj v)) cdeg < G.nodes.length := by
    intro vdeg cdeg
    rcases chooseComm_mem O γ tw vdeg (aget st.n2c v 0) (commEdges O st.n2c (G.sadj v)) cdeg with h1 | ⟨p, hp, h1⟩
    · rw [h1]; exact h.lt v hv
    · rw [h1]
      obtain ⟨w, hw, hpw⟩ := commEdges_keys O st.n2c (G.sadj v) p hp
      rw [hpw]; exact h.lt w (sadj_sub G hw)
  exact moveNode_inv O h hv (hbest _ _) _

theorem lPass_inv {α} (O : Ops α) (G : Graph) (γ tw : α) {st : LSt α} (h : LInv G.nodes st) :
    LInv G.nodes (lPass O G.sadj γ tw G.nodes st).1 := by
  unfold lPass
  refine foldl_inv (l := G.nodes) (b := (st, false)) (fun acc : LSt α × Bool => LInv G.nodes acc.1) h ?_
  intro acc v hv hacc
  exact lNodeStep_inv O G γ tw hacc hv

theorem lLoop_inv {α} (O : Ops α) (G : Graph) (γ tw : α) : ∀ (fuel : Nat) (st : LSt α) (it : Nat),
    LInv G.nodes st → ∀ r, lLoop O G.sadj γ tw G.nodes fuel st it = some r → LInv G.nodes r.1 := by
  intro fuel
  induction fuel with
  | zero => intro st it _ r hr; simp [lLoop] at hr
  | succ f ih =>
    intro st it h r hr
    unfold lLoop at hr
    simp only at hr
    split at hr
    · exact ih _ _ (lPass_inv O G γ tw h) r hr
    · simp only [Option.some.injEq] at hr
      subst hr
      exact lPass_inv O G γ tw h

theorem louvain_cases {α} (O : Ops α) (G : Graph) (γ : α) (fuel : Nat) (out : LvOut α)
    (h : louvain O G γ fuel = some out) :
    (out.comms = G.nodes.map (fun v => [v]) ∧ out.modularity = O.ofNat 0 ∧
      (G.nodes = [] ∨ (∃ v, G.nodes = [v]) ∨ (G.nodes.map fun v => (G.sadj v).length).sum = 0)) ∨
    ∃ st it, lLoop O G.sadj γ (totalWeight O G) G.nodes fuel (lInit O G) 0 = some (st, it) ∧
      out.comms = st.cnodes.filter (fun c => !c.isEmpty) ∧
      out.modularity = reportMod O G.sadj γ (totalWeight O G) out.comms := by
  unfold louvain at h
  split at h
  · rename_i hnil
    cases h
    exact Or.inl ⟨by rw [hnil]; rfl, rfl, Or.inl hnil⟩
  · rename_i v hv
    cases h
    exact Or.inl ⟨by rw [hv]; rfl, rfl, Or.inr (Or.inl ⟨v, hv⟩)⟩
  · simp only at h
    split at h
    · rename_i hm
      cases h
      exact Or.inl ⟨rfl, rfl, Or.inr (Or.inr (by simpa using hm))⟩
    · split at h
      · cases h
      · rename_i st it hloop
        cases h
        exact Or.inr ⟨st, it, hloop, rfl, rfl⟩

theorem partition_of_inv {α} {nodes : List Nat} {st : LSt α} (h : LInv nodes st) :
    IsPartition nodes (st.cnodes.filter fun c => !c.isEmpty) := by
  have hget : ∀ c ∈ st.cnodes, ∃ i, i < nodes.length ∧ c = st.cnodes.getD i [] := by
    intro c hc
    obtain ⟨i, hi, rfl⟩ := List.getElem_of_mem hc
    exact ⟨i, h.len ▸ hi, (getD_of_lt hi []).symm⟩
  constructor
  case nonempty =>
    intro c hc
    have := (List.mem_filter.1 hc).2
    intro hnil; subst hnil; simp at this
  case nodup =>
    intro c hc
    obtain ⟨i, _, rfl⟩ := hget c (List.mem_filter.1 hc).1
    exact h.nodup i
  case sub =>
    intro c hc v hv
    obtain ⟨i, _, rfl⟩ := hget c (List.mem_filter.1 hc).1
    exact h.sub i v hv
  case cover =>
    intro v hv
    have hlt := h.lt v hv
    have hmem : v ∈ st.cnodes.getD (aget st.n2c v 0) [] := (h.iff v hv _ hlt).2 rfl
    have hlt' : aget st.n2c v 0 < st.cnodes.length := h.len ▸ hlt
    rw [getD_of_lt hlt'] at hmem
    refine ⟨_, List.mem_filter.2 ⟨List.getElem_mem hlt', ?_⟩, hmem⟩
    cases hq : st.cnodes[aget st.n2c v 0] with
    | nil => rw [hq] at hmem; cases hmem
    | cons a l => rfl
  case disjoint =>
    apply List.Pairwise.filter
    rw [List.pairwise_iff_getElem]
    intro i j hi hj hij v hvi hvj
    have hi' : i < nodes.length := h.len ▸ hi
    have hj' : j < nodes.length := h.len ▸ hj
    rw [← getD_of_lt hi []] at hvi
    rw [← getD_of_lt hj []] at hvj
    have hvn := h.sub i v hvi
    have e1 := (h.iff v hvn i hi').1 hvi
    have e2 := (h.iff v hvn j hj').1 hvj
    exact absurd (e1.symm.trans e2) (Nat.ne_of_lt hij)

theorem singletons_partition {nodes : List Nat} (hn : nodes.Nodup) :
    IsPartition nodes (nodes.map fun v => [v]) := by
  constructor
  case nonempty => intro c hc; obtain ⟨v, _, rfl⟩ := List.mem_map.1 hc; simp
  case nodup => intro c hc; obtain ⟨v, _, rfl⟩ := List.mem_map.1 hc; simp
  case sub =>
    intro c hc v hv
    obtain ⟨u, hu, rfl⟩ := List.mem_map.1 hc
    simp only [List.mem_singleton] at hv; subst hv; exact hu
  case cover => intro v hv; exact ⟨[v], List.mem_map.2 ⟨v, hv, rfl⟩, by simp⟩
  case disjoint =>
    rw [List.pairwise_map]
    refine hn.imp ?_
    intro a b hab v hv hv'
    simp only [List.mem_singleton] at hv hv'
    exact hab (hv ▸ hv')

end Solvor.Net
