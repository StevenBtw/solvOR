import Solvor.Net.Lemmas
/-! Net: repeated deletion computes the greatest set with all degrees ≥ k (`kcoreDef_greatest`), and the invariants
`BInv`, `CInv` of the bucket-peeling mirror of `kcore_decomposition`, from which `kcore_peeling_correct` (Theorems.lean) reads
that it computes the definitional core numbers (core Lean only). -/
namespace Solvor.Net

theorem degIn_mono (G : Graph) {T S : List Nat} (hT : T.Nodup) (hsub : ∀ x ∈ T, x ∈ S) (v : Nat) :
    degIn G T v ≤ degIn G S v := by
  unfold degIn
  apply List.Nodup.length_le_of_subset (hT.sublist List.filter_sublist)
  intro x hx
  rw [List.mem_filter] at hx ⊢
  exact ⟨hsub x hx.1, hx.2⟩

theorem peel_spec (G : Graph) (k : Nat) : ∀ (fuel : Nat) (S : List Nat), S.length ≤ fuel →
    (peel G k fuel S).Sublist S ∧
    (∀ v ∈ peel G k fuel S, k ≤ degIn G (peel G k fuel S) v) ∧
    (∀ T : List Nat, T.Nodup → (∀ v ∈ T, v ∈ S) → (∀ v ∈ T, k ≤ degIn G T v) →
      ∀ v ∈ T, v ∈ peel G k fuel S) := by
  intro fuel
  induction fuel with
  | zero =>
    intro S hS
    have : S = [] := List.eq_nil_of_length_eq_zero (Nat.le_zero.1 hS)
    subst this
    exact ⟨List.Sublist.refl _, by simp [peel], fun T _ hsub _ v hv => hsub v hv⟩
  | succ f ih =>
    intro S hS
    unfold peel
    simp only
    split
    · rename_i heq
      have heq' : (peelRound G k S).length = S.length := by simpa using heq
      refine ⟨List.Sublist.refl _, ?_, fun T _ hsub _ v hv => hsub v hv⟩
      intro v hv
      have := (List.length_filter_eq_length_iff.1 heq') v hv
      simpa using this
    · rename_i hne
      have hne' : (peelRound G k S).length ≠ S.length := by simpa using hne
      have hle : (peelRound G k S).length ≤ S.length := List.length_filter_le _ _
      obtain ⟨h1, h2, h3⟩ := ih (peelRound G k S)
        (Nat.le_of_lt_succ (Nat.lt_of_lt_of_le (Nat.lt_of_le_of_ne hle hne') hS))
      refine ⟨h1.trans List.filter_sublist, h2, ?_⟩
      intro T hT hsub hdeg
      apply h3 T hT _ hdeg
      intro v hv
      unfold peelRound
      rw [List.mem_filter]
      exact ⟨hsub v hv, by simpa using Nat.le_trans (hdeg v hv) (degIn_mono G hT hsub v)⟩

theorem kcoreDef_zero (G : Graph) : kcoreDef G 0 = G.nodes := by
  unfold kcoreDef
  cases h : G.nodes.length with
  | zero => rfl
  | succ n =>
    unfold peel
    have : peelRound G 0 G.nodes = G.nodes := by
      unfold peelRound; rw [List.filter_eq_self]; intro a _; simp
    simp [this]

/-- the last index below `m` that satisfies `P` (`0` if none): the shape of `coreNumDef` -/
abbrev lastSat (P : Nat → Bool) (m : Nat) : Nat := (List.range m).foldl (fun best k => if P k then k else best) 0

theorem coreNumDef_eq_lastSat (G : Graph) (v : Nat) :
    coreNumDef G v = lastSat (fun k => (kcoreDef G k).contains v) (G.nodes.length + 1) := rfl

theorem lastSat_spec (P : Nat → Bool) (m : Nat) :
    (∀ k, k < m → P k = true → k ≤ lastSat P m) ∧ (lastSat P m = 0 ∨ P (lastSat P m) = true) := by
  refine foldl_range_inv (fun m b => (∀ k, k < m → P k = true → k ≤ b) ∧ (b = 0 ∨ P b = true)) _ 0
    ⟨fun _ => nofun, Or.inl rfl⟩ m fun m b _ ih => ?_
  by_cases hp : P m = true
  · simp only [hp, if_true]
    exact ⟨fun k hk _ => Nat.le_of_lt_succ hk, Or.inr trivial⟩
  · simp only [hp]
    exact ⟨fun k hk hpk => ih.1 k (Nat.lt_of_le_of_ne (Nat.le_of_lt_succ hk) fun h => hp (h ▸ hpk)) hpk, ih.2⟩

/-- the undecided nodes -/
def und (G : Graph) (core : List (Nat × Nat)) : List Nat := G.nodes.filter fun w => !hasKey core w

theorem mem_und {G : Graph} {core : List (Nat × Nat)} {w : Nat} :
    w ∈ und G core ↔ w ∈ G.nodes ∧ hasKey core w = false := by
  simp [und]

theorem und_aset (G : Graph) (core : List (Nat × Nat)) (v k : Nat) :
    und G (aset core v k) = (und G core).filter (· != v) := by
  unfold und
  rw [List.filter_filter]
  apply List.filter_congr
  intro w _
  have := hasKey_aset core v w k
  grind

theorem nodup_und (G : Graph) (hn : G.nodes.Nodup) (core : List (Nat × Nat)) : (und G core).Nodup :=
  hn.sublist List.filter_sublist

theorem degIn_remove (G : Graph) (U : List Nat) (hU : U.Nodup) (v : Nat) (hv : v ∈ U) (w : Nat) :
    degIn G U w = degIn G (U.filter (· != v)) w + (if w ∈ G.sadj v then 1 else 0) := by
  have h := length_filter_remove U hU v hv fun x => x != w && (G.arc w x || G.arc x w)
  have hm : (v != w && (G.arc w v || G.arc v w)) = true ↔ w ∈ G.sadj v := by rw [mem_sadj]; grind
  simp only [hm] at h
  exact h

/-- `kcoreDef G k` is the *greatest* set of nodes in which every node has at least `k` neighbours inside the set: the k-core of
the module's docstring ("the maximal subgraph where every node has degree at least k"). -/
theorem kcoreDef_greatest (G : Graph) (k : Nat) :
    (kcoreDef G k).Sublist G.nodes ∧
    (∀ v ∈ kcoreDef G k, k ≤ degIn G (kcoreDef G k) v) ∧
    (∀ T : List Nat, T.Nodup → (∀ v ∈ T, v ∈ G.nodes) → (∀ v ∈ T, k ≤ degIn G T v) →
      ∀ v ∈ T, v ∈ kcoreDef G k) :=
  peel_spec G k G.nodes.length G.nodes (Nat.le_refl _)

theorem kcoreDef_nodup (G : Graph) (hn : G.nodes.Nodup) (k : Nat) : (kcoreDef G k).Nodup :=
  hn.sublist (kcoreDef_greatest G k).1

theorem kcoreDef_sub (G : Graph) (k : Nat) {x : Nat} (h : x ∈ kcoreDef G k) : x ∈ G.nodes :=
  (kcoreDef_greatest G k).1.subset h

theorem kcoreDef_deg (G : Graph) (k : Nat) {x : Nat} (h : x ∈ kcoreDef G k) :
    k ≤ degIn G (kcoreDef G k) x :=
  (kcoreDef_greatest G k).2.1 x h

theorem kcoreDef_anti (G : Graph) (hn : G.nodes.Nodup) {k k' : Nat} (h : k ≤ k') :
    ∀ x ∈ kcoreDef G k', x ∈ kcoreDef G k :=
  (kcoreDef_greatest G k).2.2 (kcoreDef G k') (kcoreDef_nodup G hn k') (fun _ hv => kcoreDef_sub G k' hv)
    (fun _ hv => Nat.le_trans h (kcoreDef_deg G k' hv))

/-- degree / bucket bookkeeping; `R` = neighbours of the node just removed that the inner `for`
loop has not visited yet (their stored degree still counts the removed node) -/
structure BInv (G : Graph) (maxd k : Nat) (R : List Nat) (st : KSt) : Prop where
  blen : st.buckets.length = maxd + 1
  /-- the stored degree never drops below the current level `k`: the code decrements it only `if old_deg > k` -/
  deg  : ∀ w ∈ und G st.core,
    aget st.degree w 0 = max k (degIn G (und G st.core) w + (if w ∈ R then 1 else 0))
  dle  : ∀ w ∈ und G st.core, aget st.degree w 0 ≤ maxd
  bkt  : ∀ j w, w ∈ st.buckets.getD j [] ↔ (w ∈ und G st.core ∧ aget st.degree w 0 = j)
  bnd  : ∀ j, (st.buckets.getD j []).Nodup

namespace BInv
theorem deg0 {G : Graph} {maxd k : Nat} {st : KSt} (h : BInv G maxd k [] st) {w : Nat}
    (hw : w ∈ und G st.core) : aget st.degree w 0 = max k (degIn G (und G st.core) w) := by
  have := h.deg w hw
  simpa only [List.not_mem_nil, if_false, Nat.add_zero] using this
end BInv

/-- the body of the loop in `kRelax` -/
def relaxStep (k : Nat) (st : KSt) (w : Nat) : KSt :=
  if hasKey st.core w then st else
  let old := aget st.degree w 0
  if old > k then
    { st with buckets := modAt (· ++ [w]) (modAt (·.erase w) st.buckets old) (max k (old - 1)),
              degree := aset st.degree w (old - 1) }
  else st

theorem relaxStep_core (k : Nat) (st : KSt) (w : Nat) : (relaxStep k st w).core = st.core := by
  unfold relaxStep
  split
  · rfl
  · simp only; split <;> rfl

theorem relaxStep_inv (G : Graph) (maxd k : Nat) (R : List Nat) (st : KSt) (w : Nat)
    (h : BInv G maxd k (w :: R) st) (hwR : w ∉ R) (hw : w ∈ G.nodes) :
    BInv G maxd k R (relaxStep k st w) := by
  have hdeg : ∀ x ∈ und G st.core, x ≠ w →
      aget st.degree x 0 = max k (degIn G (und G st.core) x + (if x ∈ R then 1 else 0)) := by
    intro x hx hxw
    have := h.deg x hx
    simpa only [List.mem_cons, hxw, false_or] using this
  unfold relaxStep
  by_cases hk : hasKey st.core w = true
  · rw [if_pos hk]
    have hwU : w ∉ und G st.core := fun hm => by
      have := (mem_und.1 hm).2; rw [hk] at this; cases this
    exact ⟨h.blen, fun x hx => hdeg x hx (fun e => hwU (e ▸ hx)), h.dle, h.bkt, h.bnd⟩
  · rw [if_neg hk]
    have hwU : w ∈ und G st.core := mem_und.2 ⟨hw, by simpa using hk⟩
    have hdw : aget st.degree w 0 = max k (degIn G (und G st.core) w + 1) := by
      rw [h.deg w hwU, if_pos List.mem_cons_self]
    simp only
    split
    · rename_i hgt
      -- above level `k` the stored degree is `d + 1`, `d` the number of undecided neighbours, and drops to `d`
      have hd : k ≤ degIn G (und G st.core) w ∧ aget st.degree w 0 = degIn G (und G st.core) w + 1 := by
        rcases Nat.le_total k (degIn G (und G st.core) w + 1) with h1 | h1
        · rw [Nat.max_eq_right h1] at hdw; rw [hdw] at hgt; exact ⟨Nat.le_of_lt_succ hgt, hdw⟩
        · rw [Nat.max_eq_left h1] at hdw; rw [hdw] at hgt; exact absurd hgt (Nat.lt_irrefl _)
      have hsub : aget st.degree w 0 - 1 = degIn G (und G st.core) w := by rw [hd.2, Nat.add_sub_cancel]
      have hnew : aget st.degree w 0 - 1 = max k (degIn G (und G st.core) w) := by
        rw [hsub, Nat.max_eq_right hd.1]
      rw [show max k (aget st.degree w 0 - 1) = aget st.degree w 0 - 1 by rw [hsub]; exact Nat.max_eq_right hd.1]
      have hlen : aget st.degree w 0 - 1 < st.buckets.length := by
        rw [h.blen]; exact Nat.lt_succ_of_le (Nat.le_trans (Nat.sub_le _ _) (h.dle w hwU))
      have honly : ∀ j, w ∈ st.buckets.getD j [] → j = aget st.degree w 0 :=
        fun j hj => ((h.bkt j w).1 hj).2.symm
      constructor
      case blen => simp only [length_modAt, h.blen]
      case deg =>
        intro x hx
        simp only [aget_aset]
        by_cases hxw : w = x
        · rw [if_pos hxw, ← hxw, if_neg hwR]; exact hnew
        · rw [if_neg hxw]; exact hdeg x hx (fun e => hxw e.symm)
      case dle =>
        intro x hx
        simp only [aget_aset]
        split
        · exact Nat.le_trans (Nat.sub_le _ _) (h.dle w hwU)
        · exact h.dle x hx
      case bkt =>
        intro j x
        simp only
        rw [mem_move (fun l x => by rw [List.mem_append, List.mem_singleton]) h.bnd hlen honly, aget_aset]
        by_cases hxw : x = w
        · subst hxw
          simp only [ne_eq, not_true_eq_false, false_and, true_and, false_or, if_true]
          constructor
          · intro hj; exact ⟨hwU, hj.symm⟩
          · intro hj; exact hj.2.symm
        · have hwx : ¬ w = x := fun e => hxw e.symm
          simp only [ne_eq, hxw, not_false_eq_true, true_and, false_and, or_false, if_neg hwx]
          exact h.bkt j x
      case bnd =>
        intro j
        exact nodup_move (fun _ => nodup_concat) h.bnd _ honly j
    · rename_i hle
      refine ⟨h.blen, ?_, h.dle, h.bkt, h.bnd⟩
      intro x hx
      by_cases hxw : x = w
      · -- at level `k` the pending decrement is absorbed by the `max`
        rw [hxw, if_neg hwR]
        have h1 : k ≤ aget st.degree w 0 := by rw [hdw]; exact Nat.le_max_left _ _
        have h2 : degIn G (und G st.core) w + 1 ≤ aget st.degree w 0 := by rw [hdw]; exact Nat.le_max_right _ _
        rw [Nat.le_antisymm (Nat.le_of_not_gt hle) h1] at h2 ⊢
        exact (Nat.max_eq_left (Nat.le_of_succ_le h2)).symm
      · exact hdeg x hx hxw

theorem kRelax_inv (G : Graph) (maxd k : Nat) : ∀ (ns : List Nat) (st : KSt), ns.Nodup →
    (∀ w ∈ ns, w ∈ G.nodes) → BInv G maxd k ns st →
    BInv G maxd k [] (kRelax k ns st) ∧ (kRelax k ns st).core = st.core := by
  intro ns
  induction ns with
  | nil => intro st _ _ h; exact ⟨h, rfl⟩
  | cons w ns ih =>
    intro st hnd hsub h
    rw [List.nodup_cons] at hnd
    show BInv G maxd k [] (kRelax k ns (relaxStep k st w)) ∧ _
    have hstep := relaxStep_inv G maxd k ns st w h hnd.1 (hsub w List.mem_cons_self)
    obtain ⟨h1, h2⟩ := ih (relaxStep k st w) hnd.2 (fun x hx => hsub x (List.mem_cons_of_mem _ hx)) hstep
    exact ⟨h1, h2.trans (relaxStep_core k st w)⟩

/-- at level `k`: the `(k+1)`-core is still wholly undecided (`up`), every undecided node lies in the `k`-core (`inK`) -/
structure CInv (G : Graph) (k : Nat) (core : List (Nat × Nat)) : Prop where
  keys : ∀ x, hasKey core x = true → x ∈ G.nodes
  done : ∀ x, hasKey core x = true →
    x ∈ kcoreDef G (aget core x 0) ∧ x ∉ kcoreDef G (aget core x 0 + 1)
  up   : ∀ x ∈ kcoreDef G (k + 1), x ∈ und G core
  inK  : ∀ x ∈ und G core, x ∈ kcoreDef G k

/-- One pass of the `while` loop of level `k`: pop `v`, settle it, relax its neighbours.  The counter `i` plays no part; it is a
parameter so that `st'` is literally what `kLevel` unfolds to (`kLevel_inv` passes `st.iters + 1`). -/
theorem pop_inv (G : Graph) (hn : G.nodes.Nodup) (maxd k : Nat) (st : KSt)
    (hB : BInv G maxd k [] st) (hC : CInv G k st.core) (v : Nat) (hv : v ∈ st.buckets.getD k [])
    (ns : List Nat) (hns : ns.Perm (G.sadj v)) (i : Nat) :
    let st' : KSt := { st with iters := i, buckets := modAt (·.erase v) st.buckets k, core := aset st.core v k }
    BInv G maxd k [] (kRelax k ns st') ∧ CInv G k (kRelax k ns st').core ∧
      (und G (kRelax k ns st').core).length + 1 = (und G st.core).length := by
  intro st'
  have hvU : v ∈ und G st.core := ((hB.bkt k v).1 hv).1
  have hvd : aget st.degree v 0 = k := ((hB.bkt k v).1 hv).2
  have hUnd : (und G st.core).Nodup := nodup_und G hn st.core
  have hU' : und G st'.core = (und G st.core).filter (· != v) := und_aset G st.core v k
  have hmemU' : ∀ x, x ∈ und G st'.core ↔ x ∈ und G st.core ∧ x ≠ v := by
    intro x; rw [hU', List.mem_filter]; simp
  have hB' : BInv G maxd k ns st' := by
    constructor
    case blen => simp only [st', length_modAt, hB.blen]
    case deg =>
      intro w hw
      have hw' := (hmemU' w).1 hw
      change aget st.degree w 0 = _
      rw [hB.deg0 hw'.1, hU', degIn_remove G (und G st.core) hUnd v hvU w]
      simp only [hns.mem_iff]
    case dle => intro w hw; exact hB.dle w ((hmemU' w).1 hw).1
    case bkt =>
      intro j w
      change w ∈ (modAt (·.erase v) st.buckets k).getD j [] ↔ (_ ∧ aget st.degree w 0 = j)
      rw [getD_modAt, mem_erase_at hB.bnd (fun j hj => ((hB.bkt j v).1 hj).2.symm.trans hvd), hmemU', hB.bkt]
      exact ⟨fun ⟨h1, h2, h3⟩ => ⟨⟨h2, h1⟩, h3⟩, fun ⟨⟨h2, h1⟩, h3⟩ => ⟨h1, h2, h3⟩⟩
    case bnd =>
      intro j
      change ((modAt (·.erase v) st.buckets k).getD j []).Nodup
      rw [getD_modAt]
      split
      · exact (hB.bnd j).erase v
      · exact hB.bnd j
  have hnsnd : ns.Nodup := hns.nodup_iff.2 (nodup_sadj G v)
  have hnssub : ∀ w ∈ ns, w ∈ G.nodes := fun w hw => sadj_sub G (hns.mem_iff.1 hw)
  obtain ⟨hR1, hcore⟩ : _ ∧ (kRelax k ns st').core = aset st.core v k := kRelax_inv G maxd k ns st' hnsnd hnssub hB'
  have hvnot : v ∉ kcoreDef G (k + 1) := by
    intro hvK
    have h1 := kcoreDef_deg G (k + 1) hvK
    have h2 := degIn_mono G (kcoreDef_nodup G hn (k + 1)) hC.up v
    have h3 : degIn G (und G st.core) v ≤ k := by
      rw [← hvd, hB.deg0 hvU]; exact Nat.le_max_right _ _
    exact Nat.not_succ_le_self k (Nat.le_trans h1 (Nat.le_trans h2 h3))
  refine ⟨hR1, ?_, ?_⟩
  · rw [hcore]
    constructor
    case keys =>
      intro x hx
      rcases (hasKey_aset st.core v x k).1 hx with h | h
      · subst h; exact (mem_und.1 hvU).1
      · exact hC.keys x h
    case done =>
      intro x hx
      rw [aget_aset]
      by_cases hvx : v = x
      · subst hvx
        simp only [if_true]
        exact ⟨hC.inK v hvU, hvnot⟩
      · simp only [if_neg hvx]
        rcases (hasKey_aset st.core v x k).1 hx with h | h
        · exact absurd h hvx
        · exact hC.done x h
    case up =>
      intro x hx
      change x ∈ und G st'.core
      rw [hmemU']
      exact ⟨hC.up x hx, fun e => hvnot (e ▸ hx)⟩
    case inK =>
      intro x hx
      change x ∈ und G st'.core at hx
      exact hC.inK x ((hmemU' x).1 hx).1
  · rw [hcore]
    change (und G st'.core).length + 1 = _
    rw [hU']
    exact (length_filter_ne (und G st.core) hUnd v hvU).symm

theorem kLevel_inv (G : Graph) (hn : G.nodes.Nodup) (R : KOracle) (hR : R.Valid) (maxd k : Nat) :
    ∀ (fuel : Nat) (st : KSt), (und G st.core).length < fuel →
    BInv G maxd k [] st → CInv G k st.core →
    BInv G maxd k [] (kLevel R G.sadj k fuel st) ∧ CInv G k (kLevel R G.sadj k fuel st).core ∧
      (kLevel R G.sadj k fuel st).buckets.getD k [] = [] := by
  intro fuel
  induction fuel with
  | zero => intro st h; cases h
  | succ f ih =>
    intro st hlen hB hC
    unfold kLevel
    simp only
    split
    · rename_i he
      exact ⟨hB, hC, List.isEmpty_iff.1 he⟩
    · rename_i he
      have hne : st.buckets.getD k [] ≠ [] := fun h => he (by rw [h]; rfl)
      have hv := hR.1 st.iters _ hne
      obtain ⟨h1, h2, h3⟩ := pop_inv G hn maxd k st hB hC _ hv
        (R.order st.iters (G.sadj (R.pick st.iters (st.buckets.getD k [])))) (hR.2 _ _) (st.iters + 1)
      rw [← h3] at hlen
      exact ih _ (Nat.lt_of_succ_lt_succ hlen) h1 h2

theorem level_up (G : Graph) (hn : G.nodes.Nodup) (maxd k : Nat) (st : KSt)
    (hB : BInv G maxd k [] st) (hC : CInv G k st.core) (he : st.buckets.getD k [] = []) :
    BInv G maxd (k + 1) [] st ∧ CInv G (k + 1) st.core := by
  have hdeg : ∀ w ∈ und G st.core, k + 1 ≤ degIn G (und G st.core) w := by
    intro w hw
    have h2 : aget st.degree w 0 ≠ k := by
      intro e
      have := (hB.bkt k w).2 ⟨hw, e⟩
      rw [he] at this; cases this
    exact Nat.lt_of_not_le fun hle => h2 ((hB.deg0 hw).trans (Nat.max_eq_left hle))
  constructor
  · refine ⟨hB.blen, ?_, hB.dle, hB.bkt, hB.bnd⟩
    intro w hw
    have h2 := hdeg w hw
    simp only [List.not_mem_nil, if_false, Nat.add_zero]
    rw [hB.deg0 hw, Nat.max_eq_right (Nat.le_of_succ_le h2), Nat.max_eq_right h2]
  · refine ⟨hC.keys, hC.done, fun x hx => hC.up x (kcoreDef_anti G hn (Nat.le_succ _) x hx), ?_⟩
    exact (kcoreDef_greatest G (k + 1)).2.2 (und G st.core) (nodup_und G hn st.core)
      (fun v hv => (mem_und.1 hv).1) hdeg

theorem kInit_inv (G : Graph) (hn : G.nodes.Nodup) :
    BInv G ((kInit G).buckets.length - 1) 0 [] (kInit G) ∧ CInv G 0 (kInit G).core := by
  have hund : und G (kInit G).core = G.nodes := by
    simp only [kInit, und]
    rw [List.filter_eq_self]; intro a _; rfl
  have hdegv : ∀ w ∈ G.nodes, aget (kInit G).degree w 0 = (G.sadj w).length := by
    intro w hw
    simp only [kInit]
    exact (aget_map ..).trans (if_pos hw)
  have hlen : (kInit G).buckets.length =
      ((G.nodes.map fun v => (v, (G.sadj v).length)).foldl (fun m p => max m p.2) 0) + 1 := by
    simp [kInit]
  have hmax : ∀ w ∈ G.nodes, (G.sadj w).length ≤ (kInit G).buckets.length - 1 := by
    intro w hw
    rw [hlen]
    have := (foldl_max_spec Prod.snd (G.nodes.map fun v => (v, (G.sadj v).length)) 0).2
      (w, (G.sadj w).length) (List.mem_map.2 ⟨w, hw, rfl⟩)
    rw [Nat.add_sub_cancel]
    exact this
  constructor
  · constructor
    case blen => rw [hlen]; rfl
    case deg =>
      intro w hw
      rw [hund] at hw ⊢
      rw [hdegv w hw, length_sadj G hn w]; simp
    case dle =>
      intro w hw
      rw [hund] at hw
      rw [hdegv w hw]; exact hmax w hw
    case bkt =>
      intro j w
      rw [hund]
      by_cases hj : j < (kInit G).buckets.length
      · rw [getD_of_lt hj]
        simp only [kInit, List.getElem_map, List.getElem_range, List.mem_filter, beq_iff_eq]
      · rw [getD_of_ge (Nat.le_of_not_lt hj)]
        constructor
        · intro h; cases h
        · rintro ⟨hw, hd⟩
          rw [hdegv w hw] at hd
          refine (hj (hd ▸ Nat.lt_of_le_of_lt (hmax w hw) ?_)).elim
          rw [hlen]; exact Nat.lt_succ_self _
    case bnd =>
      intro j
      by_cases hj : j < (kInit G).buckets.length
      · rw [getD_of_lt hj]
        simp only [kInit, List.getElem_map]
        exact hn.sublist List.filter_sublist
      · rw [getD_of_ge (Nat.le_of_not_lt hj)]; exact List.nodup_nil
  · constructor
    case keys => intro x hx; simp [kInit, hasKey] at hx
    case done => intro x hx; simp [kInit, hasKey] at hx
    case up =>
      intro x hx
      rw [hund]; exact kcoreDef_sub G _ hx
    case inK =>
      intro x hx
      rw [hund] at hx
      rw [kcoreDef_zero]; exact hx

end Solvor.Net
