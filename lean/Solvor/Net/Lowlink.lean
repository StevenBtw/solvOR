import Solvor.Net.Conn
/-! Net: correctness of the low-link DFS mirror (`lowlink`) against `CutSpec` / `BridgeSpec`
(core Lean only).  Hoare-style: `Pre` ⇒ `Post` for `dfs`, with a fold invariant `FI` for the
`for w in adj[v]` loop; `Ext` says how the state grows along a call or a loop, `GI` (with the active
stack) what holds between steps. -/
namespace Solvor.Net

-- Readings of the tables.  Plain `def`s: `rw` and `simp` do not look through them; where a statement in these terms meets the
-- raw lookup of `dfsStep` (`aget st.low v 0`), the two agree by `rfl` (or after `unfold DSt.lo`).
def DSt.seen (st : DSt) (x : Nat) : Prop := hasKey st.disc x = true
def DSt.dn (st : DSt) (x : Nat) : Nat := aget st.disc x 0
def DSt.lo (st : DSt) (x : Nat) : Nat := aget st.low x 0
def DSt.par (st : DSt) (x : Nat) : Option Nat := aget st.parent x none

theorem DSt.seen_congr {a b : DSt} (h : a.disc = b.disc) (x : Nat) : a.seen x ↔ b.seen x := by
  unfold DSt.seen; rw [h]

theorem DSt.dn_congr {a b : DSt} (h : a.disc = b.disc) (x : Nat) : a.dn x = b.dn x := by
  unfold DSt.dn; rw [h]

theorem DSt.par_congr {a b : DSt} (h : a.parent = b.parent) (x : Nat) : a.par x = b.par x := by
  unfold DSt.par; rw [h]

theorem DSt.not_seen_iff {st : DSt} {x : Nat} : ¬ st.seen x ↔ (!hasKey st.disc x) = true := by
  unfold DSt.seen; simp

theorem DSt.par_setParent (st : DSt) (w : Nat) (q : Option Nat) (x : Nat) :
    ({ st with parent := aset st.parent w q } : DSt).par x = if w = x then q else st.par x :=
  aget_aset st.parent w x q none

/-- `(min, max)` as the code orders a bridge -/
def canon (v w : Nat) : Nat × Nat := if v < w then (v, w) else (w, v)

theorem canon_comm {v w : Nat} (h : v ≠ w) : canon v w = canon w v := by
  unfold canon; grind

theorem canon_eq {a b c d : Nat} (h : canon a b = canon c d) : (a = c ∧ b = d) ∨ (a = d ∧ b = c) := by
  unfold canon at h
  split at h <;> split at h <;> simp only [Prod.mk.injEq] at h
  · exact Or.inl h
  · exact Or.inr h
  · exact Or.inr ⟨h.2, h.1⟩
  · exact Or.inl ⟨h.2, h.1⟩

theorem canon_lt {a b : Nat} (h : a ≠ b) :
    (canon a b).1 < (canon a b).2 ∧ (canon a b = (a, b) ∨ canon a b = (b, a)) := by
  unfold canon
  split
  · rename_i hlt; exact ⟨hlt, Or.inl rfl⟩
  · rename_i hlt; exact ⟨Nat.lt_of_le_of_ne (Nat.le_of_not_lt hlt) (Ne.symm h), Or.inr rfl⟩

/-- the active stack is a path of tree edges (top first) -/
def Chain (G : Graph) : List Nat → Prop
  | [] => True
  | [_] => True
  | a :: b :: r => G.A a b ∧ Chain G (b :: r)

theorem chain_conn (G : Graph) : ∀ (r : List Nat) (a : Nat), Chain G (a :: r) →
    ∀ b ∈ r, Conn (fun z => z ∈ a :: r) G.A a b := by
  intro r
  induction r with
  | nil => intro a _ b hb; cases hb
  | cons c r ih =>
    intro a h b hb
    have hac : Conn (fun z => z ∈ a :: c :: r) G.A a c :=
      Conn.single (by simp) (by simp) h.1
    rcases List.mem_cons.1 hb with rfl | hb
    · exact hac
    · exact hac.trans ((ih c h.2 b hb).mono_left (fun z hz => List.mem_cons_of_mem _ hz))

/-- what holds of the global state between calls; `stk` = the active ancestors (top first),
`Excl a b` = the one oriented edge whose bridge decision is still pending.  `closed`, `apC`, `brC` speak of finished nodes
(discovered and off the stack) only, `apS`, `brS` of all. -/
structure GI (G : Graph) (Excl : Nat → Nat → Prop) (st : DSt) (stk : List Nat) : Prop where
  mem    : ∀ x, st.seen x → x ∈ G.nodes
  inj    : ∀ x y, st.seen x → st.seen y → st.dn x = st.dn y → x = y
  lt     : ∀ x, st.seen x → st.dn x < st.time
  closed : ∀ x, st.seen x → x ∉ stk → ∀ u, G.A x u → st.seen u
  stkSeen : ∀ x ∈ stk, st.seen x
  chain  : Chain G stk
  apS    : ∀ x ∈ st.ap, CutSpec G x ∧ st.seen x
  apC    : ∀ x, st.seen x → x ∉ stk → CutSpec G x → x ∈ st.ap
  brS    : ∀ e ∈ st.br, ∃ a b, e = canon a b ∧ BridgeSpec G a b
  brC    : ∀ a b, BridgeSpec G a b → st.seen a → a ∉ stk → st.seen b → ¬ Excl a b → canon a b ∈ st.br
  brSeen : ∀ e ∈ st.br, ∃ a b, e = canon a b ∧ st.seen a ∧ st.seen b
  brNd   : st.br.Nodup

namespace GI
theorem congr {G : Graph} {Excl : Nat → Nat → Prop} {st st' : DSt} {stk : List Nat} (h : GI G Excl st stk)
    (hd : st'.disc = st.disc := by rfl) (ha : st'.ap = st.ap := by rfl) (hb : st'.br = st.br := by rfl)
    (ht : st'.time = st.time := by rfl) : GI G Excl st' stk := by
  obtain ⟨d, l, p, a, b, t, i⟩ := st
  obtain ⟨d', l', p', a', b', t', i'⟩ := st'
  simp only at hd ha hb ht
  subst hd ha hb ht
  exact { h with }
end GI

/-- `z` was discovered between `st` and `cur` -/
abbrev NewIn (st cur : DSt) (z : Nat) : Prop := cur.seen z ∧ ¬ st.seen z

theorem NewIn.later {st cur cur' : DSt} {z : Nat} (h : NewIn st cur z) (hk : cur.seen z → cur'.seen z) : NewIn st cur' z :=
  ⟨hk h.1, h.2⟩

theorem NewIn.since {st cur cur' : DSt} {z : Nat} (h : NewIn cur cur' z) (hk : st.seen z → cur.seen z) : NewIn st cur' z :=
  ⟨h.1, fun hs => h.2 (hk hs)⟩

/-- `low[v]` is attained: by `v` itself, or by an edge, other than the tree edge to the parent, out of a node discovered since `st` -/
abbrev LowAttained (G : Graph) (st cur : DSt) (v : Nat) (stk : List Nat) : Prop :=
  ∃ u, cur.seen u ∧ cur.lo v = cur.dn u ∧ (u = v ∨ ∃ x, NewIn st cur x ∧ G.A x u ∧ ¬ (x = v ∧ stk.head? = some u))

/-- `cur` is reached from `st` by steps of the traversal.  The fields `mem`, `inj`, `lt`, `apS`, `brS`, `brSeen`, `brNd` speak of `cur`
alone and are those of `GI`: a step (`Ext.note`) proves them for the new state before there is a `GI` for it, and the `GI` is then
filled from them. -/
structure Ext (G : Graph) (st cur : DSt) : Prop where
  keep  : ∀ x, st.seen x → cur.seen x
  dnEq  : ∀ x, st.seen x → cur.dn x = st.dn x
  loEq  : ∀ x, st.seen x → cur.lo x = st.lo x
  parEq : ∀ x, st.seen x → cur.par x = st.par x
  time  : st.time ≤ cur.time
  newge : ∀ x, cur.seen x → ¬ st.seen x → st.time ≤ cur.dn x
  mem   : ∀ x, cur.seen x → x ∈ G.nodes
  inj   : ∀ x y, cur.seen x → cur.seen y → cur.dn x = cur.dn y → x = y
  lt    : ∀ x, cur.seen x → cur.dn x < cur.time
  apS   : ∀ x ∈ cur.ap, CutSpec G x ∧ cur.seen x
  apNew : ∀ x ∈ cur.ap, x ∈ st.ap ∨ NewIn st cur x
  apMono : ∀ x ∈ st.ap, x ∈ cur.ap
  brS   : ∀ e ∈ cur.br, ∃ a b, e = canon a b ∧ BridgeSpec G a b
  brSeen : ∀ e ∈ cur.br, ∃ a b, e = canon a b ∧ cur.seen a ∧ cur.seen b
  brNd  : cur.br.Nodup
  brNew : ∀ e ∈ cur.br, e ∈ st.br ∨ ∃ a b, e = canon a b ∧ NewIn st cur a ∧ NewIn st cur b

/-- before `dfs(v)`; `stk` = the active ancestors, its top the parent of `v` -/
structure Pre (G : Graph) (st : DSt) (v : Nat) (stk : List Nat) : Prop where
  gi    : GI G (fun _ _ => False) st stk
  nd    : stk.Nodup
  vmem  : v ∈ G.nodes
  fresh : ¬ st.seen v
  parv  : st.par v = stk.head?
  adjp  : ∀ p, stk.head? = some p → G.A v p

/-- after `dfs(v)`: everything about the nodes discovered by the call is decided except the edge to the parent (`Excl`);
`low2` bounds only edges into nodes known before the call -/
structure Post (G : Graph) (st st' : DSt) (v : Nat) (stk : List Nat) : Prop where
  ext   : Ext G st st'
  seenv : st'.seen v ∧ st'.dn v = st.time
  conn  : ∀ x, st'.seen x → ¬ st.seen x → Conn (NewIn st st') G.A v x
  gi    : GI G (fun a b => a = v ∧ stk.head? = some b) st' stk
  low1  : LowAttained G st st' v stk
  low2  : ∀ x u, st'.seen x → ¬ st.seen x → G.A x u → st.seen u →
            ¬ (x = v ∧ stk.head? = some u) → st'.lo v ≤ st.dn u

/-- invariant of the `for w in adj[v]` loop: `Pd` = neighbours already handled, `cur` = current
state, `k` = `children`; the global invariant holds with `v` on the stack.  `kids`, `apvN`, `apvR` are what the decision about `v`
itself rests on when the loop ends (`fi_final`, case `apC`): the children so far cover what was discovered since `st`, and a `v`
not reported so far does not separate its handled neighbours. -/
structure FI (G : Graph) (st : DSt) (v : Nat) (stk : List Nat) (Pd : List Nat) (cur : DSt) (k : Nat) : Prop where
  ext   : Ext G st cur
  gi    : GI G (fun _ _ => False) cur (v :: stk)
  parv  : cur.par v = stk.head?
  seenv : cur.seen v ∧ cur.dn v = st.time
  pd    : ∀ w ∈ Pd, cur.seen w
  kids  : ∃ kids : List Nat, kids.length = k ∧ (∀ c ∈ kids, c ∈ Pd ∧ NewIn st cur c) ∧
            ∀ x, cur.seen x → ¬ st.seen x → x ≠ v → ∃ c ∈ kids,
              Conn (fun z => NewIn st cur z ∧ z ≠ v) G.A c x
  low1  : LowAttained G st cur v stk
  low2  : ∀ x u, cur.seen x → ¬ st.seen x → G.A x u → st.seen u →
            ¬ (x = v ∧ stk.head? = some u) → (x = v → u ∈ Pd) → cur.lo v ≤ st.dn u
  apvN  : ∀ p, stk.head? = some p → v ∉ cur.ap →
            ∀ w ∈ Pd, Conn (fun z => z ∈ G.nodes ∧ z ≠ v) G.A p w
  apvR  : stk = [] → (v ∈ cur.ap ↔ 2 ≤ k)

theorem Pre.nd_cons {G : Graph} {st : DSt} {v : Nat} {stk : List Nat} (h : Pre G st v stk) : (v :: stk).Nodup :=
  List.nodup_cons.2 ⟨fun hm => h.fresh (h.gi.stkSeen v hm), h.nd⟩

theorem cutSpec_of_sep (G : Graph) (v n1 n2 : Nat) (S : Nat → Prop) (h1 : G.A v n1) (h2 : G.A v n2)
    (hs1 : S n1) (hs2 : ¬ S n2) (hcl : ∀ x u, S x → G.A x u → u ≠ v → S u) : CutSpec G v := by
  refine ⟨n1, n2, h1, h2, ?_⟩
  intro hc
  exact hs2 (hc.closed (fun u w hu _ hw he => hcl u w hu he hw.2) hs1)

theorem bridgeSpec_of_sep (G : Graph) (v w : Nat) (S : Nat → Prop) (h : G.A v w) (hsw : S w) (hsv : ¬ S v)
    (hcl : ∀ x u, S x → G.A x u → EdgeNe v w x u → S u) : BridgeSpec G v w := by
  refine ⟨h, ?_⟩
  intro hc
  exact hsv ((hc.symm (G.A_without_symm v w)).closed (fun a b ha _ _ he => hcl a b ha he.1 he.2) hsw)

theorem child_fields (s : DSt) (L : List (Nat × Nat)) (a c : Bool) (v : Nat) (e : Nat × Nat) :
    (noteBr (noteAp { s with low := L } a v) c e).disc = s.disc ∧
    (noteBr (noteAp { s with low := L } a v) c e).parent = s.parent ∧
    (noteBr (noteAp { s with low := L } a v) c e).time = s.time ∧
    (noteBr (noteAp { s with low := L } a v) c e).low = L ∧
    (noteBr (noteAp { s with low := L } a v) c e).ap = (if a then addSet s.ap v else s.ap) ∧
    (noteBr (noteAp { s with low := L } a v) c e).br = (if c then s.br ++ [e] else s.br) := by
  cases a <;> cases c <;> exact ⟨rfl, rfl, rfl, rfl, rfl, rfl⟩

theorem seen_enter (st : DSt) (v x : Nat) : (dfsEnter st v).seen x ↔ v = x ∨ st.seen x := by
  unfold DSt.seen dfsEnter; simp only; exact hasKey_aset st.disc v x st.time

theorem dn_enter (st : DSt) (v x : Nat) : (dfsEnter st v).dn x = if v = x then st.time else st.dn x := by
  unfold DSt.dn dfsEnter; simp only; exact aget_aset st.disc v x st.time 0

theorem lo_enter (st : DSt) (v x : Nat) : (dfsEnter st v).lo x = if v = x then st.time else st.lo x := by
  unfold DSt.lo dfsEnter; simp only; exact aget_aset st.low v x st.time 0

namespace Ext

theorem trans {G : Graph} {st cur st2 : DSt} (h1 : Ext G st cur) (h2 : Ext G cur st2) : Ext G st st2 where
  keep x hx := h2.keep x (h1.keep x hx)
  dnEq x hx := (h2.dnEq x (h1.keep x hx)).trans (h1.dnEq x hx)
  loEq x hx := (h2.loEq x (h1.keep x hx)).trans (h1.loEq x hx)
  parEq x hx := (h2.parEq x (h1.keep x hx)).trans (h1.parEq x hx)
  time := Nat.le_trans h1.time h2.time
  newge x hx hnx := by
    by_cases hc : cur.seen x
    · rw [(h2.dnEq x hc)]; exact h1.newge x hc hnx
    · exact Nat.le_trans h1.time (h2.newge x hx hc)
  mem := h2.mem
  inj := h2.inj
  lt := h2.lt
  apS := h2.apS
  apNew x hx := by
    rcases h2.apNew x hx with h | h
    · rcases h1.apNew x h with h | h
      · exact Or.inl h
      · exact Or.inr (h.later (h2.keep x))
    · exact Or.inr (h.since (h1.keep x))
  apMono x hx := h2.apMono x (h1.apMono x hx)
  brS := h2.brS
  brSeen := h2.brSeen
  brNd := h2.brNd
  brNew e he := by
    rcases h2.brNew e he with h | ⟨a, b, e1, ha, hb⟩
    · rcases h1.brNew e h with h | ⟨a, b, e1, ha, hb⟩
      · exact Or.inl h
      · exact Or.inr ⟨a, b, e1, ha.later (h2.keep a), hb.later (h2.keep b)⟩
    · exact Or.inr ⟨a, b, e1, ha.since (h1.keep a), hb.since (h1.keep b)⟩

theorem enter {G : Graph} {Excl : Nat → Nat → Prop} {st : DSt} {stk : List Nat}
    (hgi : GI G Excl st stk) {v : Nat} (hv : v ∈ G.nodes) (hf : ¬ st.seen v) : Ext G st (dfsEnter st v) := by
  have hvx : ∀ x, st.seen x → ¬ v = x := fun x hx e => hf (e ▸ hx)
  have hdnO : ∀ x, st.seen x → (dfsEnter st v).dn x = st.dn x := by
    intro x hx; rw [dn_enter, if_neg (hvx x hx)]
  have hdnV : (dfsEnter st v).dn v = st.time := by rw [dn_enter, if_pos rfl]
  have hold : ∀ x, st.seen x → (dfsEnter st v).seen x := fun x hx => (seen_enter st v x).2 (Or.inr hx)
  constructor
  case keep => exact hold
  case dnEq => exact hdnO
  case loEq => intro x hx; rw [lo_enter, if_neg (hvx x hx)]
  case parEq => intro _ _; rfl
  case time => exact Nat.le_succ _
  case newge =>
    intro x hx hnx
    rcases (seen_enter st v x).1 hx with h | h
    · rw [← h, hdnV]; exact Nat.le_refl _
    · exact absurd h hnx
  case mem =>
    intro x hx
    rcases (seen_enter st v x).1 hx with h | h
    · exact h ▸ hv
    · exact hgi.mem x h
  case inj =>
    intro x y hx hy hxy
    rcases (seen_enter st v x).1 hx with h1 | h1 <;> rcases (seen_enter st v y).1 hy with h2 | h2
    · exact h1.symm.trans h2
    · subst h1
      rw [hdnV, hdnO y h2] at hxy
      exact absurd hxy.symm (Nat.ne_of_lt (hgi.lt y h2))
    · subst h2
      rw [hdnV, hdnO x h1] at hxy
      exact absurd hxy (Nat.ne_of_lt (hgi.lt x h1))
    · rw [hdnO x h1, hdnO y h2] at hxy
      exact hgi.inj x y h1 h2 hxy
  case lt =>
    intro x hx
    show _ < st.time + 1
    rcases (seen_enter st v x).1 hx with h | h
    · subst h; rw [hdnV]; exact Nat.lt_succ_self _
    · rw [hdnO x h]; exact Nat.lt_succ_of_lt (hgi.lt x h)
  case apS => intro x hx; exact ⟨(hgi.apS x hx).1, hold x (hgi.apS x hx).2⟩
  case apNew => intro x hx; exact Or.inl hx
  case apMono => intro x hx; exact hx
  case brS => exact hgi.brS
  case brSeen =>
    intro e he
    obtain ⟨a, b, h1, h2, h3⟩ := hgi.brSeen e he
    exact ⟨a, b, h1, hold a h2, hold b h3⟩
  case brNd => exact hgi.brNd
  case brNew => intro e he; exact Or.inl he

/-- `s2` → `s5`: the updates after a recursive call (`st2`, `st5` of `fi_step_child`) or the `low` update of `fi_step_seen` -/
theorem note {G : Graph} {st s2 s5 : DSt} (h : Ext G st s2)
    (hd : s5.disc = s2.disc) (hp : s5.parent = s2.parent) (ht : s5.time = s2.time)
    (hlo : ∀ x, st.seen x → s5.lo x = s2.lo x)
    (hap : s5.ap = s2.ap ∨ ∃ v, s5.ap = addSet s2.ap v ∧ CutSpec G v ∧ NewIn st s2 v)
    (hbr : s5.br = s2.br ∨ ∃ a b, s5.br = s2.br ++ [canon a b] ∧ BridgeSpec G a b ∧ canon a b ∉ s2.br ∧
      NewIn st s2 a ∧ NewIn st s2 b) : Ext G st s5 := by
  have hs := DSt.seen_congr hd
  have hdn := DSt.dn_congr hd
  have hpa := DSt.par_congr hp
  have hapE : ∀ x, x ∈ s5.ap ↔ x ∈ s2.ap ∨ (x ∈ s5.ap ∧ CutSpec G x ∧ NewIn st s2 x) := by
    intro x
    rcases hap with e | ⟨v, e, h1, h2, h3⟩
    · rw [e]; exact ⟨Or.inl, fun h' => h'.elim id fun h' => h'.1⟩
    · rw [e, mem_addSet]
      constructor
      · rintro (hx | rfl)
        · exact Or.inl hx
        · exact Or.inr ⟨Or.inr rfl, h1, h2, h3⟩
      · rintro (hx | hx)
        · exact Or.inl hx
        · exact hx.1
  have hbrE : ∀ e, e ∈ s5.br ↔ e ∈ s2.br ∨ (e ∈ s5.br ∧ ∃ a b, e = canon a b ∧ BridgeSpec G a b ∧
      NewIn st s2 a ∧ NewIn st s2 b) := by
    intro e
    rcases hbr with e1 | ⟨a, b, e1, h1, _, h3, h4⟩
    · rw [e1]; exact ⟨Or.inl, fun h' => h'.elim id fun h' => h'.1⟩
    · rw [e1, List.mem_append, List.mem_singleton]
      constructor
      · rintro (he | rfl)
        · exact Or.inl he
        · exact Or.inr ⟨Or.inr rfl, a, b, rfl, h1, h3, h4⟩
      · rintro (he | he)
        · exact Or.inl he
        · exact he.1
  constructor
  case keep => intro x hx; exact (hs x).2 (h.keep x hx)
  case dnEq => intro x hx; exact (hdn x).trans (h.dnEq x hx)
  case loEq => intro x hx; exact (hlo x hx).trans (h.loEq x hx)
  case parEq => intro x hx; exact (hpa x).trans (h.parEq x hx)
  case time => rw [ht]; exact h.time
  case newge => intro x hx hnx; rw [hdn]; exact h.newge x ((hs x).1 hx) hnx
  case mem => intro x hx; exact h.mem x ((hs x).1 hx)
  case inj =>
    intro x y hx hy hxy
    rw [hdn, hdn] at hxy
    exact h.inj x y ((hs x).1 hx) ((hs y).1 hy) hxy
  case lt => intro x hx; rw [hdn, ht]; exact h.lt x ((hs x).1 hx)
  case apS =>
    intro x hx
    rcases (hapE x).1 hx with h' | ⟨_, h1, h2, _⟩
    · exact ⟨(h.apS x h').1, (hs x).2 (h.apS x h').2⟩
    · exact ⟨h1, (hs x).2 h2⟩
  case apNew =>
    intro x hx
    rcases (hapE x).1 hx with h' | ⟨_, _, h2, h3⟩
    · rcases h.apNew x h' with h' | h'
      · exact Or.inl h'
      · exact Or.inr (h'.later (hs x).2)
    · exact Or.inr ⟨(hs x).2 h2, h3⟩
  case apMono => intro x hx; exact (hapE x).2 (Or.inl (h.apMono x hx))
  case brS =>
    intro e he
    rcases (hbrE e).1 he with h' | ⟨_, a, b, e1, h1, _⟩
    · exact h.brS e h'
    · exact ⟨a, b, e1, h1⟩
  case brSeen =>
    intro e he
    rcases (hbrE e).1 he with h' | ⟨_, a, b, e1, _, h3, h4⟩
    · obtain ⟨a, b, e1, h2, h3⟩ := h.brSeen e h'
      exact ⟨a, b, e1, (hs a).2 h2, (hs b).2 h3⟩
    · exact ⟨a, b, e1, (hs a).2 h3.1, (hs b).2 h4.1⟩
  case brNd =>
    rcases hbr with e1 | ⟨a, b, e1, _, h2, _⟩
    · rw [e1]; exact h.brNd
    · rw [e1, List.nodup_append]
      refine ⟨h.brNd, by simp, ?_⟩
      intro e he e' he'
      rw [List.mem_singleton.1 he']
      exact fun heq => h2 (heq ▸ he)
  case brNew =>
    intro e he
    rcases (hbrE e).1 he with h' | ⟨_, a, b, e1, _, h3, h4⟩
    · rcases h.brNew e h' with h' | ⟨a, b, e1, h3, h4⟩
      · exact Or.inl h'
      · exact Or.inr ⟨a, b, e1, h3.later (hs a).2, h4.later (hs b).2⟩
    · exact Or.inr ⟨a, b, e1, h3.later (hs a).2, h4.later (hs b).2⟩

end Ext

theorem fi_init {G : Graph} {st : DSt} {v : Nat} {stk : List Nat} (hpre : Pre G st v stk) :
    FI G st v stk [] (dfsEnter st v) 0 := by
  have hnew : ∀ x, (dfsEnter st v).seen x → ¬ st.seen x → x = v := by
    intro x hx hnx
    rcases (seen_enter st v x).1 hx with h | h
    · exact h.symm
    · exact absurd h hnx
  have hdnV : (dfsEnter st v).dn v = st.time := by rw [dn_enter, if_pos rfl]
  have hext : Ext G st (dfsEnter st v) := Ext.enter hpre.gi hpre.vmem hpre.fresh
  have hold : ∀ x, (dfsEnter st v).seen x → x ∉ v :: stk → st.seen x ∧ x ∉ stk := by
    intro x hx hxs
    rcases (seen_enter st v x).1 hx with h | h
    · exact absurd (h ▸ List.mem_cons_self) hxs
    · exact ⟨h, fun h' => hxs (List.mem_cons_of_mem _ h')⟩
  refine { ext := hext, gi := ?gi, parv := hpre.parv, seenv := ⟨(seen_enter st v v).2 (Or.inl rfl), hdnV⟩,
           pd := ?pd, kids := ?kids,
           low1 := ⟨v, (seen_enter st v v).2 (Or.inl rfl), by rw [lo_enter, if_pos rfl, hdnV], Or.inl rfl⟩,
           low2 := ?low2, apvN := ?apvN, apvR := ?apvR }
  case gi =>
    refine { mem := hext.mem, inj := hext.inj, lt := hext.lt, apS := hext.apS, brS := hext.brS,
             brSeen := hext.brSeen, brNd := hext.brNd, closed := ?closed, stkSeen := ?stkSeen,
             chain := ?chain, apC := ?apC, brC := ?brC }
    case closed =>
      intro x hx hxs u hxu
      obtain ⟨h1, h2⟩ := hold x hx hxs
      exact (hext.keep u (hpre.gi.closed x h1 h2 u hxu))
    case stkSeen =>
      intro x hx
      rcases List.mem_cons.1 hx with h | hx
      · exact (seen_enter st v x).2 (Or.inl h.symm)
      · exact (hext.keep x (hpre.gi.stkSeen x hx))
    case chain =>
      cases hstk : stk with
      | nil => trivial
      | cons p r => exact ⟨hpre.adjp p (by rw [hstk]; rfl), hstk ▸ hpre.gi.chain⟩
    case apC =>
      intro x hx hxs hc
      obtain ⟨h1, h2⟩ := hold x hx hxs
      exact hpre.gi.apC x h1 h2 hc
    case brC =>
      intro a b hb ha has _ _
      obtain ⟨h1, h2⟩ := hold a ha has
      exact hpre.gi.brC a b hb h1 h2 (hpre.gi.closed a h1 h2 b hb.1) (fun h => h)
  case pd =>
    intro w hw; cases hw
  case kids =>
    refine ⟨[], rfl, by simp, ?_⟩
    intro x hx hnx hxv; exact absurd (hnew x hx hnx) hxv
  case low2 =>
    intro x u hx hnx _ _ _ hpd
    have := hpd (hnew x hx hnx); cases this
  case apvN =>
    intro p _ _ w hw; cases hw
  case apvR =>
    intro _
    constructor
    · intro h; exact absurd (hpre.gi.apS v h).2 hpre.fresh
    · intro h; exact absurd h (by decide)

theorem stk_conn {G : Graph} {st : DSt} {v : Nat} {stk : List Nat} (hpre : Pre G st v stk)
    {p : Nat} (hp : stk.head? = some p) {w : Nat} (hw : w ∈ stk) :
    Conn (fun z => z ∈ G.nodes ∧ z ≠ v) G.A p w := by
  cases stk with
  | nil => cases hw
  | cons a r =>
    simp only [List.head?_cons, Option.some.injEq] at hp
    subst hp
    have hmono : ∀ z, z ∈ a :: r → z ∈ G.nodes ∧ z ≠ v := by
      intro z hz
      have hs := hpre.gi.stkSeen z hz
      exact ⟨hpre.gi.mem z hs, fun e => hpre.fresh (e ▸ hs)⟩
    rcases List.mem_cons.1 hw with rfl | hw
    · exact Conn.refl _
    · exact (chain_conn G r a hpre.gi.chain w hw).mono_left hmono

theorem old_on_stack {G : Graph} {st : DSt} {v : Nat} {stk : List Nat} (hpre : Pre G st v stk)
    {u x : Nat} (hu : st.seen u) (hux : G.A u x) (hx : ¬ st.seen x) : u ∈ stk :=
  Classical.byContradiction fun hn => hx (hpre.gi.closed u hu hn x hux)

/-- `L` is the `low` table afterwards, given by what the proof needs of it, so that both non-recursive branches of `dfsStep` are
instances: `aset low v (min low[v] disc[w])` when `w` is not the parent, the table itself when it is. -/
theorem fi_step_seen {G : Graph} {st : DSt} {v : Nat} {stk : List Nat} (hpre : Pre G st v stk)
    {Pd : List Nat} {cur : DSt} {k : Nat} (hfi : FI G st v stk Pd cur k) {w : Nat} (hvw : G.A v w)
    (hws : cur.seen w) (L : List (Nat × Nat))
    (hLo : ∀ x, x ≠ v → aget L x 0 = cur.lo x) (hLv : aget L v 0 ≤ cur.lo v)
    (hL1 : aget L v 0 = cur.lo v ∨ (aget L v 0 = cur.dn w ∧ stk.head? ≠ some w))
    (hL2 : stk.head? ≠ some w → aget L v 0 ≤ cur.dn w) :
    FI G st v stk (Pd ++ [w]) { cur with low := L } k := by
  have hwv : w ≠ v := (G.A_ne hvw).symm
  refine { ext := ?ext, gi := hfi.gi.congr, parv := hfi.parv, seenv := hfi.seenv, pd := ?pd,
           kids := ?kids, low1 := ?low1, low2 := ?low2, apvN := ?apvN, apvR := hfi.apvR }
  case ext =>
    exact hfi.ext.note rfl rfl rfl (fun x hx => hLo x (fun e => hpre.fresh (e ▸ hx))) (Or.inl rfl) (Or.inl rfl)
  case pd =>
    intro x hx
    rcases List.mem_append.1 hx with hx | hx
    · exact hfi.pd x hx
    · simp only [List.mem_singleton] at hx; subst hx; exact hws
  case kids =>
    obtain ⟨kids, h1, h2, h3⟩ := hfi.kids
    exact ⟨kids, h1, fun c hc => ⟨List.mem_append_left _ (h2 c hc).1, (h2 c hc).2⟩, h3⟩
  case low1 =>
    rcases hL1 with h | ⟨h, hne⟩
    · obtain ⟨u, hus, hu, hrest⟩ := hfi.low1
      exact ⟨u, hus, h.trans hu, hrest⟩
    · exact ⟨w, hws, h, Or.inr ⟨v, ⟨hfi.seenv.1, hpre.fresh⟩, hvw, fun hc => hne hc.2⟩⟩
  case low2 =>
    intro x u hx hnx hxu hu hex hpd
    by_cases hc : x = v ∧ u = w
    · obtain ⟨rfl, rfl⟩ := hc
      have := hL2 (fun h => hex ⟨rfl, h⟩)
      rw [(hfi.ext.dnEq u hu)] at this
      exact this
    · apply Nat.le_trans hLv
      apply hfi.low2 x u hx hnx hxu hu hex
      intro hxv
      rcases List.mem_append.1 (hpd hxv) with h | h
      · exact h
      · simp only [List.mem_singleton] at h
        exact absurd ⟨hxv, h⟩ hc
  case apvN =>
    intro p hp hnap x hx
    rcases List.mem_append.1 hx with hx | hx
    · exact hfi.apvN p hp hnap x hx
    · simp only [List.mem_singleton] at hx; subst hx
      by_cases hso : st.seen x
      · exact stk_conn hpre hp (old_on_stack hpre hso (G.A_symm hvw) hpre.fresh)
      · obtain ⟨kids, _, h2, h3⟩ := hfi.kids
        obtain ⟨c, hc, hcx⟩ := h3 x hws hso hwv
        exact (hfi.apvN p hp hnap c (h2 c hc).1).trans
          (hcx.mono_left (fun z hz => ⟨hfi.ext.mem z hz.1.1, hz.2⟩))

/-- The numerals are positions in the `let st := …` chain of `dfsStep`: `st2` is the state after the call, `st5` the one after
`noteBr`.  `isAp` stands for the `match aget st.parent v none with …` of `dfsStep`, so that the lookup `aget st2.parent v none`
does not occur here (`dfs_post` supplies it); `hApN` and `hApR` say what it tests when `v` has a parent and when it is a root.

The proof in blocks: `st5` read through `st2` (`hs5` … `hl5`), `st2` read through `cur` (`hpar2` … `htime`); the `hN…` facts, about
the nodes the call discovered (seen in `st2`, not in `cur`); `hesc`, and from it `hcutN`, `hcutR`, `hbrS` (a decision taken is
right), which feed `hext5`; `hret` (a decision not taken is right), which feeds `brC` and `apvN`; then `hext5` and the ten fields of `FI`. -/
theorem fi_step_child {G : Graph} {st : DSt} {v : Nat} {stk : List Nat} (hpre : Pre G st v stk)
    {Pd : List Nat} {cur : DSt} {k : Nat} (hfi : FI G st v stk Pd cur k) (hPd : ∀ x ∈ Pd, G.A v x)
    {w : Nat} (hvw : G.A v w) (hwn : ¬ cur.seen w) {st2 : DSt}
    (hpost : Post G { cur with parent := aset cur.parent w (some v) } st2 w (v :: stk))
    (isAp : Bool) (hApN : ∀ p, stk.head? = some p → (isAp = true ↔ st2.lo w ≥ st2.dn v))
    (hApR : stk = [] → (isAp = true ↔ k + 1 ≥ 2)) :
    FI G st v stk (Pd ++ [w]) (noteBr (noteAp { st2 with low := aset st2.low v (min (st2.lo v) (st2.lo w)) } isAp v)
      (decide (st2.lo w > st2.dn v)) (canon v w)) (k + 1) := by
  obtain ⟨h5disc, h5par, h5time, h5low, h5ap, h5br⟩ := child_fields st2
    (aset st2.low v (min (st2.lo v) (st2.lo w))) isAp (decide (st2.lo w > st2.dn v)) v (canon v w)
  generalize noteBr (noteAp { st2 with low := aset st2.low v (min (st2.lo v) (st2.lo w)) } isAp v)
    (decide (st2.lo w > st2.dn v)) (canon v w) = st5 at h5disc h5par h5time h5low h5ap h5br ⊢
  have hs5 := DSt.seen_congr h5disc
  have hd5 := DSt.dn_congr h5disc
  have hp5 := DSt.par_congr h5par
  have hl5 : ∀ x, st5.lo x = if v = x then min (st2.lo v) (st2.lo w) else st2.lo x := fun x => by
    unfold DSt.lo; rw [h5low, aget_aset]; rfl
  -- reading st2 through cur (the call starts from `cur` with `parent[w]` set)
  have hpar2 : ∀ x, cur.seen x → st2.par x = cur.par x := fun x hx => (hpost.ext.parEq x hx).trans
    ((cur.par_setParent w (some v) x).trans (if_neg fun (e : w = x) => hwn (e ▸ hx)))
  -- the other fields read the start state through `seen`, `dn`, `lo`, `time`, `ap`, `br` only, which setting `parent[w]` leaves alone
  have hext : Ext G cur st2 := { hpost.ext with parEq := hpar2 }
  have hwv : w ≠ v := (G.A_ne hvw).symm
  have hdv : st2.dn v = st.time := by rw [(hext.dnEq v hfi.seenv.1)]; exact hfi.seenv.2
  have hlov : st2.lo v = cur.lo v := (hext.loEq v hfi.seenv.1)
  have htime : st.time < cur.time := by have := hfi.ext.lt v hfi.seenv.1; rw [hfi.seenv.2] at this; exact this
  have hNge : ∀ x, st2.seen x → ¬ cur.seen x → st.time < st2.dn x := by
    intro x hx hnx
    exact Nat.lt_of_lt_of_le htime (hext.newge x hx hnx)
  have hso : ∀ x, st.seen x → cur.seen x := fun x hx => (hfi.ext.keep x hx)
  have hstkO : ∀ x ∈ stk, st.seen x := hpre.gi.stkSeen
  have hNnot : ∀ x, st2.seen x → ¬ cur.seen x → x ∉ v :: stk := by
    intro x _ hnx h
    rcases List.mem_cons.1 h with rfl | h
    · exact hnx hfi.seenv.1
    · exact hnx (hso x (hstkO x h))
  have hNold : ∀ x u, st2.seen x → ¬ cur.seen x → G.A x u → cur.seen u → u = v ∨ (u ∈ stk ∧ st.seen u) := by
    intro x u _ hnx hxu hu
    by_cases hus : u ∈ v :: stk
    · rcases List.mem_cons.1 hus with h | h
      · exact Or.inl h
      · exact Or.inr ⟨h, hstkO u h⟩
    · exact absurd (hfi.gi.closed u hu hus x (G.A_symm hxu)) hnx
  have hNclosed : ∀ x u, st2.seen x → ¬ cur.seen x → G.A x u → st2.seen u :=
    fun x u hx hnx hxu => hpost.gi.closed x hx (hNnot x hx hnx) u hxu
  have hNv : ∀ x, st2.seen x → ¬ cur.seen x → x ≠ v := fun x _ hnx e => hnx (e ▸ hfi.seenv.1)
  have hlow2c : ∀ x u, st2.seen x → ¬ cur.seen x → G.A x u → cur.seen u → ¬ (x = w ∧ u = v) →
      st2.lo w ≤ cur.dn u := by
    intro x u hx hnx hxu hu hex
    apply hpost.low2 x u hx hnx hxu hu
    rintro ⟨h1, h2⟩
    simp only [List.head?_cons, Option.some.injEq] at h2
    exact hex ⟨h1, h2.symm⟩
  have hwN : NewIn cur st2 w := ⟨hpost.seenv.1, hwn⟩
  have hdnw : st.time < st2.dn w := hNge w hwN.1 hwN.2
  have hNmono : ∀ z, NewIn cur st2 z → z ∈ G.nodes ∧ z ≠ v :=
    fun z hz => ⟨hpost.gi.mem z hz.1, hNv z hz.1 hz.2⟩
  -- an edge leaving the subtree of `w` ends in `v` or at a stack node discovered before `v` and not
  -- before `low[w]`; both decisions are sound by this
  have hesc : ∀ x u, NewIn cur st2 x → G.A x u →
      NewIn cur st2 u ∨ (u = v ∧ (x = w ∨ st2.lo w ≤ st.time)) ∨ st2.lo w < st.time := by
    intro x u hx hxu
    by_cases hu : cur.seen u
    · right
      rcases hNold x u hx.1 hx.2 hxu hu with h | ⟨_, huo⟩
      · refine Or.inl ⟨h, ?_⟩
        by_cases hxw : x = w
        · exact Or.inl hxw
        · have h1 := hlow2c x u hx.1 hx.2 hxu hu (fun h' => hxw h'.1)
          rw [h, hfi.seenv.2] at h1
          exact Or.inr h1
      · have h1 := hlow2c x u hx.1 hx.2 hxu hu (fun h' => hpre.fresh (h'.2 ▸ huo))
        rw [(hfi.ext.dnEq u huo)] at h1
        exact Or.inr (Nat.lt_of_le_of_lt h1 (hpre.gi.lt u huo))
    · exact Or.inl ⟨hNclosed x u hx.1 hx.2 hxu, hu⟩
  have hcutN : ∀ p, stk.head? = some p → st2.lo w ≥ st2.dn v → CutSpec G v := by
    intro p hp hge
    rw [hdv] at hge
    have hpstk : p ∈ stk := List.mem_of_mem_head? hp
    apply cutSpec_of_sep G v w p (NewIn cur st2) hvw (hpre.adjp p hp) hwN
    · intro h; exact h.2 (hso p (hstkO p hpstk))
    · intro x u hx hxu huv
      rcases hesc x u hx hxu with h | ⟨h, _⟩ | h
      · exact h
      · exact absurd h huv
      · exact absurd hge (Nat.not_le_of_gt h)
  have hcutR : stk = [] → k + 1 ≥ 2 → CutSpec G v := by
    intro hnil hk
    obtain ⟨kids, hlen, hkids, _⟩ := hfi.kids
    cases kids with
    | nil => rw [← hlen] at hk; exact absurd hk (by decide)
    | cons c1 _ =>
      have hc1 := hkids c1 List.mem_cons_self
      apply cutSpec_of_sep G v c1 w (fun z => cur.seen z ∧ z ≠ v) (hPd c1 hc1.1) hvw
        ⟨hc1.2.1, (G.A_ne (hPd c1 hc1.1)).symm⟩
      · intro h; exact hwn h.1
      · intro x u hx hxu huv
        refine ⟨hfi.gi.closed x hx.1 ?_ u hxu, huv⟩
        rw [hnil]; exact fun h => hx.2 (List.mem_singleton.1 h)
  have hbrS : st2.lo w > st2.dn v → BridgeSpec G v w := by
    intro hgt
    rw [hdv] at hgt
    apply bridgeSpec_of_sep G v w (NewIn cur st2) hvw hwN
    · intro h; exact h.2 hfi.seenv.1
    · intro x u hx hxu hne
      rcases hesc x u hx hxu with h | ⟨h, h' | h'⟩ | h
      · exact h
      · exact absurd (Or.inr ⟨h', h⟩) hne
      · exact absurd h' (Nat.not_le_of_gt hgt)
      · exact absurd h (Nat.lt_asymm hgt)
  obtain ⟨u0, hu0s, hu0, hu0w⟩ := hpost.low1
  -- if `low[w] ≤ disc[v]`, the subtree of `w` reaches around `v` a neighbour `z ≠ w` of `v`, which is
  -- the parent of `v` when `low[w] < disc[v]`; both decisions are complete by this
  have hret : st2.lo w ≤ st2.dn v → ∃ z, z ≠ w ∧ G.A z v ∧
      Conn (fun x => x ∈ G.nodes ∧ x ≠ v) G.A w z ∧ (st2.lo w < st2.dn v → stk.head? = some z) := by
    intro hle
    have hle' : st2.dn u0 ≤ st.time := by rw [← hu0, ← hdv]; exact hle
    rcases hu0w with h | ⟨y, hy, hyu, hex⟩
    · rw [h] at hle'; exact absurd hle' (Nat.not_le_of_gt hdnw)
    · have hwy : Conn (fun x => x ∈ G.nodes ∧ x ≠ v) G.A w y :=
        (hpost.conn y hy.1 hy.2).mono_left hNmono
      have hcu : cur.seen u0 :=
        Classical.byContradiction fun hn => Nat.not_le_of_gt (hNge u0 hu0s hn) hle'
      rcases hNold y u0 hy.1 hy.2 hyu hcu with h | ⟨hustk, huo⟩
      · refine ⟨y, fun e => hex ⟨e, by rw [h]; rfl⟩, h ▸ hyu, hwy, fun hlt => ?_⟩
        rw [hu0, h] at hlt
        exact absurd hlt (Nat.lt_irrefl _)
      · obtain ⟨p, hp⟩ : ∃ p, stk.head? = some p := ⟨_, List.head?_eq_some_head (List.ne_nil_of_mem hustk)⟩
        have hum : u0 ∈ G.nodes ∧ u0 ≠ v := ⟨hpre.gi.mem u0 huo, fun e => hpre.fresh (e ▸ huo)⟩
        refine ⟨p, fun e => hwn (hso w (e ▸ hstkO p (List.mem_of_mem_head? hp))),
          G.A_symm (hpre.adjp p hp), ?_, fun _ => hp⟩
        exact (hwy.trans (Conn.single (hNmono y hy) hum hyu)).trans
          ((stk_conn hpre hp hustk).symmA)
  have hext5 : Ext G st st5 := by
    refine (hfi.ext.trans hext).note h5disc h5par h5time ?_ ?_ ?_
    · intro x hx
      rw [hl5, if_neg (fun (e : v = x) => hpre.fresh (e ▸ hx))]
    · rw [h5ap]
      cases hflag : isAp with
      | false => exact Or.inl rfl
      | true =>
        refine Or.inr ⟨v, rfl, ?_, (hext.keep v hfi.seenv.1), hpre.fresh⟩
        cases hstk : stk.head? with
        | none =>
          have hnil : stk = [] := List.head?_eq_none_iff.1 hstk
          exact hcutR hnil ((hApR hnil).1 hflag)
        | some p => exact hcutN p hstk ((hApN p hstk).1 hflag)
    · rw [h5br]
      by_cases hgt : st2.lo w > st2.dn v
      · rw [if_pos (decide_eq_true hgt)]
        refine Or.inr ⟨v, w, rfl, hbrS hgt, ?_, ⟨(hext.keep v hfi.seenv.1), hpre.fresh⟩,
          hwN.since (hso w)⟩
        -- the new bridge is not listed yet: one of its ends is discovered by this call, the other is not
        intro he
        rcases hext.brNew _ he with h | ⟨a, b, h1, h2, h3⟩
        · obtain ⟨a, b, h1, h2, h3⟩ := hfi.ext.brSeen _ h
          rcases canon_eq h1 with ⟨_, e2⟩ | ⟨_, e2⟩
          · exact hwn (e2 ▸ h3)
          · exact hwn (e2 ▸ h2)
        · rcases canon_eq h1 with ⟨e1, _⟩ | ⟨e1, _⟩
          · exact h2.2 (e1 ▸ hfi.seenv.1)
          · exact h3.2 (e1 ▸ hfi.seenv.1)
      · rw [if_neg (fun h' => hgt (of_decide_eq_true h'))]
        exact Or.inl rfl
  refine { ext := hext5, gi := ?gi, parv := ?parv,
           seenv := ⟨(hs5 v).2 (hext.keep v hfi.seenv.1), by rw [hd5]; exact hdv⟩, pd := ?pd, kids := ?kids,
           low1 := ?low1, low2 := ?low2, apvN := ?apvN, apvR := ?apvR }
  case gi =>
    -- the global invariant with `v` on the stack: from the call's, whose pending edge `(w, v)` is now decided
    refine { mem := hext5.mem, inj := hext5.inj, lt := hext5.lt, apS := hext5.apS, brS := hext5.brS,
             brSeen := hext5.brSeen, brNd := hext5.brNd, chain := hpost.gi.chain, closed := ?closed,
             stkSeen := ?stkSeen, apC := ?apC, brC := ?brC }
    case closed =>
      intro x hx hxs u hxu
      exact (hs5 u).2 (hpost.gi.closed x ((hs5 x).1 hx) hxs u hxu)
    case stkSeen =>
      intro x hx; exact (hs5 x).2 (hpost.gi.stkSeen x hx)
    case apC =>
      intro x hx hxs hc
      have h2 := hpost.gi.apC x ((hs5 x).1 hx) hxs hc
      rw [h5ap]; split
      · exact mem_addSet.2 (Or.inl h2)
      · exact h2
    case brC =>
      intro a b hb ha has hbs _
      by_cases hex : a = w ∧ b = v
      · rw [hex.1, hex.2, canon_comm hwv, h5br]
        have hgt : st2.lo w > st2.dn v := by
          apply Classical.byContradiction
          intro hng
          obtain ⟨z, hza, hzb, hc, _⟩ := hret (Nat.le_of_not_gt hng)
          exact not_bridgeSpec_of_detour G hzb hza hc (hex.1 ▸ hex.2 ▸ hb)
        rw [if_pos (by simpa using hgt)]
        exact List.mem_append_right _ (by simp)
      · have h2 := hpost.gi.brC a b hb ((hs5 a).1 ha) has ((hs5 b).1 hbs)
          (fun h => hex ⟨h.1, (Option.some.inj h.2).symm⟩)
        rw [h5br]; split
        · exact List.mem_append_left _ h2
        · exact h2
  case parv =>
    rw [hp5, (hext.parEq v hfi.seenv.1)]; exact hfi.parv
  case pd =>
    intro x hx
    rcases List.mem_append.1 hx with hx | hx
    · exact (hs5 x).2 (hext.keep x (hfi.pd x hx))
    · rw [List.mem_singleton.1 hx]; exact (hs5 w).2 hwN.1
  case kids =>
    obtain ⟨kids, hlen, hkids, hcov⟩ := hfi.kids
    refine ⟨kids ++ [w], by simp [hlen], ?_, ?_⟩
    · intro c hc
      rcases List.mem_append.1 hc with hc | hc
      · obtain ⟨h1, h2, h3⟩ := hkids c hc
        exact ⟨List.mem_append_left _ h1, (hs5 c).2 (hext.keep c h2), h3⟩
      · rw [List.mem_singleton.1 hc]
        exact ⟨by simp, (hwN.since (hso w)).later (hs5 w).2⟩
    · intro x hx hnx hxv
      by_cases hxc : cur.seen x
      · obtain ⟨c, hc, hcx⟩ := hcov x hxc hnx hxv
        refine ⟨c, List.mem_append_left _ hc, hcx.mono_left ?_⟩
        intro z hz
        exact ⟨hz.1.later fun h => (hs5 z).2 (hext.keep z h), hz.2⟩
      · refine ⟨w, by simp, (hpost.conn x ((hs5 x).1 hx) hxc).mono_left ?_⟩
        intro z hz
        exact ⟨(hz.since (hso z)).later (hs5 z).2, hNv z hz.1 hz.2⟩
  case low1 =>
    unfold LowAttained
    rw [hl5, if_pos rfl]
    by_cases hmin : st2.lo v ≤ st2.lo w
    · rw [Nat.min_eq_left hmin, hlov]
      obtain ⟨u, hus, hu, hrest⟩ := hfi.low1
      refine ⟨u, (hs5 u).2 (hext.keep u hus), by rw [hd5, (hext.dnEq u hus)]; exact hu, ?_⟩
      rcases hrest with h | ⟨x, hx, hxu, hex⟩
      · exact Or.inl h
      · exact Or.inr ⟨x, hx.later fun h => (hs5 x).2 (hext.keep x h), hxu, hex⟩
    · rw [Nat.min_eq_right (Nat.le_of_not_le hmin)]
      refine ⟨u0, (hs5 u0).2 hu0s, by rw [hd5]; exact hu0, ?_⟩
      right
      rcases hu0w with h0 | ⟨x, hx, hxu, _⟩
      · refine ⟨v, ⟨(hs5 v).2 (hext.keep v hfi.seenv.1), hpre.fresh⟩, h0 ▸ hvw, ?_⟩
        rintro ⟨_, h⟩
        exact hwn (h0 ▸ hso u0 (hstkO u0 (List.mem_of_mem_head? h)))
      · exact ⟨x, (hx.since (hso x)).later (hs5 x).2, hxu, fun h => hNv x hx.1 hx.2 h.1⟩
  case low2 =>
    intro x u hx hnx hxu hu hex hpd
    rw [hl5, if_pos rfl]
    by_cases hxc : cur.seen x
    · apply Nat.le_trans (Nat.min_le_left _ _)
      rw [hlov]
      apply hfi.low2 x u hxc hnx hxu hu hex
      intro hxv
      rcases List.mem_append.1 (hpd hxv) with h | h
      · exact h
      · exact absurd (List.mem_singleton.1 h ▸ hso u hu) hwn
    · apply Nat.le_trans (Nat.min_le_right _ _)
      have := hlow2c x u ((hs5 x).1 hx) hxc hxu (hso u hu) (fun h => hpre.fresh (h.2 ▸ hu))
      rw [(hfi.ext.dnEq u hu)] at this
      exact this
  case apvN =>
    intro p hp hnap x hx
    have hflag : isAp = false := by
      cases hq : isAp with
      | false => rfl
      | true => exfalso; apply hnap; rw [h5ap, hq]; exact mem_addSet.2 (Or.inr rfl)
    have hnap2 : v ∉ st2.ap := by
      intro h; apply hnap; rw [h5ap, hflag]; exact h
    have hnapc : v ∉ cur.ap := fun h => hnap2 (hext.apMono v h)
    rcases List.mem_append.1 hx with hx | hx
    · exact hfi.apvN p hp hnapc x hx
    · rw [List.mem_singleton.1 hx]
      have hlt : st2.lo w < st2.dn v := by
        have : ¬ (st2.lo w ≥ st2.dn v) := fun h => by
          have := (hApN p hp).2 h; rw [hflag] at this; cases this
        exact Nat.lt_of_not_le this
      obtain ⟨z, _, _, hc, hz⟩ := hret (Nat.le_of_lt hlt)
      have hzp := hz hlt
      rw [hp] at hzp
      cases hzp
      exact hc.symmA
  case apvR =>
    intro hnil
    have hiff := hApR hnil
    rw [h5ap]
    constructor
    · intro h
      split at h
      · rename_i hflag; exact hiff.1 hflag
      · rename_i hflag
        rcases hext.apNew v h with h' | h'
        · exact Nat.le_succ_of_le ((hfi.apvR hnil).1 h')
        · exact absurd hfi.seenv.1 h'.2
    · intro h
      rw [if_pos (hiff.2 h)]; exact mem_addSet.2 (Or.inr rfl)

theorem fi_final {G : Graph} {st : DSt} {v : Nat} {stk : List Nat} (hpre : Pre G st v stk)
    {cur : DSt} {k : Nat} (hfi : FI G st v stk (G.sadj v) cur k) : Post G st cur v stk := by
  have hMn : ∀ z, (NewIn st cur z ∧ z ≠ v) → z ∈ G.nodes ∧ z ≠ v :=
    fun z hz => ⟨hfi.ext.mem z hz.1.1, hz.2⟩
  have hoff : ∀ x, x ≠ v → x ∉ stk → x ∉ v :: stk :=
    fun x h1 h2 h => (List.mem_cons.1 h).elim h1 h2
  refine { ext := hfi.ext, seenv := hfi.seenv, conn := ?conn, gi := ?gi, low1 := hfi.low1, low2 := ?low2 }
  case conn =>
    intro x hx hnx
    by_cases hxv : x = v
    · subst hxv; exact Conn.refl _
    · obtain ⟨kids, _, hk, hcov⟩ := hfi.kids
      obtain ⟨c, hc, hcx⟩ := hcov x hx hnx hxv
      have hc' := hk c hc
      exact (Conn.single ⟨hfi.seenv.1, hpre.fresh⟩ ⟨hc'.2.1, hc'.2.2⟩ hc'.1).trans
        (hcx.mono_left (fun z hz => hz.1))
  case gi =>
    refine { mem := hfi.ext.mem, inj := hfi.ext.inj, lt := hfi.ext.lt, closed := ?closed,
             stkSeen := ?stkSeen, chain := hpre.gi.chain, apS := hfi.ext.apS, apC := ?apC,
             brS := hfi.ext.brS, brC := ?brC, brSeen := hfi.ext.brSeen, brNd := hfi.ext.brNd }
    case closed =>
      intro x hx hxs u hxu
      by_cases hxv : x = v
      · exact hfi.pd u (hxv ▸ hxu)
      · exact hfi.gi.closed x hx (hoff x hxv hxs) u hxu
    case stkSeen =>
      intro x hx; exact hfi.gi.stkSeen x (List.mem_cons_of_mem _ hx)
    case apC =>
      intro x hx hxs hc
      by_cases hxv : x = v
      · subst hxv
        apply Classical.byContradiction
        intro hnap
        obtain ⟨n1, n2, h1, h2, hsep⟩ := hc
        apply hsep
        cases hstk : stk.head? with
        | some p =>
          have c1 := hfi.apvN p hstk hnap n1 h1
          have c2 := hfi.apvN p hstk hnap n2 h2
          exact (c1.symmA).trans c2
        | none =>
          -- a root with fewer than two children: both neighbours lie under its one child, inside the subtree
          have hnil : stk = [] := List.head?_eq_none_iff.1 hstk
          have hk : ¬ 2 ≤ k := fun h => hnap ((hfi.apvR hnil).2 h)
          obtain ⟨kids, hlen, _, hcov⟩ := hfi.kids
          have hnew : ∀ n, G.A x n → NewIn st cur n ∧ n ≠ x := by
            intro n hn
            refine ⟨⟨hfi.pd n hn, ?_⟩, (G.A_ne hn).symm⟩
            intro hns
            have := old_on_stack hpre hns (G.A_symm hn) hpre.fresh
            rw [hnil] at this; cases this
          obtain ⟨c1, hc1, k1⟩ := hcov n1 (hnew n1 h1).1.1 (hnew n1 h1).1.2 (hnew n1 h1).2
          obtain ⟨c2, hc2, k2⟩ := hcov n2 (hnew n2 h2).1.1 (hnew n2 h2).1.2 (hnew n2 h2).2
          have hceq : c1 = c2 := by
            match kids, hlen, hc1, hc2 with
            | [], _, h, _ => cases h
            | [c], _, h1', h2' =>
              simp only [List.mem_singleton] at h1' h2'; rw [h1', h2']
            | _ :: _ :: r, hl, _, _ => exact absurd (hl ▸ Nat.le_add_left 2 r.length) hk
          subst hceq
          exact ((k1.symmA).trans k2).mono_left hMn
      · exact hfi.gi.apC x hx (hoff x hxv hxs) hc
    case brC =>
      intro a b hb ha has hbs hex
      by_cases hav : a = v
      · subst hav
        by_cases hbo : st.seen b
        · exfalso
          have hbstk := old_on_stack hpre hbo (G.A_symm hb.1) hpre.fresh
          obtain ⟨p, hp⟩ : ∃ p, stk.head? = some p := ⟨_, List.head?_eq_some_head (List.ne_nil_of_mem hbstk)⟩
          exact not_bridgeSpec_of_detour G (G.A_symm (hpre.adjp p hp)) (fun e => hex ⟨rfl, by rw [hp, e]⟩)
            ((stk_conn hpre hp hbstk).symmA) (BridgeSpec_symm G hb)
        · have hbv : b ≠ a := (G.A_ne hb.1).symm
          have := hfi.gi.brC b a (BridgeSpec_symm G hb) hbs
            (hoff b hbv fun h => hbo (hpre.gi.stkSeen b h)) hfi.seenv.1 (fun h => h)
          rw [canon_comm hbv.symm]; exact this
      · exact hfi.gi.brC a b hb ha (hoff a hav has) hbs (fun h => h)
  case low2 =>
    intro x u hx hnx hxu hu hex
    exact hfi.low2 x u hx hnx hxu hu hex (fun e => e ▸ hxu)

theorem dfs_post (G : Graph) : ∀ (fuel v : Nat) (st : DSt) (stk : List Nat),
    Pre G st v stk → G.nodes.length < stk.length + fuel → Post G st (dfs G.sadj fuel v st) v stk := by
  intro fuel
  induction fuel with
  | zero =>
    intro v st stk hpre hle
    -- the fuel cannot run out: `fuel + stk.length` stays above the number of nodes (each call gives one unit of fuel for one
    -- more stack entry), and the stack with `v` on top is a duplicate-free list of nodes, hence no longer than `G.nodes`
    have hlen : (v :: stk).length ≤ G.nodes.length := List.Nodup.length_le_of_subset hpre.nd_cons fun x hx =>
      (List.mem_cons.1 hx).elim (fun e => e ▸ hpre.vmem) fun hx => hpre.gi.mem x (hpre.gi.stkSeen x hx)
    exact absurd (Nat.lt_of_le_of_lt (Nat.le_of_succ_le hlen) hle) (Nat.lt_irrefl _)
  | succ f ih =>
    intro v st stk hpre hle
    unfold dfs
    have loop : ∀ (Rm Pd : List Nat) (acc : DSt × Nat), Pd ++ Rm = G.sadj v →
        FI G st v stk Pd acc.1 acc.2 →
        FI G st v stk (G.sadj v) (Rm.foldl (dfsStep (dfs G.sadj f) v) acc).1
          (Rm.foldl (dfsStep (dfs G.sadj f) v) acc).2 := by
      intro Rm
      induction Rm with
      | nil =>
        intro Pd acc hsplit hfi
        rw [List.append_nil] at hsplit
        rw [← hsplit]; exact hfi
      | cons w Rm ihR =>
        intro Pd acc hsplit hfi
        rw [List.foldl_cons]
        have hwadj : G.A v w := by
          show w ∈ G.sadj v
          rw [← hsplit]; simp
        have hPd : ∀ x ∈ Pd, G.A v x := by
          intro x hx
          show x ∈ G.sadj v
          rw [← hsplit]; exact List.mem_append_left _ hx
        apply ihR (Pd ++ [w]) _ (by rw [List.append_assoc]; exact hsplit)
        obtain ⟨cur, k⟩ := acc
        simp only at hfi
        unfold dfsStep
        simp only
        by_cases hunseen : (!hasKey cur.disc w) = true
        · rw [if_pos hunseen]
          have hwn : ¬ cur.seen w := DSt.not_seen_iff.2 hunseen
          have hcpre : Pre G { cur with parent := aset cur.parent w (some v) } w (v :: stk) := by
            refine ⟨hfi.gi.congr, hpre.nd_cons, (G.A_mem hwadj).2, hwn,
              (cur.par_setParent w (some v) w).trans (if_pos rfl), ?_⟩
            · intro p hp
              rw [← Option.some.inj hp]; exact G.A_symm hwadj
          have hpost := ih w _ (v :: stk) hcpre (by rw [List.length_cons, Nat.succ_add]; exact hle)
          generalize dfs G.sadj f w { cur with parent := aset cur.parent w (some v) } = st2 at hpost
          have hparv : aget st2.parent v none = stk.head? := by
            exact ((hpost.ext.parEq v hfi.seenv.1)).trans (((cur.par_setParent w (some v) v).trans
              (if_neg fun (e : w = v) => (G.A_ne hwadj) e.symm)).trans hfi.parv)
          refine fi_step_child hpre hfi hPd hwadj hwn hpost _ ?_ ?_
          · intro p hp
            rw [hparv, hp]
            simp only [decide_eq_true_eq]
            rfl
          · intro hnil
            rw [hparv, hnil]
            simp only [List.head?_nil, decide_eq_true_eq]
        · rw [if_neg hunseen]
          have hws : cur.seen w := Classical.not_not.1 fun h => hunseen (DSt.not_seen_iff.1 h)
          have hpar : aget cur.parent v none = stk.head? := hfi.parv
          by_cases hne : (aget cur.parent v none != some w) = true
          · rw [if_pos hne]
            have hpne : stk.head? ≠ some w := by rw [hpar] at hne; simpa using hne
            refine fi_step_seen hpre hfi hwadj hws _ ?_ ?_ ?_ ?_
            · intro x hx
              rw [aget_aset, if_neg (fun (e : v = x) => hx e.symm)]; rfl
            · rw [aget_aset, if_pos rfl]; exact Nat.min_le_left _ _
            · rw [aget_aset, if_pos rfl]
              by_cases hm : aget cur.low v 0 ≤ aget cur.disc w 0
              · left; rw [Nat.min_eq_left hm]; rfl
              · right; exact ⟨by rw [Nat.min_eq_right (Nat.le_of_not_le hm)]; rfl, hpne⟩
            · intro _
              rw [aget_aset, if_pos rfl]; exact Nat.min_le_right _ _
          · -- the tree edge seen from the child side
            rw [if_neg hne]
            have hpe : stk.head? = some w := by rw [hpar] at hne; simpa using hne
            exact fi_step_seen hpre hfi hwadj hws cur.low
              (fun _ _ => rfl) (Nat.le_refl _) (Or.inl rfl) (fun h => absurd hpe h)
    have hfinal := loop (G.sadj v) [] (dfsEnter st v, 0) (List.nil_append _) (fi_init hpre)
    exact fi_final hpre hfinal

/-- the body of the outer `for v in node_list` loop of `lowlink` -/
def outerStep (G : Graph) (st : DSt) (v : Nat) : DSt :=
  if hasKey st.disc v then st
  else dfs G.sadj (G.nodes.length + 1) v { st with parent := aset st.parent v none }

theorem lowlink_eq (G : Graph) : lowlink G =
    if G.nodes.length ≤ 1 then ([], [])
    else ((G.nodes.foldl (outerStep G) {}).ap, (G.nodes.foldl (outerStep G) {}).br) := rfl

theorem outerStep_inv (G : Graph) (st : DSt) (v : Nat) (hv : v ∈ G.nodes)
    (hgi : GI G (fun _ _ => False) st []) :
    GI G (fun _ _ => False) (outerStep G st v) [] ∧ (∀ x, st.seen x → (outerStep G st v).seen x) ∧
      (outerStep G st v).seen v := by
  unfold outerStep
  split
  · rename_i hs
    exact ⟨hgi, fun _ h => h, hs⟩
  · rename_i hs
    have hpre : Pre G { st with parent := aset st.parent v none } v [] := by
      refine ⟨hgi.congr, List.nodup_nil, hv, hs, (st.par_setParent v none v).trans (if_pos rfl), ?_⟩
      intro p hp; cases hp
    have hpost := dfs_post G (G.nodes.length + 1) v _ [] hpre
      (Nat.lt_of_lt_of_le (Nat.lt_succ_self _) (Nat.le_add_left _ _))
    generalize dfs G.sadj (G.nodes.length + 1) v { st with parent := aset st.parent v none } = st' at hpost
    refine ⟨?_, fun x h => (hpost.ext.keep x h), hpost.seenv.1⟩
    exact { hpost.gi with brC := fun a b hb ha has hbs _ => hpost.gi.brC a b hb ha has hbs (fun h => by cases h.2) }

theorem outer_inv (G : Graph) : ∀ (l : List Nat) (st : DSt),
    (∀ v ∈ l, v ∈ G.nodes) → GI G (fun _ _ => False) st [] →
    GI G (fun _ _ => False) (l.foldl (outerStep G) st) [] ∧
    (∀ x, (st.seen x ∨ x ∈ l) → (l.foldl (outerStep G) st).seen x) := by
  intro l
  induction l with
  | nil => intro st _ h; exact ⟨h, fun x hx => hx.elim id fun h => nomatch h⟩
  | cons v l ih =>
    intro st hl hgi
    rw [List.foldl_cons]
    obtain ⟨g1, g2, g3⟩ := outerStep_inv G st v (hl v List.mem_cons_self) hgi
    obtain ⟨h1, h2⟩ := ih _ (fun x hx => hl x (List.mem_cons_of_mem _ hx)) g1
    refine ⟨h1, fun x hx => ?_⟩
    rcases hx with h | h
    · exact h2 x (Or.inl (g2 x h))
    · rcases List.mem_cons.1 h with rfl | h
      · exact h2 x (Or.inl g3)
      · exact h2 x (Or.inr h)

/-- for any node list, duplicates included -/
theorem lowlink_spec (G : Graph) :
    (∀ x, x ∈ (lowlink G).1 ↔ CutSpec G x) ∧
    (∀ e, e ∈ (lowlink G).2 ↔ ∃ a b, e = canon a b ∧ BridgeSpec G a b) ∧ (lowlink G).2.Nodup := by
  rw [lowlink_eq]
  split
  · rename_i hle
    -- two distinct nodes would be needed for an edge
    have hnoedge : ∀ a b, ¬ G.A a b := by
      intro a b hab
      have h2 : [a, b].length ≤ G.nodes.length :=
        List.Nodup.length_le_of_subset (by simp [G.A_ne hab]) (by
          intro x hx
          rcases List.mem_cons.1 hx with rfl | hx
          · exact (G.A_mem hab).1
          · exact List.mem_singleton.1 hx ▸ (G.A_mem hab).2)
      exact absurd (Nat.le_trans h2 hle) (Nat.not_succ_le_self 1)
    refine ⟨?_, ?_, List.nodup_nil⟩
    · intro x
      simp only [List.not_mem_nil, false_iff]
      rintro ⟨n1, _, h1, _⟩
      exact hnoedge x n1 h1
    · intro e
      simp only [List.not_mem_nil, false_iff]
      rintro ⟨a, b, _, hb⟩
      exact hnoedge a b hb.1
  · simp only
    have hinit : GI G (fun _ _ => False) ({} : DSt) [] := by
      have hno : ∀ x, ¬ ({} : DSt).seen x := fun x h => by simp [DSt.seen, hasKey] at h
      exact { mem := fun x h => absurd h (hno x), inj := fun x _ h => absurd h (hno x),
              lt := fun x h => absurd h (hno x), closed := fun x h => absurd h (hno x),
              stkSeen := (fun _ h => nomatch h), chain := trivial, apS := (fun _ h => nomatch h),
              apC := fun x h => absurd h (hno x), brS := (fun _ h => nomatch h),
              brC := fun a _ _ h => absurd h (hno a), brSeen := (fun _ h => nomatch h), brNd := List.nodup_nil }
    obtain ⟨hgi, hall⟩ := outer_inv G G.nodes {} (fun v hv => hv) hinit
    generalize G.nodes.foldl (outerStep G) {} = stF at hgi hall
    refine ⟨?_, ?_, hgi.brNd⟩
    · intro x
      constructor
      · intro hx; exact (hgi.apS x hx).1
      · intro hc
        have hc' := hc
        obtain ⟨n1, _, h1, _⟩ := hc'
        exact hgi.apC x (hall x (Or.inr (G.A_mem h1).1)) (by simp) hc
    · intro e
      constructor
      · intro he; exact hgi.brS e he
      · rintro ⟨a, b, rfl, hb⟩
        have hm := G.A_mem hb.1
        exact hgi.brC a b hb (hall a (Or.inr hm.1)) (by simp) (hall b (Or.inr hm.2)) (fun h => h)

end Solvor.Net
