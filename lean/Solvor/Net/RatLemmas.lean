import Solvor.Net.Lemmas
import Solvor.Common.RatSums
import Mathlib.Tactic.Ring
import Mathlib.Tactic.Linarith
import Mathlib.Algebra.Order.Field.Rat
import Mathlib.Algebra.Order.Field.Basic
import Mathlib.Algebra.Order.Ring.Abs
import Mathlib.Tactic.NormNum
import Mathlib.Algebra.Order.BigOperators.Group.List
/-! Net: `Rat` lemmas for the PageRank step (the operator `prT`) and the modularity formula. -/
namespace Solvor.Net

theorem sum_map_filter {α} (l : List α) (p : α → Bool) (f : α → Rat) :
    ((l.filter p).map f).sum = (l.map fun x => if p x then f x else 0).sum := by
  simp [List.sum_map_ite]

theorem sum_swap {α β} (l1 : List α) (l2 : List β) (f : α → β → Rat) :
    (l1.map fun v => (l2.map (f v)).sum).sum = (l2.map fun u => (l1.map fun v => f v u).sum).sum := by
  induction l1 with
  | nil => simp
  | cons a l ih => simp only [List.map_cons, List.sum_cons, ih, ← List.sum_map_add]

theorem sum_flatMap_map {α β} (l : List α) (g : α → List β) (h : β → Rat) :
    ((l.flatMap g).map h).sum = (l.map fun u => ((g u).map h).sum).sum := by
  rw [List.map_flatMap, List.flatMap_def, List.sum_flatten, List.map_map]; rfl

theorem sum_ite_mem (nodes : List Nat) (hn : nodes.Nodup) (w : Nat) (a : Rat) :
    (nodes.map fun v => if w == v then a else 0).sum = if w ∈ nodes then a else 0 := by
  simp only [beq_iff_eq, eq_comm (a := w)]
  rw [List.sum_map_ite_eq, List.sum_map_zero, hn.count]
  split <;> simp

theorem sum_ite_const {α} (l : List α) (p : α → Bool) (a : Rat) :
    (l.map fun w => if p w then a else 0).sum = ((l.filter p).length : Rat) * a := by
  rw [← sum_map_const, sum_map_filter]

theorem ratOps_abs (a : Rat) : ratOps.abs a = |a| := by
  simp only [ratOps]
  split
  · rename_i h; rw [abs_of_neg h]
  · rename_i h; rw [abs_of_nonneg (not_lt.1 h)]

/-- `new_scores[v]` of the mirror, read at `Rat` -/
theorem prStep_rat (G : Graph) (d : Rat) (s : Nat → Rat) (v : Nat) :
    prStep ratOps G d s v =
      (1 - d) / (G.nodes.length : Rat)
      + d * ((prIncoming G v).map fun u => s u / (outCount G u : Rat)).sum
      + d * ((G.nodes.filter fun u => outCount G u == 0).map s).sum / (G.nodes.length : Rat) := by
  simp [prStep, ratOps]

/-- The column-stochastic operator of the random walk: what `v` receives over the arcs into it
(one share per entry of a neighbour list) plus its equal share of the dangling mass.  One iteration is
`s ↦ (1 - d)/n + d · prT s`. -/
def prT (G : Graph) (t : Nat → Rat) (v : Nat) : Rat :=
  ((prIncoming G v).map fun u => t u / (outCount G u : Rat)).sum
    + ((G.nodes.filter fun u => outCount G u == 0).map t).sum / (G.nodes.length : Rat)

theorem prStep_eq_T (G : Graph) (d : Rat) (s : Nat → Rat) (v : Nat) :
    prStep ratOps G d s v = (1 - d) / (G.nodes.length : Rat) + d * prT G s v := by
  rw [prStep_rat, prT]; ring

theorem prT_sub (G : Graph) (x y : Nat → Rat) (v : Nat) :
    prT G (fun u => x u - y u) v = prT G x v - prT G y v := by
  simp only [prT, sub_div, sum_map_sub]; ring

theorem prT_nonneg (G : Graph) (t : Nat → Rat) (ht : ∀ u ∈ G.nodes, 0 ≤ t u) (v : Nat) : 0 ≤ prT G t v := by
  refine add_nonneg (List.sum_nonneg ?_) (div_nonneg (List.sum_nonneg ?_) (Nat.cast_nonneg _))
  · intro x hx
    obtain ⟨u, hu, rfl⟩ := List.mem_map.1 hx
    obtain ⟨a, ha, hua⟩ := List.mem_flatMap.1 hu
    obtain ⟨_, _, rfl⟩ := List.mem_map.1 hua
    exact div_nonneg (ht _ ha) (Nat.cast_nonneg _)
  · intro x hx
    obtain ⟨u, hu, rfl⟩ := List.mem_map.1 hx
    exact ht u (List.mem_filter.1 hu).1

theorem prT_abs_le (G : Graph) (t : Nat → Rat) (v : Nat) : |prT G t v| ≤ prT G (fun u => |t u|) v := by
  refine (abs_add_le _ _).trans (add_le_add ?_ ?_)
  · refine (abs_sum_map_le _ _).trans (le_of_eq ?_)
    simp only [abs_div, Nat.abs_cast]
  · rw [abs_div, Nat.abs_cast]
    exact div_le_div_of_nonneg_right (abs_sum_map_le _ _) (Nat.cast_nonneg _)

/-- double counting; duplicates in a neighbour list count with multiplicity -/
theorem rank_sum (G : Graph) (hn : G.nodes.Nodup) (t : Nat → Rat) :
    (G.nodes.map fun v => ((prIncoming G v).map t).sum).sum
      = (G.nodes.map fun u => (outCount G u : Rat) * t u).sum := by
  have h1 : ∀ v, ((prIncoming G v).map t).sum
      = (G.nodes.map fun u => ((G.nb u).map fun w => if w == v then t u else 0).sum).sum := by
    intro v
    unfold prIncoming
    rw [sum_flatMap_map]
    congr 1
    apply List.map_congr_left
    intro u _
    rw [List.map_map]
    exact sum_map_filter (G.nb u) (· == v) (fun _ => t u)
  simp only [h1]
  rw [sum_swap]
  congr 1
  apply List.map_congr_left
  intro u _
  rw [sum_swap]
  have h2 : ∀ w, (G.nodes.map fun v => if w == v then t u else 0).sum = if G.nodes.contains w then t u else 0 := by
    intro w
    rw [sum_ite_mem G.nodes hn w (t u)]
    simp
  simp only [h2]
  rw [sum_ite_const]
  rfl

/-- mass conservation: every node hands on all it has, along its arcs or, if it has none, to everybody -/
theorem prT_sum (G : Graph) (hn : G.nodes.Nodup) (t : Nat → Rat) :
    (G.nodes.map (prT G t)).sum = (G.nodes.map t).sum := by
  have hdang : (G.nodes.length : Rat) *
      (((G.nodes.filter fun u => outCount G u == 0).map t).sum / (G.nodes.length : Rat))
      = ((G.nodes.filter fun u => outCount G u == 0).map t).sum := by
    refine mul_div_cancel_of_imp' fun h => ?_
    have hnil : G.nodes = [] := List.eq_nil_of_length_eq_zero (by exact_mod_cast h)
    rw [hnil]; rfl
  unfold prT
  rw [List.sum_map_add, sum_map_const, hdang, rank_sum G hn fun u => t u / (outCount G u : Rat),
    sum_map_filter, ← List.sum_map_add]
  congr 1
  apply List.map_congr_left
  intro u _
  by_cases hc : outCount G u = 0
  · simp [hc]
  · have hb : (outCount G u == 0) = false := by simpa using hc
    rw [hb, mul_div_cancel₀ _ (by exact_mod_cast hc : (outCount G u : Rat) ≠ 0)]; simp

theorem prStep_sum (G : Graph) (d : Rat) (s : Nat → Rat) (hn : G.nodes.Nodup) (hne : G.nodes ≠ []) :
    (G.nodes.map (prStep ratOps G d s)).sum = (1 - d) + d * (G.nodes.map s).sum := by
  have hlen : (G.nodes.length : Rat) ≠ 0 := by
    exact_mod_cast fun h => hne (List.eq_nil_of_length_eq_zero h)
  have hfun : G.nodes.map (prStep ratOps G d s)
      = G.nodes.map fun v => (1 - d) / (G.nodes.length : Rat) + d * prT G s v :=
    List.map_congr_left fun v _ => prStep_eq_T G d s v
  rw [hfun, List.sum_map_add, sum_map_const, sum_map_mul_left, prT_sum G hn, mul_div_cancel₀ _ hlen]

theorem foldl_add_sum {α} (l : List α) (f : α → Rat) (a : Rat) :
    l.foldl (fun q c => q + f c) a = a + (l.map f).sum := by
  rw [List.sum_eq_foldl, ← List.foldl_assoc (op := fun x1 x2 : Rat => x1 + x2), add_zero, List.foldl_map]

theorem cast_sum_map {α} (l : List α) (f : α → Nat) :
    (((l.map f).sum : Nat) : Rat) = (l.map fun x => (f x : Rat)).sum :=
  (map_list_sum (Nat.castRingHom Rat) _).trans (by rw [List.map_map]; rfl)

theorem sum_ite_filter {α} (l : List α) (p q : α → Bool) :
    ((l.filter p).map fun w => if q w then (1 : Rat) else 0).sum
      = ((l.filter fun w => p w && q w).length : Rat) := by
  rw [sum_ite_const, mul_one, List.filter_filter]; simp only [Bool.and_comm]

theorem sum_flatMap_ite {α} (l1 l2 : List α) (p q : α → α → Bool) :
    ((l1.flatMap fun v => (l2.filter (p v)).map fun w => if q v w then (1 : Rat) else 0)).sum
      = ((l1.flatMap fun v => l2.filter fun w => p v w && q v w).length : Rat) := by
  induction l1 with
  | nil => simp
  | cons x l ih =>
    simp only [List.flatMap_cons, List.sum_append, List.length_append, Nat.cast_add, ih, sum_ite_filter]

theorem degsum_eq (G : Graph) (hn : G.nodes.Nodup) (l : List Nat) :
    (l.map fun v => (G.sadj v).length) = l.map (degDef G) := by
  apply List.map_congr_left
  intro v _
  exact length_sadj G hn v

theorem reportMod_eq (G : Graph) (hn : G.nodes.Nodup) (γ : Rat) (P : List (List Nat)) :
    reportMod ratOps G.sadj γ (totalWeight ratOps G) P
      = modularityDef G γ P := by
  unfold reportMod modularityDef totalWeight
  simp only [ratOps]
  rw [foldl_add_sum]
  simp only [Nat.cast_zero, Nat.cast_one, zero_add, Nat.cast_ofNat]
  congr 1
  apply List.map_congr_left
  intro c _
  rw [degsum_eq G hn G.nodes]
  have hL : (c.flatMap fun v => (c.filter fun w => decide (v < w)).map fun w =>
        if (G.sadj v).contains w then (1 : Rat) else 0).sum
      = ((c.flatMap fun v => c.filter fun w => decide (v < w) && (G.arc v w || G.arc w v)).length : Rat) := by
    rw [sum_flatMap_ite c c (fun v w => decide (v < w)) (fun v w => (G.sadj v).contains w)]
    congr 2
    apply List.flatMap_congr
    intro v _
    apply List.filter_congr
    intro w _
    by_cases hvw : v < w
    · have hne : v ≠ w := Nat.ne_of_lt hvw
      have := mem_sadj G v w
      simp only [hvw, decide_true, Bool.true_and]
      rw [Bool.eq_iff_iff]
      simp only [List.contains_iff_mem, Bool.or_eq_true]
      rw [this]; simp [hne]
    · simp [hvw]
  have hD : (c.map fun v => ((G.sadj v).length : Rat)).sum = (((c.map (degDef G)).sum : Nat) : Rat) := by
    rw [← degsum_eq G hn c, cast_sum_map]
  rw [hL, hD]

theorem modularityDef_zero (G : Graph) (γ : Rat) (P : List (List Nat))
    (h : (G.nodes.map (degDef G)).sum = 0) : modularityDef G γ P = 0 := by
  unfold modularityDef
  simp only [h, Nat.cast_zero, zero_div, div_zero, mul_zero, sub_zero]
  exact List.sum_map_zero

end Solvor.Net
