import Solvor.Net.Comps
/-! Net: connectivity inside a vertex set along an edge relation (`Conn`), its relation to `Reach`,
and cut vertices / bridges ("removal increases the number of components") as statements about
connectivity (core Lean only). -/
namespace Solvor.Net

/-- `y` can be reached from `x` by steps `u → w` with `E u w`, both ends of every step inside `P` -/
inductive Conn (P : Nat → Prop) (E : Nat → Nat → Prop) : Nat → Nat → Prop
  | refl (x : Nat) : Conn P E x x
  | step {x u w : Nat} : Conn P E x u → P u → P w → E u w → Conn P E x w

namespace Conn
variable {P Q : Nat → Prop} {E F : Nat → Nat → Prop}

theorem trans {a b c : Nat} (h1 : Conn P E a b) (h2 : Conn P E b c) : Conn P E a c := by
  induction h2 with
  | refl => exact h1
  | step _ hu hw he ih => exact Conn.step ih hu hw he

theorem single {a b : Nat} (ha : P a) (hb : P b) (he : E a b) : Conn P E a b :=
  Conn.step (Conn.refl a) ha hb he

theorem mono (hP : ∀ z, P z → Q z) (hE : ∀ u w, P u → P w → E u w → F u w) {a b : Nat}
    (h : Conn P E a b) : Conn Q F a b := by
  induction h with
  | refl => exact Conn.refl _
  | step _ hu hw he ih => exact Conn.step ih (hP _ hu) (hP _ hw) (hE _ _ hu hw he)

theorem mono_left (hP : ∀ z, P z → Q z) {a b : Nat} (h : Conn P E a b) : Conn Q E a b :=
  h.mono hP fun _ _ _ _ he => he

theorem symm (hE : ∀ u w, E u w → E w u) {a b : Nat} (h : Conn P E a b) : Conn P E b a := by
  induction h with
  | refl => exact Conn.refl _
  | step _ hu hw he ih => exact (Conn.single hw hu (hE _ _ he)).trans ih

theorem mem_or_eq {a b : Nat} (h : Conn P E a b) : a = b ∨ P b := by
  cases h with
  | refl => exact Or.inl rfl
  | step _ _ hw _ => exact Or.inr hw

theorem closed {S : Nat → Prop} (hS : ∀ u w, S u → P u → P w → E u w → S w) {a b : Nat}
    (h : Conn P E a b) (ha : S a) : S b := by
  induction h with
  | refl => exact ha
  | step _ hu hw he ih => exact hS _ _ ih hu hw he

end Conn

/-- adjacency of the symmetrised graph -/
def Graph.A (G : Graph) (u w : Nat) : Prop := w ∈ G.sadj u

/-- the step `u → w` is not the undirected edge `{a, b}` -/
def EdgeNe (a b u w : Nat) : Prop := ¬ ((u = a ∧ w = b) ∨ (u = b ∧ w = a))

theorem Graph.A_symm (G : Graph) {u w : Nat} (h : G.A u w) : G.A w u := by
  unfold Graph.A at *
  rw [mem_sadj] at *
  exact ⟨fun e => h.1 e.symm, h.2.symm⟩

theorem Conn.symmA {P : Nat → Prop} {G : Graph} {a b : Nat} (h : Conn P G.A a b) : Conn P G.A b a :=
  h.symm fun _ _ he => G.A_symm he

theorem Graph.A_ne (G : Graph) {u w : Nat} (h : G.A u w) : u ≠ w := ((mem_sadj G u w).1 h).1

theorem Graph.A_mem (G : Graph) {u w : Nat} (h : G.A u w) : u ∈ G.nodes ∧ w ∈ G.nodes :=
  ⟨sadj_sub G (G.A_symm h), sadj_sub G h⟩

theorem Graph.A_iff (G : Graph) (u w : Nat) :
    G.A u w ↔ u ≠ w ∧ (G.arc u w || G.arc w u) = true := by
  unfold Graph.A; rw [mem_sadj]; simp

theorem reach_iff_conn {S : List Nat} {arc' : Nat → Nat → Bool} {E : Nat → Nat → Prop}
    (hE : ∀ u w, E u w ↔ u ≠ w ∧ (arc' u w || arc' w u) = true) (x y : Nat) :
    Reach S arc' x y ↔ Conn (fun z => z ∈ S) E x y := by
  constructor
  · intro h
    induction h with
    | refl => exact Conn.refl _
    | step _ hv hw hl ih =>
      rename_i v w _hr
      by_cases hvw : v = w
      · subst hvw; exact ih
      · exact Conn.step ih hv hw ((hE v w).2 ⟨hvw, hl⟩)
  · intro h
    induction h with
    | refl => exact Reach.refl _
    | step _ hu hw he ih => exact Reach.step ih hu hw ((hE _ _).1 he).2

theorem reach_sub_iff (G : Graph) (S : List Nat) (x y : Nat) :
    Reach S G.arc x y ↔ Conn (fun z => z ∈ S) G.A x y :=
  reach_iff_conn (G.A_iff) x y

theorem reach_without_iff (G : Graph) (a b x y : Nat) :
    Reach G.nodes (arcWithout G.arc a b) x y ↔
      Conn (fun z => z ∈ G.nodes) (fun u w => G.A u w ∧ EdgeNe a b u w) x y := by
  refine reach_iff_conn (fun u w => ?_) x y
  rw [G.A_iff]
  unfold arcWithout EdgeNe
  grind

/-- two neighbours of `v` are not connected once `v` is removed -/
def CutSpec (G : Graph) (v : Nat) : Prop :=
  ∃ n1 n2, G.A v n1 ∧ G.A v n2 ∧ ¬ Conn (fun z => z ∈ G.nodes ∧ z ≠ v) G.A n1 n2

/-- `{a, b}` is an edge whose end points are not connected once the edge is removed -/
def BridgeSpec (G : Graph) (a b : Nat) : Prop :=
  G.A a b ∧ ¬ Conn (fun z => z ∈ G.nodes) (fun u w => G.A u w ∧ EdgeNe a b u w) a b

theorem EdgeNe_symm {a b u w : Nat} (h : EdgeNe a b u w) : EdgeNe a b w u := by
  unfold EdgeNe at *; grind

theorem Graph.A_without_symm (G : Graph) (a b : Nat) :
    ∀ u w, (G.A u w ∧ EdgeNe a b u w) → (G.A w u ∧ EdgeNe a b w u) :=
  fun _ _ he => ⟨G.A_symm he.1, EdgeNe_symm he.2⟩

theorem BridgeSpec_symm (G : Graph) {a b : Nat} (h : BridgeSpec G a b) : BridgeSpec G b a := by
  refine ⟨G.A_symm h.1, ?_⟩
  intro hc
  apply h.2
  refine (hc.symm (G.A_without_symm b a)).mono (fun _ hz => hz) ?_
  intro u w _ _ he
  exact ⟨he.1, by have := he.2; unfold EdgeNe at *; grind⟩

theorem not_bridgeSpec_of_detour (G : Graph) {a b z : Nat} (hzb : G.A z b) (hza : z ≠ a)
    (h : Conn (fun x => x ∈ G.nodes ∧ x ≠ b) G.A a z) : ¬ BridgeSpec G a b := by
  intro hb
  have h1 : Conn (fun x => x ∈ G.nodes) (fun u w => G.A u w ∧ EdgeNe a b u w) a z := by
    refine h.mono (fun _ hx => hx.1) ?_
    intro u x hu hx he
    refine ⟨he, ?_⟩
    rintro (⟨_, h2⟩ | ⟨h1, _⟩)
    · exact hx.2 h2
    · exact hu.2 h1
  refine hb.2 (h1.trans (Conn.single (G.A_mem hzb).1 (G.A_mem hzb).2 ⟨hzb, ?_⟩))
  rintro (⟨h1, _⟩ | ⟨h1, _⟩)
  · exact hza h1
  · exact G.A_ne hzb h1

theorem isBridge_iff (G : Graph) (a b : Nat) : isBridge G a b = true ↔ BridgeSpec G a b := by
  unfold isBridge BridgeSpec
  simp only [Bool.and_eq_true, bne_iff_ne, ne_eq, decide_eq_true_eq]
  have hAiff := G.A_iff a b
  constructor
  · rintro ⟨⟨hne, hl⟩, hgt⟩
    have hA : G.A a b := hAiff.2 ⟨hne, hl⟩
    refine ⟨hA, ?_⟩
    intro hc
    -- the edge lies on a cycle: removing it separates nothing
    have hle : compCount G.nodes (arcWithout G.arc a b) ≤ compCount G.nodes G.arc := by
      apply count_le_of_merge (fun z hz => hz)
      intro x hx y hy hxy
      clear hx hy
      rw [reach_without_iff]
      rw [reach_sub_iff] at hxy
      induction hxy with
      | refl => exact Conn.refl _
      | step _ hu hw he ih =>
        rename_i u w _
        by_cases hne' : EdgeNe a b u w
        · exact Conn.step ih hu hw ⟨he, hne'⟩
        · unfold EdgeNe at hne'
          have : (u = a ∧ w = b) ∨ (u = b ∧ w = a) := Classical.not_not.1 hne'
          rcases this with ⟨rfl, rfl⟩ | ⟨rfl, rfl⟩
          · exact ih.trans hc
          · exact ih.trans (hc.symm (G.A_without_symm _ _))
    exact absurd hgt (Nat.not_lt_of_le hle)
  · rintro ⟨hA, hsep⟩
    obtain ⟨hne, hl⟩ := hAiff.1 hA
    refine ⟨⟨hne, hl⟩, ?_⟩
    have hmem := G.A_mem hA
    apply count_lt_of_split (x0 := a) (y0 := b) _ hmem.1 hmem.2
    · exact Reach.single hmem.1 hmem.2 hl
    · rw [reach_without_iff]; exact hsep
    · intro r hr; exact Or.inr hr
    · intro x y h
      rw [reach_without_iff] at h
      rw [reach_sub_iff]
      exact h.mono (fun _ hz => hz) (fun _ _ _ _ he => he.1)

theorem conn_avoid (G : Graph) (v x y : Nat) (hx : x ≠ v)
    (h : Conn (fun z => z ∈ G.nodes) G.A x y) :
    (y ≠ v ∧ Conn (fun z => z ∈ G.nodes ∧ z ≠ v) G.A x y) ∨
    (∃ n, G.A v n ∧ Conn (fun z => z ∈ G.nodes ∧ z ≠ v) G.A x n) := by
  induction h with
  | refl => exact Or.inl ⟨hx, Conn.refl _⟩
  | step _ hu hw he ih =>
    rename_i u w _
    rcases ih with ⟨huv, hc⟩ | hr
    · by_cases hwv : w = v
      · subst hwv
        exact Or.inr ⟨u, G.A_symm he, hc⟩
      · exact Or.inl ⟨hwv, Conn.step hc ⟨hu, huv⟩ ⟨hw, hwv⟩ he⟩
    · exact Or.inr hr

theorem isCutVertex_iff (G : Graph) (v : Nat) :
    isCutVertex G v = true ↔ CutSpec G v := by
  unfold isCutVertex CutSpec
  simp only [decide_eq_true_eq]
  have hS : ∀ z, z ∈ G.nodes.filter (· != v) ↔ z ∈ G.nodes ∧ z ≠ v := by
    intro z; simp
  have hconv : ∀ x y, Reach (G.nodes.filter (· != v)) G.arc x y ↔
      Conn (fun z => z ∈ G.nodes ∧ z ≠ v) G.A x y := by
    intro x y
    rw [reach_sub_iff]
    constructor
    · intro h; exact h.mono_left (fun z hz => (hS z).1 hz)
    · intro h; exact h.mono_left (fun z hz => (hS z).2 hz)
  constructor
  · intro hgt
    refine Classical.byContradiction fun hno => ?_
    have hall : ∀ n1 n2, G.A v n1 → G.A v n2 → Conn (fun z => z ∈ G.nodes ∧ z ≠ v) G.A n1 n2 := by
      intro n1 n2 h1 h2
      exact Classical.byContradiction fun hc => hno ⟨n1, n2, h1, h2, hc⟩
    have hle : compCount (G.nodes.filter (· != v)) G.arc ≤ compCount G.nodes G.arc := by
      apply count_le_of_merge (fun z hz => ((hS z).1 hz).1)
      intro x hx y hy hxy
      rw [hconv]
      rw [reach_sub_iff] at hxy
      have hx' := (hS x).1 hx
      have hy' := (hS y).1 hy
      rcases conn_avoid G v x y hx'.2 hxy with ⟨_, hc⟩ | ⟨n, hn, hc⟩
      · exact hc
      · rcases conn_avoid G v y x hy'.2 (hxy.symmA) with ⟨_, hc'⟩ | ⟨n', hn', hc'⟩
        · exact hc'.symmA
        · exact (hc.trans (hall n n' hn hn')).trans (hc'.symmA)
    exact absurd hgt (Nat.not_lt_of_le hle)
  · rintro ⟨n1, n2, h1, h2, hsep⟩
    have m1 := G.A_mem h1
    have m2 := G.A_mem h2
    have hv := m1.1
    apply count_lt_of_split (x0 := n1) (y0 := n2) _ ((hS n1).2 ⟨m1.2, (G.A_ne h1).symm⟩)
      ((hS n2).2 ⟨m2.2, (G.A_ne h2).symm⟩)
    · rw [reach_sub_iff]
      exact (Conn.single m1.2 hv (G.A_symm h1)).trans (Conn.single hv m2.2 h2)
    · rw [hconv]; exact hsep
    · intro r hr
      by_cases hrv : r = v
      · subst hrv; left
        rw [reach_sub_iff]; exact Conn.single hv m1.2 h1
      · right; exact (hS r).2 ⟨hr, hrv⟩
    · intro x y h
      rw [reach_sub_iff] at h ⊢
      exact h.mono_left fun z hz => ((hS z).1 hz).1

end Solvor.Net
