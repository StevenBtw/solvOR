import Solvor.Net.Model
import Solvor.Common.ListLemmas
/-! Net: what the other files share (core Lean only): association lists, moving an element between indexed lists, the
symmetric adjacency `sadj`, the PageRank loop.  Where a proof needs a piece of the model by name (`edgeStep`, `relaxStep`,
`outerStep`, `canon`, `totalWeight`), the proof file restates it and ties it to the model by an equation or by unfolding at its one use. -/
namespace Solvor.Net

theorem foldl_or {σ β} (f : σ → β → σ) (Q : σ → Prop) (R : β → Prop)
    (h : ∀ s p, Q (f s p) ↔ Q s ∨ R p) : ∀ (l : List β) (s : σ), Q (l.foldl f s) ↔ Q s ∨ ∃ p ∈ l, R p := by
  intro l
  induction l with
  | nil => intro s; simp
  | cons p l ih => intro s; simp only [List.foldl_cons, ih, h, or_assoc, List.mem_cons, exists_eq_or_imp]

theorem aget_aset {α} (m : List (Nat × α)) (k k' : Nat) (x d : α) :
    aget (aset m k x) k' d = if k = k' then x else aget m k' d := by
  induction m with
  | nil => simp [aset, aget]
  | cons p m ih =>
    obtain ⟨a, b⟩ := p
    simp only [aset]
    by_cases h : a = k
    · subst h; simp only [if_true, aget]; split <;> rfl
    · simp only [if_neg h, aget, ih]
      by_cases h2 : a = k'
      · subst h2; simp [Ne.symm h]
      · simp [h2]

theorem aget_map {α} (l : List Nat) (f : Nat → α) (d : α) (v : Nat) :
    aget (l.map fun v => (v, f v)) v d = if v ∈ l then f v else d := by
  induction l with
  | nil => rfl
  | cons a l ih =>
    simp only [List.map_cons, aget, ih, List.mem_cons]
    by_cases h : a = v
    · subst h; simp
    · simp [h, Ne.symm h]

theorem hasKey_aset {α} (m : List (Nat × α)) (k k' : Nat) (x : α) :
    hasKey (aset m k x) k' = true ↔ k = k' ∨ hasKey m k' = true := by
  induction m with
  | nil => simp [aset, hasKey]
  | cons p m ih =>
    obtain ⟨a, b⟩ := p
    simp only [aset]
    by_cases h : a = k
    · subst h; simp [hasKey]
    · simp only [if_neg h, hasKey, Bool.or_eq_true, decide_eq_true_eq, ih]
      exact or_left_comm

theorem hasKey_iff {α} (m : List (Nat × α)) (k : Nat) : hasKey m k = true ↔ ∃ p ∈ m, p.1 = k := by
  induction m with
  | nil => simp [hasKey]
  | cons a m ih => simp [hasKey, ih]

theorem length_modAt {α} (f : α → α) (l : List α) (i : Nat) : (modAt f l i).length = l.length := by
  induction l generalizing i with
  | nil => rfl
  | cons x xs ih => cases i <;> simp [modAt, ih]

theorem getD_modAt {α} (f : α → α) (l : List α) (i j : Nat) (d : α) :
    (modAt f l i).getD j d = if j = i ∧ j < l.length then f (l.getD j d) else l.getD j d := by
  induction l generalizing i j with
  | nil => simp [modAt]
  | cons x xs ih =>
    cases i with
    | zero =>
      cases j with
      | zero => simp [modAt]
      | succ j => simp [modAt]
    | succ i =>
      cases j with
      | zero => simp [modAt]
      | succ j =>
        simp only [modAt, List.getD_cons_succ, ih, List.length_cons, Nat.add_lt_add_iff_right,
          Nat.add_right_cancel_iff]

theorem mem_addSet {l : List Nat} {v x : Nat} : x ∈ addSet l v ↔ x ∈ l ∨ x = v := by
  unfold addSet; grind

theorem nodup_addSet {l : List Nat} {v : Nat} (h : l.Nodup) : (addSet l v).Nodup := by
  unfold addSet; split
  · exact h
  · rename_i hc
    exact nodup_concat h (by simpa using hc)

theorem getD_move (ins : List Nat → List Nat) (b : List (List Nat)) (old nb w j : Nat) :
    (modAt ins (modAt (·.erase w) b old) nb).getD j [] =
      if j = nb ∧ j < b.length then
        ins (if j = old ∧ j < b.length then (b.getD j []).erase w else b.getD j [])
      else (if j = old ∧ j < b.length then (b.getD j []).erase w else b.getD j []) := by
  simp only [getD_modAt, length_modAt]

theorem mem_erase_at {b : List (List Nat)} (hnd : ∀ j, (b.getD j []).Nodup) {old w : Nat}
    (hw : ∀ j, w ∈ b.getD j [] → j = old) (j y : Nat) :
    y ∈ (if j = old ∧ j < b.length then (b.getD j []).erase w else b.getD j []) ↔
      y ≠ w ∧ y ∈ b.getD j [] := by
  split
  · exact (hnd j).mem_erase_iff
  · rename_i h
    refine ⟨fun hy => ⟨?_, hy⟩, fun hy => hy.2⟩
    intro e
    refine h ⟨hw j (e ▸ hy), ?_⟩
    rcases Nat.lt_or_ge j b.length with hl | hl
    · exact hl
    · rw [getD_of_ge hl] at hy; cases hy

/-- `ins` is how the target list receives `w`: `(· ++ [w])` for a bucket of the peeling, `(addSet · w)` for a community of Louvain. -/
theorem mem_move {ins : List Nat → List Nat} {w : Nat} (hins : ∀ l x, x ∈ ins l ↔ x ∈ l ∨ x = w)
    {b : List (List Nat)} (hnd : ∀ j, (b.getD j []).Nodup) {old nb : Nat}
    (hnb : nb < b.length) (hw : ∀ j, w ∈ b.getD j [] → j = old) (j x : Nat) :
    x ∈ (modAt ins (modAt (·.erase w) b old) nb).getD j [] ↔
      (x ≠ w ∧ x ∈ b.getD j []) ∨ (x = w ∧ j = nb) := by
  rw [getD_move]
  by_cases h : j = nb ∧ j < b.length
  · rw [if_pos h, hins, mem_erase_at hnd hw]
    exact ⟨fun hx => hx.elim Or.inl fun e => Or.inr ⟨e, h.1⟩, fun hx => hx.elim Or.inl fun e => Or.inr e.1⟩
  · rw [if_neg h, mem_erase_at hnd hw]
    exact ⟨Or.inl, fun hx => hx.elim id fun e => absurd ⟨e.2, e.2 ▸ hnb⟩ h⟩

theorem nodup_move {ins : List Nat → List Nat} {w : Nat} (hins : ∀ l, l.Nodup → w ∉ l → (ins l).Nodup)
    {b : List (List Nat)} (hnd : ∀ j, (b.getD j []).Nodup) {old : Nat} (nb : Nat)
    (hw : ∀ j, w ∈ b.getD j [] → j = old) (j : Nat) :
    ((modAt ins (modAt (·.erase w) b old) nb).getD j []).Nodup := by
  rw [getD_move]
  have hb1 : (if j = old ∧ j < b.length then (b.getD j []).erase w else b.getD j []).Nodup := by
    split
    · exact (hnd j).erase w
    · exact hnd j
  by_cases h : j = nb ∧ j < b.length
  · rw [if_pos h]; exact hins _ hb1 fun hm => ((mem_erase_at hnd hw j w).1 hm).1 rfl
  · rw [if_neg h]; exact hb1

theorem length_filter_split {α} (p : α → Bool) (l : List α) :
    l.length = (l.filter p).length + (l.filter fun a => !p a).length := by
  have hnot : (fun a => !p a) = fun a => decide (¬ p a = true) := by funext a; cases p a <;> rfl
  rw [← List.countP_eq_length_filter, ← List.countP_eq_length_filter, hnot]
  exact List.length_eq_countP_add_countP p

theorem length_filter_remove (U : List Nat) (hU : U.Nodup) (v : Nat) (hv : v ∈ U) (p : Nat → Bool) :
    (U.filter p).length = ((U.filter (· != v)).filter p).length + (if p v then 1 else 0) := by
  rw [← hU.erase_eq_filter, ((List.perm_cons_erase hv).filter p).length_eq, List.filter_cons]
  split <;> simp

theorem length_filter_ne (U : List Nat) (hU : U.Nodup) (v : Nat) (hv : v ∈ U) :
    U.length = (U.filter (· != v)).length + 1 := by
  rw [← hU.erase_eq_filter]; exact (List.perm_cons_erase hv).length_eq

theorem mem_aset_key {α} {m : List (Nat × α)} {k : Nat} {x : α} {p : Nat × α} (h : p ∈ aset m k x) :
    p.1 = k ∨ ∃ q ∈ m, q.1 = p.1 :=
  ((hasKey_aset m k p.1 x).1 ((hasKey_iff _ _).2 ⟨p, h, rfl⟩)).imp Eq.symm (hasKey_iff _ _).1

theorem aget_zipIdx : ∀ (l : List Nat) (k : Nat), l.Nodup → ∀ (i : Nat) (h : i < l.length),
    aget ((l.zipIdx k).map fun p => (p.1, p.2)) l[i] 0 = k + i := by
  intro l
  induction l with
  | nil => intro k _ i h; cases h
  | cons a l ih =>
    intro k hn i h
    rw [List.nodup_cons] at hn
    simp only [List.zipIdx_cons, List.map_cons, aget]
    cases i with
    | zero => simp
    | succ i =>
      have hlt : i < l.length := by simpa using h
      have hne : a ≠ l[i] := fun heq => hn.1 (heq ▸ List.getElem_mem hlt)
      simp only [List.getElem_cons_succ, if_neg hne]
      rw [ih (k + 1) hn.2 i hlt, Nat.add_assoc, Nat.add_comm 1 i]

theorem mem_insNb {adj : List (Nat × List Nat)} {a b v w : Nat} :
    w ∈ aget (insNb adj a b) v [] ↔ w ∈ aget adj v [] ∨ (v = a ∧ w = b) := by
  unfold insNb
  simp only
  split
  · rename_i h
    have hb : b ∈ aget adj a [] := by simpa using h
    constructor
    · intro hw; exact Or.inl hw
    · rintro (hw | ⟨rfl, rfl⟩)
      · exact hw
      · exact hb
  · rw [aget_aset]
    by_cases hav : a = v
    · subst hav; simp [eq_comm]
    · simp [hav, Ne.symm hav]

theorem nodup_insNb {adj : List (Nat × List Nat)} {a b : Nat} (h : ∀ v, (aget adj v []).Nodup) :
    ∀ v, (aget (insNb adj a b) v []).Nodup := by
  intro v
  unfold insNb
  simp only
  split
  · exact h v
  · rename_i hc
    rw [aget_aset]
    split
    · exact nodup_concat (h a) (by simpa using hc)
    · exact h v

/-- one iteration of the inner loop of `buildAdj` -/
def edgeStep (G : Graph) (adj : List (Nat × List Nat)) (p : Nat × Nat) : List (Nat × List Nat) :=
  if G.nodes.contains p.2 && p.2 != p.1 then addEdge adj p.1 p.2 else adj

theorem buildAdj_eq (G : Graph) :
    buildAdj G = (G.nodes.flatMap fun v => (G.nb v).map fun w => (v, w)).foldl (edgeStep G)
      (G.nodes.map fun v => (v, [])) := by
  unfold buildAdj
  rw [List.foldl_flatMap]
  congr 1
  funext adj v
  rw [List.foldl_map]
  rfl

theorem mem_edgeStep (G : Graph) (adj : List (Nat × List Nat)) (p : Nat × Nat) (v w : Nat) :
    w ∈ aget (edgeStep G adj p) v [] ↔ w ∈ aget adj v [] ∨
      ((G.nodes.contains p.2 && p.2 != p.1) = true ∧ ((v = p.1 ∧ w = p.2) ∨ (v = p.2 ∧ w = p.1))) := by
  unfold edgeStep
  split
  · rename_i hc
    unfold addEdge
    rw [mem_insNb, mem_insNb, or_assoc]
    simp only [hc, true_and]
  · rename_i hc
    simp only [hc, Bool.false_eq_true, false_and, or_false]

theorem mem_sadj (G : Graph) (v w : Nat) :
    w ∈ G.sadj v ↔ v ≠ w ∧ (G.arc v w = true ∨ G.arc w v = true) := by
  unfold Graph.sadj
  rw [buildAdj_eq, foldl_or (edgeStep G) (fun adj => w ∈ aget adj v []) _ (fun s p => mem_edgeStep G s p v w),
    aget_map, ite_self]
  simp only [List.not_mem_nil, false_or, List.mem_flatMap, List.mem_map, Graph.arc, Bool.and_eq_true,
    List.contains_iff_mem, bne_iff_ne, ne_eq]
  constructor
  · rintro ⟨p, ⟨a, ha, b, hb, rfl⟩, ⟨hbn, hne⟩, h⟩
    simp only at hbn hne h
    rcases h with ⟨rfl, rfl⟩ | ⟨rfl, rfl⟩
    · exact ⟨fun h => hne h.symm, Or.inl ⟨⟨ha, hbn⟩, hb⟩⟩
    · exact ⟨hne, Or.inr ⟨⟨ha, hbn⟩, hb⟩⟩
  · rintro ⟨hne, ⟨⟨hv, hw⟩, hwv⟩ | ⟨⟨hw, hv⟩, hvw⟩⟩
    · exact ⟨(v, w), ⟨v, hv, w, hwv, rfl⟩, ⟨hw, fun h => hne h.symm⟩, Or.inl ⟨rfl, rfl⟩⟩
    · exact ⟨(w, v), ⟨w, hw, v, hvw, rfl⟩, ⟨hv, hne⟩, Or.inr ⟨rfl, rfl⟩⟩

theorem nodup_sadj (G : Graph) (v : Nat) : (G.sadj v).Nodup := by
  unfold Graph.sadj
  rw [buildAdj_eq]
  refine foldl_inv (fun adj => ∀ v, (aget adj v []).Nodup) (fun v => ?_) ?_ v
  · rw [aget_map, ite_self]; exact List.nodup_nil
  · intro s p _ hs
    unfold edgeStep
    split
    · exact nodup_insNb (nodup_insNb hs)
    · exact hs

theorem arc_mem (G : Graph) {u w : Nat} (h : (G.arc u w || G.arc w u) = true) :
    u ∈ G.nodes ∧ w ∈ G.nodes := by
  simp only [Graph.arc, Bool.or_eq_true, Bool.and_eq_true, List.contains_iff_mem] at h
  rcases h with h | h
  · exact ⟨h.1.1, h.1.2⟩
  · exact ⟨h.1.2, h.1.1⟩

theorem sadj_sub (G : Graph) {v w : Nat} (h : w ∈ G.sadj v) : w ∈ G.nodes :=
  (arc_mem G (Bool.or_eq_true _ _ ▸ ((mem_sadj G v w).1 h).2)).2

theorem length_sadj (G : Graph) (hn : G.nodes.Nodup) (v : Nat) : (G.sadj v).length = degIn G G.nodes v := by
  unfold degIn
  apply List.Perm.length_eq
  rw [List.perm_ext_iff_of_nodup (nodup_sadj G v) (hn.sublist List.filter_sublist)]
  intro w
  rw [mem_sadj, List.mem_filter]
  simp only [Bool.and_eq_true, bne_iff_ne, ne_eq, Bool.or_eq_true]
  constructor
  · rintro ⟨hne, h⟩
    exact ⟨sadj_sub G ((mem_sadj G v w).2 ⟨hne, h⟩), fun h' => hne h'.symm, h⟩
  · rintro ⟨_, hne, h⟩
    exact ⟨fun h' => hne h'.symm, h⟩

/-- `total_weight` of `louvain` -/
abbrev totalWeight {α} (O : Ops α) (G : Graph) : α :=
  O.div (O.ofNat (G.nodes.map fun v => (G.sadj v).length).sum) (O.ofNat 2)

theorem prLoop_inv {α} (O : Ops α) (G : Graph) (d tol : α) (P : (Nat → α) → Prop)
    (hstep : ∀ s s' : Nat → α, (∀ v ∈ G.nodes, s' v = prStep O G d s v) → P s → P s') :
    ∀ (r it : Nat) (sc : List (Nat × α)) (md : α), P (fun v => aget sc v (O.ofNat 0)) →
      P (fun v => aget (prLoop O G d tol r it sc md).scores v (O.ofNat 0)) := by
  intro r
  induction r with
  | zero => intro it sc md h; exact h
  | succ r ih =>
    intro it sc md h
    have hnew := hstep _ (fun v => aget (G.nodes.map fun v =>
        (v, prStep O G d (fun v => aget sc v (O.ofNat 0)) v)) v (O.ofNat 0))
      (fun v hv => (aget_map ..).trans (if_pos hv)) h
    unfold prLoop
    simp only
    generalize (G.nodes.map fun v => (v, prStep O G d (fun v => aget sc v (O.ofNat 0)) v)) = new at hnew ⊢
    generalize List.foldl _ (O.ofNat 0) G.nodes = md'
    split
    · exact hnew
    · exact ih _ _ _ hnew

end Solvor.Net
