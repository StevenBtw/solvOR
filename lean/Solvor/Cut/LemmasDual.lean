import Solvor.Cut.Lemmas
import Solvor.Common.RatSums
import Mathlib.Tactic.Linarith
import Mathlib.Tactic.Ring
import Mathlib.Algebra.Order.Field.Rat
/-! Cut: weak duality for covering by columns, and the bounded-knapsack DP of the dual-feasibility test computes maxima. -/
namespace Solvor.Cut

theorem ceil_sub_le_ceil (q eps : Rat) (h : 0 ≤ eps) : (q - eps).ceil ≤ q.ceil := by
  rw [Rat.ceil_le_iff]
  have := Rat.le_ceil (x := q)
  linarith

theorem dotQ_nil_right (y : List Rat) : dotQ y [] = 0 := by cases y <;> rfl

theorem dotQ_nil_left (p : List Nat) : dotQ [] p = 0 := rfl

theorem dotQ_nonneg (y : List Rat) (hy : ∀ q ∈ y, 0 ≤ q) (p : List Nat) : 0 ≤ dotQ y p := by
  induction y generalizing p with
  | nil => exact le_refl _
  | cons a ys ih =>
    cases p with
    | nil => exact le_refl _
    | cons c cs =>
      rw [dotQ]
      exact add_nonneg (mul_nonneg (hy a List.mem_cons_self) (Nat.cast_nonneg c))
        (ih (fun q hq => hy q (List.mem_cons_of_mem _ hq)) cs)

def tailPlan (plan : Plan) : Plan := plan.map fun pc => (pc.1.tail, pc.2)

theorem produced_tailPlan (plan : Plan) (i : Nat) :
    produced (tailPlan plan) i = produced plan (i + 1) := by
  induction plan with
  | nil => rfl
  | cons pc t ih =>
    have h : pc.1.tail.getD i 0 = pc.1.getD (i + 1) 0 := by cases pc.1 <;> rfl
    rw [tailPlan, List.map_cons, produced_cons, ← tailPlan, ih, h, produced_cons]

def wsum (y : List Rat) (plan : Plan) : Rat := (plan.map fun pc => (pc.2 : Rat) * dotQ y pc.1).sum

theorem wsum_cons (y : List Rat) (pc : Pat × Nat) (t : Plan) :
    wsum y (pc :: t) = (pc.2 : Rat) * dotQ y pc.1 + wsum y t := rfl

theorem wsum_nonneg (y : List Rat) (hy : ∀ q ∈ y, 0 ≤ q) (plan : Plan) : 0 ≤ wsum y plan := by
  rw [← sum_map_zero plan]
  exact sum_map_le_sum_map plan _ _ fun pc _ => mul_nonneg (Nat.cast_nonneg _) (dotQ_nonneg y hy pc.1)

theorem wsum_cons_left (a : Rat) (ys : List Rat) (plan : Plan) :
    wsum (a :: ys) plan = a * (produced plan 0 : Rat) + wsum ys (tailPlan plan) := by
  induction plan with
  | nil => simp [wsum, produced, tailPlan]
  | cons pc t ih =>
    have ht : tailPlan (pc :: t) = (pc.1.tail, pc.2) :: tailPlan t := rfl
    rw [wsum_cons, ih, ht, wsum_cons, produced_cons]
    obtain ⟨p, c⟩ := pc
    cases p with
    | nil => simp [dotQ_nil_right]
    | cons h tl => simp only [dotQ, List.getD_cons_zero, List.tail_cons]; push_cast; ring

theorem dot_le_wsum : ∀ (y : List Rat) (d : List Nat) (plan : Plan), (∀ q ∈ y, 0 ≤ q) →
    (∀ i, i < d.length → d.getD i 0 ≤ produced plan i) → dotQ y d ≤ wsum y plan := by
  intro y
  induction y with
  | nil => intro d plan hy _; rw [dotQ_nil_left]; exact wsum_nonneg _ hy _
  | cons a ys ih =>
    intro d plan hy hc
    cases d with
    | nil => rw [dotQ_nil_right]; exact wsum_nonneg _ hy _
    | cons d0 ds =>
      rw [wsum_cons_left, dotQ]
      exact add_le_add
        (mul_le_mul_of_nonneg_left (Nat.cast_le.2 (hc 0 (Nat.succ_pos _))) (hy a List.mem_cons_self))
        (ih ds (tailPlan plan) (fun q hq => hy q (List.mem_cons_of_mem _ hq)) fun i hi => by
          rw [produced_tailPlan]; exact hc (i + 1) (Nat.succ_lt_succ hi))

theorem wsum_le_rolls (y : List Rat) (plan : Plan) (h : ∀ pc ∈ plan, dotQ y pc.1 ≤ 1) :
    wsum y plan ≤ (rolls plan : Rat) := by
  induction plan with
  | nil => exact Nat.cast_nonneg _
  | cons pc t ih =>
    rw [wsum_cons, rolls_cons, Nat.cast_add]
    exact add_le_add (mul_le_of_le_one_right (Nat.cast_nonneg _) (h pc List.mem_cons_self))
      (ih fun q hq => h q (List.mem_cons_of_mem _ hq))

/-- Weak duality for covering by columns: `y·d ≤ Σ c·(y·p) ≤ rolls`, and `rolls` is an integer, so `⌈y·d⌉ ≤ rolls`. -/
theorem dual_bound_core {Feas : Pat → Prop} {y : List Rat} {d : List Nat} {plan : Plan}
    (hy : ∀ q ∈ y, 0 ≤ q) (hf : ∀ p, Feas p → dotQ y p ≤ 1) (hv : ValidPlan Feas d plan) :
    dualBound y d ≤ (rolls plan : Int) := by
  rw [dualBound, Rat.ceil_le_iff]
  exact_mod_cast le_trans (dot_le_wsum y d plan hy hv.covers)
    (wsum_le_rolls y plan fun pc hpc => hf pc.1 (hv.feas pc hpc))

theorem maxQ_eq_max (a b : Rat) : maxQ a b = max a b := (max_def a b).symm

theorem bestCopies_max (s : Nat) (v : Rat) (old : List Rat) (w cmax : Nat) :
    (∀ c, c ≤ cmax → (c : Rat) * v + old.getD (w - c * s) 0 ≤ bestCopies s v old w cmax) ∧
    ∃ c, c ≤ cmax ∧ bestCopies s v old w cmax = (c : Rat) * v + old.getD (w - c * s) 0 := by
  induction cmax with
  | zero =>
    have h0 : ((0 : Nat) : Rat) * v + old.getD (w - 0 * s) 0 = bestCopies s v old w 0 := by simp [bestCopies]
    exact ⟨fun c hc => by obtain rfl := Nat.le_zero.1 hc; exact le_of_eq h0, 0, le_refl _, h0.symm⟩
  | succ m ih =>
    obtain ⟨hub, c, hc, he⟩ := ih
    rw [bestCopies, maxQ_eq_max]
    refine ⟨fun c' hc' => ?_, ?_⟩
    · rcases Nat.lt_succ_iff_lt_or_eq.1 (Nat.lt_succ_of_le hc') with h | rfl
      · exact le_trans (hub c' (Nat.le_of_lt_succ h)) (le_max_left _ _)
      · exact le_max_right _ _
    · rcases max_choice (bestCopies s v old w m) (((m + 1 : Nat) : Rat) * v + old.getD (w - (m + 1) * s) 0) with h | h
      · exact ⟨c, Nat.le_succ_of_le hc, by rw [h, he]⟩
      · exact ⟨m + 1, le_refl _, h⟩

theorem knapRow_nil_getD (W : Nat) (vs : List Rat) (w : Nat) : (knapRow W [] vs).getD w 0 = 0 := by
  have h : knapRow W [] vs = List.replicate (W + 1) 0 := by cases vs <;> rfl
  rw [h]; exact getD_replicate_self ..

theorem knapRow_max (W : Nat) : ∀ (ss : List Nat) (vs : List Rat), ss.length = vs.length →
    (∀ s ∈ ss, 0 < s) → ∀ w, w ≤ W →
    (∀ p : Pat, p.length = ss.length → dotN ss p ≤ w → dotQ vs p ≤ (knapRow W ss vs).getD w 0) ∧
    ∃ p : Pat, p.length = ss.length ∧ dotN ss p ≤ w ∧ dotQ vs p = (knapRow W ss vs).getD w 0 := by
  intro ss
  induction ss with
  | nil =>
    intro vs _ _ w _
    refine ⟨fun p hp _ => ?_, [], rfl, Nat.zero_le _, ?_⟩
    · rw [List.length_eq_zero_iff.1 hp, dotQ_nil_right, knapRow_nil_getD]
    · rw [dotQ_nil_right, knapRow_nil_getD]
  | cons s ss ih =>
    intro vs hl hpos w hw
    cases vs with
    | nil => cases hl
    | cons v vs =>
      have hs : 0 < s := hpos s List.mem_cons_self
      have ih' := fun w hw => ih vs (Nat.succ.inj hl) (fun x hx => hpos x (List.mem_cons_of_mem _ hx)) w hw
      obtain ⟨hub, c, hc, he⟩ := bestCopies_max s v (knapRow W ss vs) w (w / s)
      rw [knapRow, getD_map_range _ _ (Nat.lt_succ_of_le hw)]
      constructor
      · intro p hp hd
        cases p with
        | nil => cases hp
        | cons c cs =>
          have hd' : dotN ss cs + c * s ≤ w := by rw [Nat.add_comm, Nat.mul_comm]; exact hd
          have h2 := (ih' (w - c * s) (le_trans (Nat.sub_le _ _) hw)).1 cs (Nat.succ.inj hp)
            (Nat.le_sub_of_add_le hd')
          rw [dotQ, mul_comm]
          exact le_trans (add_le_add_right h2 _)
            (hub c ((Nat.le_div_iff_mul_le hs).2 (le_trans (Nat.le_add_left _ _) hd')))
      · have hcs : c * s ≤ w := le_trans (Nat.mul_le_mul_right s hc) (Nat.div_mul_le_self w s)
        obtain ⟨cs, hl', hw', hv'⟩ := (ih' (w - c * s) (le_trans (Nat.sub_le _ _) hw)).2
        refine ⟨c :: cs, congrArg Nat.succ hl', ?_, ?_⟩
        · rw [dotN, Nat.mul_comm]; exact Nat.add_le_of_le_sub' hcs hw'
        · rw [dotQ, he, hv', mul_comm]

end Solvor.Cut
