import Solvor.Cut.MirrorLemmas
import Solvor.Common.RatSums
/-!
Cut: the row-space invariant of the master-LP mirror (part of DESIGN's [S] `master-LP mirror`).  Whatever pivots
`simplex_phase` / `drive_out_artificials` choose, and whichever eliminations they skip because a factor is below `eps`, every
constraint row stays a linear combination of the original rows and the phase-2 objective row stays `cost − λᵀ·rows`; read off at
the surplus columns and the right-hand side, the LP value the code reports is *exactly* the dual value of the duals it reports.
-/
namespace Solvor.Cut.Mirror
open Solvor.Cut

theorem ite_inv {α : Type} (P : α → Prop) {c : Prop} [Decidable c] {a b : α} (ha : P a) (hb : P b) :
    P (if c then a else b) :=
  iteInduction (fun _ => ha) fun _ => hb

def rsum (m : Nat) (f : Nat → Rat) : Rat := ((List.range m).map f).sum

theorem rsum_succ (m : Nat) (f : Nat → Rat) : rsum (m + 1) f = rsum m f + f m := sum_range_succ f m

theorem rsum_zero (f : Nat → Rat) : rsum 0 f = 0 := rfl

theorem rsum_congr {m : Nat} {f g : Nat → Rat} (h : ∀ i, i < m → f i = g i) : rsum m f = rsum m g :=
  congrArg List.sum (List.map_congr_left fun i hi => h i (List.mem_range.1 hi))

theorem rsum_add (m : Nat) (f g : Nat → Rat) : rsum m (fun i => f i + g i) = rsum m f + rsum m g := sum_map_add _ f g

theorem rsum_mul_left (m : Nat) (c : Rat) (f : Nat → Rat) : rsum m (fun i => c * f i) = c * rsum m f :=
  sum_map_mul_left _ c f

theorem rsum_const_zero (m : Nat) : rsum m (fun _ => 0) = 0 := sum_map_zero _

theorem rsum_single (m k : Nat) (hk : k < m) (f : Nat → Rat) :
    rsum m (fun i => if i = k then f i else 0) = f k :=
  (rsum_congr fun i _ => by
    by_cases h : i = k
    · rw [if_pos h, if_pos h.symm, h]
    · rw [if_neg h, if_neg (Ne.symm h)]).trans (sum_indicator k m (f k) hk)

theorem rsum_shift (m : Nat) (f : Nat → Rat) : rsum (m + 1) f = f 0 + rsum m (fun i => f (i + 1)) := by
  induction m with
  | zero => rfl
  | succ m ih => rw [rsum_succ, ih, rsum_succ, add_assoc]

theorem dotQ_rangeMap {m : Nat} (g : Nat → Rat) {d : List Nat} (hm : d.length = m) :
    dotQ ((List.range m).map g) d = rsum m (fun i => g i * ((d.getD i 0 : Nat) : Rat)) := by
  induction m generalizing g d with
  | zero => simp [rsum, dotQ]
  | succ m ih =>
    cases d with
    | nil => simp at hm
    | cons a t =>
      rw [List.range_succ_eq_map, List.map_cons, List.map_map, rsum_shift]
      simp only [dotQ, List.getD_cons_zero, List.getD_cons_succ]
      have := ih (fun i => g (i + 1)) (d := t) (by simpa using hm)
      rw [show (g ∘ Nat.succ) = fun i => g (i + 1) from rfl, this]

theorem rget_rowScale (row : Row) (piv : Rat) (j : Nat) : rget (rowScale row piv) j = rget row j / piv := by
  have := getD_map (· / piv) row j 0
  rwa [zero_div] at this

theorem rget_rowSub {row : Row} (f : Rat) (rowR : Row) {j : Nat} (h : j < row.length) :
    rget (rowSub row f rowR) j = rget row j - f * rget rowR j :=
  getD_mapIdx _ h 0 0

def comb (μ : Nat → Rat) (G : List Row) (j : Nat) : Rat := rsum G.length fun k => μ k * rget (G.getD k []) j

/-- `v = c + Σ μ_k G_k` on the first `width` entries. -/
def Aff (c : Nat → Rat) (G : List Row) (width : Nat) (v : Row) : Prop :=
  v.length = width ∧ ∃ μ : Nat → Rat, ∀ j, j < width → rget v j = c j + comb μ G j

/-- the zero offset: `Aff zeroF G width v` says that `v` lies in the span of `G` -/
def zeroF : Nat → Rat := fun _ => 0

theorem comb_zero (G : List Row) (j : Nat) : comb (fun _ => 0) G j = 0 := by
  rw [comb, rsum_congr (g := fun _ => 0) fun k _ => zero_mul _, rsum_const_zero]

theorem comb_add (μ ν : Nat → Rat) (G : List Row) (j : Nat) :
    comb (fun k => μ k + ν k) G j = comb μ G j + comb ν G j := by
  rw [comb, comb, comb, ← rsum_add]
  exact rsum_congr fun k _ => add_mul _ _ _

theorem comb_smul (a : Rat) (μ : Nat → Rat) (G : List Row) (j : Nat) :
    comb (fun k => a * μ k) G j = a * comb μ G j := by
  rw [comb, comb, ← rsum_mul_left]
  exact rsum_congr fun k _ => mul_assoc _ _ _

theorem comb_single {G : List Row} {i : Nat} (hi : i < G.length) (j : Nat) :
    comb (fun k => if k = i then 1 else 0) G j = rget (G.getD i []) j := by
  rw [comb, rsum_congr (g := fun k => if k = i then rget (G.getD k []) j else 0) fun k _ => by
    by_cases h : k = i
    · rw [if_pos h, if_pos h, one_mul]
    · rw [if_neg h, if_neg h, zero_mul], rsum_single _ _ hi]

theorem aff_gen {G : List Row} {width i : Nat} (hi : i < G.length) (hw : (G.getD i []).length = width) :
    Aff zeroF G width (G.getD i []) :=
  ⟨hw, fun k => if k = i then 1 else 0, fun j _ => by rw [comb_single hi]; exact (zero_add _).symm⟩

theorem aff_scale {G : List Row} {width : Nat} {v : Row} (piv : Rat) (h : Aff zeroF G width v) :
    Aff zeroF G width (rowScale v piv) := by
  obtain ⟨hl, μ, hμ⟩ := h
  refine ⟨by rw [rowScale, List.length_map, hl], fun k => piv⁻¹ * μ k, fun j hj => ?_⟩
  rw [rget_rowScale, hμ j hj, comb_smul, div_eq_inv_mul, mul_add, zeroF, mul_zero]

theorem aff_sub {c : Nat → Rat} {G : List Row} {width : Nat} {v r : Row} (f : Rat)
    (hv : Aff c G width v) (hr : Aff zeroF G width r) : Aff c G width (rowSub v f r) := by
  obtain ⟨hl, μ, hμ⟩ := hv
  obtain ⟨_, ν, hν⟩ := hr
  refine ⟨by rw [rowSub, List.length_mapIdx, hl], fun k => μ k + -f * ν k, fun j hj => ?_⟩
  rw [rget_rowSub _ _ (by omega), hμ j hj, hν j hj, comb_add, comb_smul, zeroF, zero_add]
  ring

/-- `m` constraint rows, all in the span of `G`, then one objective row of the form `c + span`. -/
structure TInv (c : Nat → Rat) (G : List Row) (width m : Nat) (t : Tab) : Prop where
  len : t.length = m + 1
  rows : ∀ i, i < m → Aff zeroF G width (t.getD i [])
  obj : Aff c G width (t.getD m [])

theorem pivot_inv {c : Nat → Rat} {G : List Row} {width m : Nat} {t : Tab} {r : Nat} (col : Nat) (eps : Rat)
    (hr : r < m) (h : TInv c G width m t) : TInv c G width m (pivot t r col eps) := by
  have hR : Aff zeroF G width (rowScale (t.getD r []) (tget t r col)) := aff_scale _ (h.rows r hr)
  -- a row other than `r` loses a multiple of the scaled pivot row, or stays
  have key : ∀ i c', i < m + 1 → i ≠ r → Aff c' G width (t.getD i []) →
      Aff c' G width ((pivot t r col eps).getD i []) := by
    intro i c' hi hir hA
    unfold pivot
    rw [getD_mapIdx _ (h.len ▸ hi) [], if_neg (by simpa using hir)]
    exact ite_inv _ (aff_sub _ hA hR) hA
  refine ⟨by rw [pivot, List.length_mapIdx, h.len], fun i hi => ?_,
    key m _ (Nat.lt_succ_self m) (Nat.ne_of_gt hr) h.obj⟩
  by_cases hir : i = r
  · unfold pivot
    rw [getD_mapIdx _ (h.len ▸ Nat.lt_succ_of_lt hi) [], if_pos (by simpa using hir)]
    exact hR
  · exact key i _ (Nat.lt_succ_of_lt hi) hir (h.rows i hi)

theorem ratioTest_lt {t : Tab} {basis : List Nat} {nRows enter rhs : Nat} {eps : Rat} {l : Nat}
    (h : ratioTest t basis nRows enter rhs eps = some l) : l < nRows := by
  unfold ratioTest at h
  let P : Option Nat × Option Rat → Prop := fun acc => ∀ l, acc.1 = some l → l < nRows
  refine foldl_inv P (by simp [P]) ?_ l h
  -- a step keeps the accumulator or makes `x` the leaving row
  rintro ⟨lv, mr⟩ x hx hacc
  have hnew : ∀ r : Option Rat, P (some x, r) := fun _ l hl => Option.some.inj hl ▸ List.mem_range.1 hx
  refine ite_inv P ?_ hacc
  cases mr with
  | none => exact hnew _
  | some mr =>
    refine ite_inv P (hnew _) (ite_inv P ?_ hacc)
    cases lv with
    | none => exact hacc
    | some l0 => exact ite_inv P (hnew _) hacc

theorem simplexPhase_inv {c : Nat → Rat} {G : List Row} {width m : Nat} {eps : Rat} {nOrig rhs fuel : Nat}
    {s : Tab × List Nat} (h : TInv c G width m s.1) :
    TInv c G width m (simplexPhase eps nOrig m rhs fuel s).1 := by
  revert h
  fun_induction simplexPhase eps nOrig m rhs fuel s with
  -- case1–3: no pivot (fuel spent, nothing enters, nothing leaves); case4: pivot on row `l`, column `e`
  | case1 | case2 | case3 => exact id
  | case4 _ t basis e _ l hl ih => exact fun h => ih (pivot_inv e eps (ratioTest_lt hl) h)

theorem driveOut_inv {c : Nat → Rat} {G : List Row} {width m : Nat} {eps : Rat} {nOrig : Nat}
    {s : Tab × List Nat} (h : TInv c G width m s.1) : TInv c G width m (driveOut eps nOrig m s).1 := by
  unfold driveOut
  refine foldl_inv (fun s : Tab × List Nat => TInv c G width m s.1) h fun s x hx h => ?_
  unfold driveStep
  split
  · exact h
  · split
    · exact pivot_inv _ eps (List.mem_range.1 hx) h
    · exact h

def costF (n : Nat) : Nat → Rat := fun j => if j < n then 1 else 0

theorem phase2Obj_aff {G : List Row} {width m : Nat} (n : Nat) {t : Tab} (basis : List Nat)
    (hrows : ∀ i, i < m → Aff zeroF G width (t.getD i [])) :
    Aff (costF n) G width (phase2Obj t basis n m width) := by
  unfold phase2Obj
  refine foldl_inv (Aff (costF n) G width) ⟨by simp, fun _ => 0, fun j hj => ?_⟩ fun o x hx h =>
    ite_inv _ (aff_sub _ h (hrows x (List.mem_range.1 hx))) h
  rw [comb_zero, add_zero]
  exact getD_map_range _ 0 hj

theorem tinv_init {rows : List Row} {width : Nat} {obj1 : Row}
    (hw : ∀ i, i < rows.length → (rows.getD i []).length = width) (ho : obj1.length = width) :
    TInv (rget obj1) rows width rows.length (rows ++ [obj1]) := by
  refine ⟨by simp, fun i hi => ?_, ?_⟩
  · rw [getD_append_lt _ _ _ hi]
    exact aff_gen hi (hw i hi)
  · rw [getD_append_len]
    exact ⟨ho, fun _ => 0, fun j _ => by rw [comb_zero, add_zero]⟩

theorem tinv_setObj {c c' : Nat → Rat} {G : List Row} {width m : Nat} {t : Tab} (h : TInv c G width m t)
    (o : Row) (ho : Aff c' G width o) : TInv c' G width m (t.set m o) := by
  refine ⟨by rw [List.length_set, h.len], fun i hi => ?_, ?_⟩
  · rw [getD_set_ne (Nat.ne_of_gt hi)]
    exact h.rows i hi
  · rw [getD_set_self (by rw [h.len]; exact Nat.lt_succ_self m)]
    exact ho

theorem lpCore_obj {eps : Rat} {rows : List Row} {artRows : List Bool} {isArt : Nat → Bool}
    {basis0 : List Nat} {nOrig n width : Nat} {t : Tab} {b : List Nat}
    (hw : ∀ i, i < rows.length → (rows.getD i []).length = width)
    (h : lpCore eps rows artRows isArt basis0 nOrig n width = some (t, b)) :
    ∃ μ : Nat → Rat, ∀ j, j < width → tget t rows.length j = costF n j + comb μ rows j := by
  unfold lpCore at h
  dsimp only at h
  have h := Option.some.inj (Option.ite_none_left_eq_some.1 h).2
  generalize hs2 : driveOut _ _ _ _ = s2 at h
  -- phase 1 and the drive-out keep the constraint rows in the span of `rows`; the offset `c` of their objective row is
  -- of no interest (`TInv` has it only so that `pivot_inv`, `simplexPhase_inv` serve both phases), only `h2.rows` goes on
  obtain ⟨c, h2⟩ : ∃ c, TInv c rows width rows.length s2.1 := by
    rw [← hs2]
    exact ⟨_, driveOut_inv (simplexPhase_inv (tinv_init hw (by simp)))⟩
  -- phase 2 starts from the cost row and keeps `cost + span`
  have h4 := simplexPhase_inv (eps := eps) (nOrig := nOrig) (rhs := width - 1) (fuel := simplexFuel) (s := (_, s2.2))
    (tinv_setObj h2 _ (phase2Obj_aff n s2.2 h2.rows))
  rw [h] at h4
  obtain ⟨_, μ, hμ⟩ := h4.obj
  exact ⟨μ, hμ⟩

theorem demandRow_length (cols : List Pat) (d : List Nat) (i : Nat) :
    (demandRow cols d 0 0 i).length = cols.length + 2 * d.length + 1 := by
  rw [demandRow, List.length_map, List.length_range]; omega

theorem demandRow_x {cols : List Pat} (d : List Nat) (i : Nat) {j : Nat} (hj : j < cols.length) :
    rget (demandRow cols d 0 0 i) j = (((cols.getD j []).getD i 0 : Nat) : Rat) := by
  unfold demandRow
  dsimp only
  rw [rget, getD_map_range _ _ (by omega), if_pos hj]

theorem demandRow_right (cols : List Pat) (d : List Nat) (i : Nat) {k : Nat} (hk : k ≤ 2 * d.length) :
    rget (demandRow cols d 0 0 i) (cols.length + k) =
      if k = i then -1 else if k = d.length + i then 1 else if k = 2 * d.length then ((d.getD i 0 : Nat) : Rat) else 0 := by
  unfold demandRow
  dsimp only
  rw [rget, getD_map_range _ _ (by omega), if_neg (Nat.not_lt.2 (Nat.le_add_right _ _))]
  simp only [Nat.add_zero, Nat.add_assoc, Nat.add_left_cancel_iff, ← Nat.two_mul]

theorem demandRow_surplus (cols : List Pat) {d : List Nat} (i : Nat) {k : Nat} (hk : k < d.length) :
    rget (demandRow cols d 0 0 i) (cols.length + k) = if k = i then -1 else 0 := by
  rw [demandRow_right cols d i (by omega), if_neg (c := k = d.length + i) (by omega),
    if_neg (c := k = 2 * d.length) (by omega)]

theorem demandRow_rhs (cols : List Pat) {d : List Nat} {i : Nat} (hi : i < d.length) :
    rget (demandRow cols d 0 0 i) (cols.length + 2 * d.length) = ((d.getD i 0 : Nat) : Rat) := by
  rw [demandRow_right cols d i (Nat.le_refl _), if_neg (by omega), if_neg (by omega), if_pos rfl]

/-- The objective row of the final tableau of the master LP is `cost − λᵀ·rows`, with the multipliers `λ`
standing in the surplus columns of that very row (where the code reads the duals). -/
theorem masterCore_obj {cols : List Pat} {d : List Nat} {eps : Rat} {t : Tab} {b : List Nat}
    (h : masterCore cols d eps = some (t, b)) {j : Nat} (hj : j < cols.length + 2 * d.length + 1) :
    tget t d.length j = costF cols.length j -
      rsum d.length fun i => tget t d.length (cols.length + i) * rget (demandRow cols d 0 0 i) j := by
  unfold masterCore at h
  dsimp only at h
  have hlen : ((List.range d.length).map (demandRow cols d 0 0)).length = d.length := by
    rw [List.length_map, List.length_range]
  obtain ⟨μ, hμ⟩ := lpCore_obj (fun i hi => by rw [getD_map_range _ _ (hlen ▸ hi), demandRow_length]) h
  rw [hlen] at hμ
  have hcomb : ∀ j, comb μ ((List.range d.length).map (demandRow cols d 0 0)) j
      = rsum d.length (fun k => μ k * rget (demandRow cols d 0 0 k) j) := fun j => by
    rw [comb, hlen]
    exact rsum_congr fun k hk => by rw [getD_map_range _ _ hk]
  -- row `i` has `-1` in its own surplus column and `0` in the others, so at column `n + k` the objective row
  -- `0 + Σ μ_i rows_i` reads `-μ k`: the duals are `λ = -μ`
  have hdual : ∀ k, k < d.length → tget t d.length (cols.length + k) = -μ k := by
    intro k hk
    have e : ∀ i, μ i * rget (demandRow cols d 0 0 i) (cols.length + k) = if i = k then -μ i else 0 := fun i => by
      rw [demandRow_surplus _ _ hk]
      by_cases h : i = k
      · rw [if_pos h, if_pos h.symm, mul_neg_one]
      · rw [if_neg h, if_neg (Ne.symm h), mul_zero]
    rw [hμ _ (by omega), hcomb, rsum_congr fun i _ => e i, rsum_single _ _ hk, costF, if_neg (by omega), zero_add]
  -- hence `Σ λ_i rows_i = -Σ μ_i rows_i`
  have hneg : (rsum d.length fun i => tget t d.length (cols.length + i) * rget (demandRow cols d 0 0 i) j) =
      -rsum d.length fun i => μ i * rget (demandRow cols d 0 0 i) j := by
    rw [rsum_congr (g := fun i => (-1) * (μ i * rget (demandRow cols d 0 0 i) j)) fun i hi => by
      rw [hdual i hi, neg_mul, neg_one_mul], rsum_mul_left, neg_one_mul]
  rw [hneg, hμ j hj, hcomb, sub_neg_eq_add]

/-- `Σ_i duals_i · col[i]` for the duals read off the final tableau. -/
def priceOf (t : Tab) (n m : Nat) (col : Pat) : Rat :=
  rsum m fun i => tget t m (n + i) * ((col.getD i 0 : Nat) : Rat)

theorem masterCore_redcost {cols : List Pat} {d : List Nat} {eps : Rat} {t : Tab} {b : List Nat}
    (h : masterCore cols d eps = some (t, b)) {j : Nat} (hj : j < cols.length) :
    tget t d.length j = 1 - priceOf t cols.length d.length (cols.getD j []) := by
  rw [masterCore_obj h (j := j) (by omega), costF, if_pos hj]
  exact congrArg _ (rsum_congr fun i _ => by rw [demandRow_x _ _ hj])

theorem masterCore_value {cols : List Pat} {d : List Nat} {eps : Rat} {t : Tab} {b : List Nat}
    (h : masterCore cols d eps = some (t, b)) :
    -(tget t d.length (cols.length + 2 * d.length)) = priceOf t cols.length d.length d := by
  rw [masterCore_obj h (Nat.lt_succ_self _), costF, if_neg (by omega), zero_sub, neg_neg]
  exact rsum_congr fun i hi => by rw [demandRow_rhs _ hi]

theorem masterLP_value_eq_dual {cols : List Pat} {d : List Nat} {eps : Rat} {o : Rat}
    (h : (masterLP cols d eps).2.2 = some o) : o = dotQ (masterLP cols d eps).2.1 d := by
  revert h
  fun_cases masterLP cols d eps
  -- case3: the two-phase run succeeded with tableau `t`
  case case3 t b hc =>
    intro h
    cases h
    rw [dotQ_rangeMap _ rfl]
    exact masterCore_value hc
  all_goals nofun

end Solvor.Cut.Mirror
