import Solvor.Cut.Mirror
import Solvor.Cut.LemmasDual
/-! Cut: what holds of the `solve_cg` mirror whatever the LP returns (round-up, demand re-check, status rule, every generated
pattern fits), and the pricing DP in a form the kernel can evaluate. -/
namespace Solvor.Cut.Mirror
open Solvor.Cut

theorem roundUp_mem {cols : List Pat} {xs : List Rat} {eps : Rat} {pc : Pat × Nat}
    (hpc : pc ∈ roundUp cols xs eps) : pc.1 ∈ cols := by
  unfold roundUp at hpc
  obtain ⟨px, hpx, h⟩ := List.mem_filterMap.1 hpc
  split at h
  · dsimp only at h
    split at h
    · cases h
      exact (List.of_mem_zip hpx).1
    · cases h
  · cases h

theorem finish_plan (cols : List Pat) (d : List Nat) (eps : Rat) (it : Nat) (conv verify : Bool) :
    (finish cols d eps it conv verify).plan = roundUp cols (masterLP cols d eps).1 eps := rfl

theorem finish_total (cols : List Pat) (d : List Nat) (eps : Rat) (it : Nat) (conv verify : Bool) :
    (finish cols d eps it conv verify).total = rolls (finish cols d eps it conv verify).plan := rfl

theorem finish_duals (cols : List Pat) (d : List Nat) (eps : Rat) (it : Nat) (conv verify : Bool) :
    (finish cols d eps it conv verify).duals = (masterLP cols d eps).2.1 := rfl

theorem finish_lpObj (cols : List Pat) (d : List Nat) (eps : Rat) (it : Nat) (conv verify : Bool) :
    (finish cols d eps it conv verify).lpObj = (masterLP cols d eps).2.2 := rfl

theorem finish_status_eq (cols : List Pat) (d : List Nat) (eps : Rat) (it : Nat) (conv verify : Bool) :
    (finish cols d eps it conv verify).status =
      finishStatus (finish cols d eps it conv verify).plan d (masterLP cols d eps).2.2 eps conv verify := rfl

theorem finishStatus_cases (plan : Plan) (d : List Nat) (obj : Option Rat) (eps : Rat) (conv verify : Bool) :
    finishStatus plan d obj eps conv verify = "OPTIMAL" ∨ finishStatus plan d obj eps conv verify = "FEASIBLE" ∨
    finishStatus plan d obj eps conv verify = "INFEASIBLE" ∨
    finishStatus plan d obj eps conv verify = "OverflowError" := by
  fun_cases finishStatus plan d obj eps conv verify
  · exact .inr (.inr (.inl rfl))
  · exact .inr (.inr (.inr rfl))
  · exact .inl rfl
  · exact .inr (.inl rfl)

theorem finishStatus_usable_covers {plan : Plan} {d : List Nat} {obj : Option Rat} {eps : Rat} {conv : Bool}
    (h : finishStatus plan d obj eps conv true = "OPTIMAL" ∨ finishStatus plan d obj eps conv true = "FEASIBLE") :
    ∀ i, i < d.length → d.getD i 0 ≤ produced plan i := by
  have hu : unmetB plan d = false := by
    revert h
    fun_cases finishStatus plan d obj eps conv true
    -- case1: the re-check found an unmet demand (status `INFEASIBLE`); in the other three it did not
    case case1 => exact fun h => by rcases h with h | h <;> exact absurd h (by decide)
    case case2 hn | case3 hn _ _ | case4 hn _ _ => exact fun _ => by simpa using hn
  intro i hi
  simpa using (List.any_eq_false.1 hu) i (List.mem_range.2 hi)

theorem finishStatus_optimal {plan : Plan} {d : List Nat} {obj : Option Rat} {eps : Rat} {conv verify : Bool}
    (h : finishStatus plan d obj eps conv verify = "OPTIMAL") :
    conv = true ∧ ∃ o, obj = some o ∧ (rolls plan : Int) ≤ (o - eps).ceil := by
  revert h
  fun_cases finishStatus plan d obj eps conv verify
  -- case3 is the `OPTIMAL` branch
  case case3 o hc =>
    simp only [Bool.and_eq_true, decide_eq_true_eq] at hc
    exact fun _ => ⟨hc.1, o, rfl, hc.2⟩
  all_goals exact fun h => absurd h (by decide)

theorem dotN_single (sizes : List Nat) (j c : Nat) :
    dotN sizes ((List.range sizes.length).map fun i => if i == j then c else 0) = sizes.getD j 0 * c := by
  induction sizes generalizing j with
  | nil => exact (Nat.zero_mul c).symm
  | cons s ss ih =>
    rw [List.length_cons, List.range_succ_eq_map, List.map_cons, List.map_map]
    cases j with
    | zero =>
      rw [show ((fun i => if i == 0 then c else 0) ∘ Nat.succ) = fun _ => 0 from rfl, List.map_const',
        dotN, dotN_zeros]
      rfl
    | succ j' =>
      rw [show ((fun i => if i == j' + 1 then c else 0) ∘ Nat.succ) = fun i => if i == j' then c else 0 from funext fun i => by simp,
        dotN, ih]
      exact Nat.zero_add _

theorem initPats_fit (W : Nat) (sizes d : List Nat) : ∀ p ∈ initPats W sizes d, Fits W sizes p := by
  intro p hp
  unfold initPats at hp
  obtain ⟨j, hj, h⟩ := List.mem_filterMap.1 hp
  split at h
  · cases h
    have hjn : j < sizes.length := List.mem_range.1 hj
    refine ⟨by simp, ?_⟩
    rw [dotN_single, getD_eq_of_lt sizes j hjn 1 0]
    exact Nat.mul_div_le W _
  · cases h

/-- Invariant of the pricing DP: the pattern stored at scaled weight `w` weighs exactly `w`. -/
def DpInv (sizes : List Nat) (scale : Nat) (dp : Dp) : Prop :=
  ∀ w v p, dp.getD w none = some (v, p) → p.length = sizes.length ∧ dotN sizes p * scale = w

theorem getD_toArray_map_range {α : Type} (k : Nat) (f : Nat → Option α) (w : Nat) :
    ((List.range k).toArray.map f).getD w none = if w < k then f w else none := by
  by_cases h : w < k
  · simp [Array.getD, h]
  · simp [Array.getD, h]

theorem dotN_set_succ (sizes : List Nat) (p : List Nat) (i : Nat) (hp : p.length = sizes.length)
    (hi : i < sizes.length) :
    dotN sizes (p.set i (p.getD i 0 + 1)) = dotN sizes p + sizes.getD i 0 := by
  induction sizes generalizing p i with
  | nil => cases hi
  | cons s ss ih =>
    cases p with
    | nil => cases hp
    | cons c cs =>
      cases i with
      | zero =>
        show s * (c + 1) + dotN ss cs = s * c + dotN ss cs + s
        rw [Nat.mul_succ, Nat.add_right_comm]
      | succ i' =>
        show s * c + dotN ss (cs.set i' (cs.getD i' 0 + 1)) = s * c + dotN ss cs + ss.getD i' 0
        rw [ih cs i' (Nat.succ.inj hp) (Nat.lt_of_succ_lt_succ hi), Nat.add_assoc]

theorem knapCell_cases (eps : Rat) (i : Nat) (v : Rat) (cur prev : Option (Rat × List Nat)) :
    knapCell eps i v cur prev = cur ∨
    ∃ pv pp, prev = some (pv, pp) ∧ knapCell eps i v cur prev = some (pv + v, pp.set i (pp.getD i 0 + 1)) := by
  cases prev with
  | none => left; rfl
  | some x =>
    obtain ⟨pv, pp⟩ := x
    by_cases hb : knapBetter eps (pv + v) cur = true
    · right; exact ⟨pv, pp, rfl, by simp [knapCell, hb]⟩
    · left; simp [knapCell, hb]

theorem knapPass_inv (sizes : List Nat) (scale : Nat) (eps : Rat) (i : Nat) (v : Rat)
    (dp : Dp) (hi : i < sizes.length)
    (h : DpInv sizes scale dp) : DpInv sizes scale (knapPass eps i (sizes.getD i 0 * scale) v dp) := by
  intro w v' p hw
  unfold knapPass at hw
  rw [getD_toArray_map_range] at hw
  generalize hcur : dp.getD w none = cur at hw
  generalize hprev : dp.getD (w - sizes.getD i 0 * scale) none = prev at hw
  by_cases hlt : w < dp.size
  · rw [if_pos hlt] at hw
    by_cases hge : w < sizes.getD i 0 * scale
    · rw [if_pos hge] at hw
      exact h w v' p (hcur.trans hw)
    · rw [if_neg hge] at hw
      rcases knapCell_cases eps i v cur prev with hc | ⟨pv, pp, hp, hc⟩
      · exact h w v' p (hcur.trans (hc ▸ hw))
      · rw [hc] at hw
        cases hw
        obtain ⟨hl, hwt⟩ := h _ _ _ (hprev.trans hp)
        refine ⟨by simp [hl], ?_⟩
        rw [dotN_set_succ sizes pp i hl hi, Nat.add_mul, hwt]
        omega
  · rw [if_neg hlt] at hw; cases hw

theorem knapPass_size (eps : Rat) (i s : Nat) (v : Rat) (dp : Dp) :
    (knapPass eps i s v dp).size = dp.size := by
  rw [knapPass, Array.size_map, List.size_toArray, List.length_range]

theorem dpInit_size (n capInt : Nat) : (dpInit n capInt).size = capInt + 1 := by
  rw [dpInit, Array.size_map, List.size_toArray, List.length_range]

theorem dpFill_size (sizes : List Nat) (W scale : Nat) (values : List Rat) (eps : Rat) (dp0 : Dp) :
    (dpFill sizes W scale values eps dp0).size = dp0.size := by
  unfold dpFill
  refine foldl_inv (fun dp : Dp => dp.size = dp0.size) rfl fun dp i _ h => ?_
  split
  · exact h
  · exact foldl_inv (fun dp : Dp => dp.size = dp0.size) h fun dp _ _ h => (knapPass_size ..).trans h

theorem dpInit_inv (sizes : List Nat) (scale capInt : Nat) : DpInv sizes scale (dpInit sizes.length capInt) := by
  intro w v p hw
  unfold dpInit at hw
  rw [getD_toArray_map_range] at hw
  split at hw
  · split at hw
    · rename_i hw0
      cases hw
      have : w = 0 := by simpa using hw0
      subst this
      exact ⟨by simp, by rw [dotN_zeros]; simp⟩
    · cases hw
  · cases hw

theorem dpFill_inv (sizes : List Nat) (W scale : Nat) (values : List Rat) (eps : Rat) (dp0 : Dp)
    (hpos : ∀ s ∈ sizes, 0 < s) (hscale : 0 < scale) (h0 : DpInv sizes scale dp0) :
    DpInv sizes scale (dpFill sizes W scale values eps dp0) := by
  unfold dpFill
  refine foldl_inv (DpInv sizes scale) h0 fun dp i hi h => ?_
  have hi : i < sizes.length := List.mem_range.1 hi
  split
  · exact h
  · have hspos : 0 < sizes.getD i 0 := hpos _ (getD_mem hi 0)
    -- sizes and scale are positive, so the code's guard `max(1, ·)` on the scaled size is idle
    have hmax : max 1 (sizes.getD i 1 * scale) = sizes.getD i 0 * scale := by
      have := Nat.mul_pos hspos hscale
      rw [getD_eq_of_lt sizes i hi 1 0]; omega
    rw [hmax]
    exact foldl_inv (DpInv sizes scale) h fun dp _ _ h => knapPass_inv sizes scale eps i _ dp hi h

/-- The pattern returned by the pricing DP fits the roll (so the greedy fall-back of
`knapsack_pricing`, taken when `total_size > capacity + eps`, is unreachable for integer data). -/
theorem knapsackPricing_fits (sizes : List Nat) (W : Nat) (values : List Rat) (eps : Rat)
    (hpos : ∀ s ∈ sizes, 0 < s) : Fits W sizes (knapsackPricing sizes W values eps).1 := by
  unfold knapsackPricing
  split
  · rename_i h0
    have : sizes = [] := List.length_eq_zero_iff.1 (by simpa using h0)
    subst this; exact ⟨rfl, Nat.zero_le _⟩
  · have hscale : 0 < Solvor.Gen.Cut.pricingScale.toNat := by decide
    dsimp only
    generalize Solvor.Gen.Cut.pricingScale.toNat = scale at hscale ⊢
    have hinv := dpFill_inv sizes W scale values eps _ hpos hscale (dpInit_inv sizes scale (W * scale))
    have hsize := (dpFill_size sizes W scale values eps _).trans (dpInit_size sizes.length (W * scale))
    generalize dpFill sizes W scale values eps (dpInit sizes.length (W * scale)) = dp at hinv hsize ⊢
    generalize dpBest dp (W * scale) eps = best
    have hzero : Fits W sizes (List.replicate sizes.length 0) :=
      ⟨List.length_replicate, by rw [dotN_zeros]; exact Nat.zero_le _⟩
    split
    · split
      · rename_i v p hb
        obtain ⟨hl, hw⟩ := hinv _ _ _ hb
        have hlt : best.1 < W * scale + 1 := by
          rw [← hsize]; by_contra hn; simp [Array.getD, hn] at hb
        refine ⟨hl, ?_⟩
        exact Nat.le_of_mul_le_mul_right (hw ▸ Nat.le_of_lt_succ hlt) hscale
      · exact hzero
    · exact hzero

/-! The pricing DP on lists.  Evaluating it on an `Array` is quadratic in the kernel (`Array.map` rebuilds the array by `push`, an
access at a literal index walks a successor chain); in the forms below a pass, and the final scan, are
linear.  The one evaluation of the DP, the `example` below `cg_mirror_optimal_of_duals` in Theorems.lean, rewrites with these
equations first. -/

theorem dpInit_eq (n capInt : Nat) :
    dpInit n capInt = (some ((0 : Rat), List.replicate n 0) :: List.replicate capInt none).toArray := by
  rw [dpInit, List.map_toArray, List.range_succ_eq_map]
  simp [List.map_map, Function.comp_def, List.map_const']

/-- Entry `w` of a pass reads entries `w` and `w - s` of the pass before: the list zipped with itself
shifted by `s` (`knapCell` keeps the entry when there is none to its left). -/
theorem knapPass_eq (eps : Rat) (i s : Nat) (v : Rat) (dp : Dp) :
    knapPass eps i s v dp =
      (List.zipWith (knapCell eps i v) dp.toList (List.replicate s none ++ dp.toList)).toArray := by
  rw [knapPass, List.map_toArray]
  congr 1
  apply List.ext_getElem
  · rw [List.length_map, List.length_range, List.length_zipWith, List.length_append, List.length_replicate,
      Array.length_toList, Nat.min_eq_left (Nat.le_add_left _ _)]
  · intro w h1 _
    simp only [List.length_map, List.length_range] at h1
    simp only [List.getElem_map, List.getElem_range, List.getElem_zipWith, List.getElem_append, List.length_replicate,
      List.getElem_replicate, Array.getD_eq_getD_getElem?, getElem?_pos, h1, Option.getD_some, Array.getElem_toList]
    split
    · rfl
    · rw [getElem?_pos dp (w - s) (by omega)]; rfl

theorem dpBest_eq (dp : Dp) (capInt : Nat) (eps : Rat) (h : dp.size = capInt + 1) :
    dpBest dp capInt eps = dp.toList.zipIdx.foldl (fun (acc : Nat × Rat) c =>
      match c.1 with
      | some (v, _) => if v > acc.2 + eps then (c.2, v) else acc
      | none => acc) (0, 0) := by
  have hz : ∀ l : List (Option (Rat × List Nat)),
      l.zipIdx = (List.range l.length).map fun w => (l.getD w none, w) := fun l => by
    apply List.ext_getElem
    · simp
    · intro i h _; simp [List.getElem?_eq_getElem (by simpa using h)]
  rw [hz, List.foldl_map, dpBest, ← h, Array.length_toList]
  congr 1; funext acc w
  rw [show dp.toList.getD w none = dp.getD w none by
    simp [Array.getD_eq_getD_getElem?, List.getD_eq_getElem?_getD]]
  cases dp.getD w none <;> rfl

theorem csLoop_exit (W : Nat) (sizes d : List Nat) (eps : Rat) (stop : Nat → Bool) (fuel it : Nat)
    (pats : List Pat) (hs : stop it = false)
    (hp : (knapsackPricing sizes W (masterLP pats d eps).2.1 eps).2 ≤ 1 + eps) :
    csLoop W sizes d eps stop (fuel + 1) it pats = (pats, it, true) := by
  rw [csLoop, hs]; exact if_pos hp

theorem csLoop_fit (W : Nat) (sizes d : List Nat) (eps : Rat) (stop : Nat → Bool) (hpos : ∀ s ∈ sizes, 0 < s) :
    ∀ (fuel it : Nat) (pats : List Pat), (∀ p ∈ pats, Fits W sizes p) →
      ∀ p ∈ (csLoop W sizes d eps stop fuel it pats).1, Fits W sizes p := by
  intro fuel it pats
  fun_induction csLoop W sizes d eps stop fuel it pats with
  -- case1–3: fuel spent, stop requested, converged; case4: a pattern is added and the loop goes on
  | case1 | case2 | case3 => exact id
  | case4 _ _ _ _ _ _ ih =>
    intro h
    refine ih fun p hp => ?_
    split at hp
    · exact h p hp
    · rcases List.mem_append.1 hp with hp | hp
      · exact h p hp
      · rw [List.mem_singleton.1 hp]; exact knapsackPricing_fits sizes W _ eps hpos

/-- The pricing loop reports `converged` only when it stopped because no pattern prices above
`1 + eps` under the duals of the *returned* pool (never after a stop requested by the callback or
when `max_iter` ran out). -/
theorem csLoop_converged (W : Nat) (sizes d : List Nat) (eps : Rat) (stop : Nat → Bool) :
    ∀ (fuel it : Nat) (pats : List Pat), (csLoop W sizes d eps stop fuel it pats).2.2 = true →
      (knapsackPricing sizes W (masterLP (csLoop W sizes d eps stop fuel it pats).1 d eps).2.1 eps).2 ≤ 1 + eps := by
  intro fuel it pats
  fun_induction csLoop W sizes d eps stop fuel it pats with
  -- case1, case2: fuel spent, stop requested; case3: converged; case4: the loop goes on
  | case1 | case2 => nofun
  | case3 _ _ _ _ _ hle => exact fun _ => hle
  | case4 _ _ _ _ _ _ ih => exact ih

theorem pricingCols_mem (cols : List Pat) (duals : List Rat) :
    ∀ c, (pricingCols cols duals).1 = some c → c ∈ cols := by
  unfold pricingCols
  refine foldl_inv (fun acc : Option Pat × Rat => ∀ c, acc.1 = some c → c ∈ cols) (by simp) ?_
  intro acc x hx h c hc
  dsimp only at hc
  split at hc
  · cases hc; exact hx
  · exact h c hc

theorem customLoop_mem (cols : List Pat) (d : List Nat) (eps : Rat) (stop : Nat → Bool) :
    ∀ (fuel it : Nat) (cur : List Pat), ∀ p ∈ (customLoop cols d eps stop fuel it cur).1, p ∈ cur ∨ p ∈ cols := by
  intro fuel it cur
  fun_induction customLoop cols d eps stop fuel it cur with
  -- case1–4: the loop ends with the current pool; case5: column `c` of `cols` is added
  | case1 | case2 | case3 | case4 => exact fun _ hp => Or.inl hp
  | case5 _ _ cur _ c _ hc _ ih =>
    intro p hp
    rcases ih p hp with h | h
    · split at h
      · exact Or.inl h
      · rcases List.mem_append.1 h with h | h
        · exact Or.inl h
        · rw [List.mem_singleton.1 h]; exact Or.inr (pricingCols_mem cols _ c (by rw [hc]))
    · exact Or.inr h

end Solvor.Cut.Mirror
