import Solvor.Cut.MirrorBp
import Solvor.Cut.MirrorLp
/-! Cut: lemmas about the `solve_bp` mirror: the status rule for every node solver, and the
root LP (no bounds) is the master LP of `solve_cg`. -/
namespace Solvor.Cut.Mirror
open Solvor.Cut

/-- With `gap_tol ≤ 1` and `gap_tol · best ≤ 1` (default `1e-6`: `best ≤ 10⁶`) the gap test
`(best − lb)/max(best, 1e-10) < gap_tol`, once passed, gives `best ≤ lb`. -/
theorem gapOk_le {best : Nat} {lb : Int} {tol : Rat} (h1 : tol ≤ 1) (h2 : tol * (best : Rat) ≤ 1)
    (h : gapOk best lb tol = true) : (best : Int) ≤ lb := by
  -- whichever denominator `den` is taken, `0 < den` and `tol * den ≤ 1`, so `best - lb < 1`
  have key : ∀ den : Rat, 0 < den → tol * den ≤ 1 → ((best : Rat) - lb) / den < tol → (best : Int) ≤ lb := by
    intro den hd ht hlt
    rw [div_lt_iff₀ hd] at hlt
    exact Int.lt_add_one_iff.1 (by exact_mod_cast sub_lt_iff_lt_add'.1 (lt_of_lt_of_le hlt ht))
  unfold gapOk at h
  simp only [decide_eq_true_eq] at h
  split at h
  · exact key _ (by norm_num) (mul_le_one₀ h1 (by norm_num) (by norm_num)) h
  · rename_i hbig
    exact key _ (lt_of_lt_of_le (by norm_num) (not_lt.1 hbig)) h2 h

theorem bpLoop_early (solve : Solver) (eps gapTol : Rat) (lb : Int) (maxNodes : Nat) (stop : Nat → Bool)
    (fuel : Nat) (st : BpSt) (s : String) :
    (bpLoop solve eps gapTol lb maxNodes stop fuel st).2 = some s →
      s = "OPTIMAL" ∧ ∃ p, (bpLoop solve eps gapTol lb maxNodes stop fuel st).1.best = some p ∧
        gapOk (rolls p) lb gapTol = true := by
  fun_induction bpLoop solve eps gapTol lb maxNodes stop fuel st
  -- the one `return`: a new incumbent that passes the gap test
  case case8 hgap => exact fun h => by cases h; exact ⟨rfl, _, rfl, hgap⟩
  -- the loop ends without a status
  case case1 | case2 | case3 | case5 => nofun
  -- the loop goes on
  case case4 ih | case6 ih | case7 ih | case9 ih | case10 ih | case11 ih => exact ih

/-- C17, the `solve_bp` status rule, for EVERY node solver (whatever `_solve_node_lp` returns). -/
structure BpRule (solve : Solver) (cols0 : List Pat) (eps gapTol : Rat) (o : BpOut) : Prop where
  status    : o.status = "OPTIMAL" ∨ o.status = "FEASIBLE" ∨ o.status = "INFEASIBLE"
  usable    : (o.status = "OPTIMAL" ∨ o.status = "FEASIBLE") →
    ∃ p q, o.plan = some p ∧ o.total = rolls p ∧ (solve cols0 []).obj = some q
  optimal   : o.status = "OPTIMAL" → (o.rootIntegral = true ∧ o.rootConverged = true) ∨
    (o.rootIntegral = false ∧ gapOk o.total o.lb gapTol = true)
  rootObj   : o.rootObj = (solve cols0 []).obj
  rootDuals : o.rootDuals = (solve cols0 []).duals
  lb        : ∀ q, (solve cols0 []).obj = some q → o.lb = if o.rootConverged then (q - eps).ceil else 0

theorem eq_of_some {α β : Type} {r : Option α} {a : α} (h : r = some a) (f : α → β) :
    ∀ q, r = some q → f a = f q := fun q hq => by cases h.symm.trans hq; rfl

theorem bpRun_rule (solve : Solver) (cols0 : List Pat) (d : List Nat) (eps gapTol : Rat) (maxIter maxNodes : Nat)
    (stop : Nat → Bool) : BpRule solve cols0 eps gapTol (bpRun solve cols0 d eps gapTol maxIter maxNodes stop) := by
  fun_cases bpRun solve cols0 d eps gapTol maxIter maxNodes stop
  -- the root LP is infeasible
  case case1 hroot =>
    exact { status := .inr (.inr rfl), usable := by simp, optimal := by simp, rootObj := hroot.symm, rootDuals := rfl,
            lb := by simp }
  -- the root LP is integral
  case case2 obj hroot conv lb _ plan =>
    exact { status := by cases conv <;> simp, usable := fun _ => ⟨_, obj, rfl, rfl, hroot⟩, optimal := by cases conv <;> simp,
            rootObj := hroot.symm, rootDuals := rfl, lb := eq_of_some hroot fun q => if conv then (q - eps).ceil else 0 }
  -- the tree search returns early
  case case3 obj hroot conv lb _ _ _ st s hloop =>
    have := bpLoop_early solve eps gapTol lb maxNodes stop _ _ s (by rw [hloop])
    rw [hloop] at this
    obtain ⟨rfl, p, hp, hg⟩ := this
    have ht : (st.best.map rolls).getD 0 = rolls p := by rw [show st.best = some p from hp]; rfl
    exact { status := .inl rfl, usable := fun _ => ⟨p, obj, hp, ht, hroot⟩, optimal := fun _ => .inr ⟨rfl, ht ▸ hg⟩,
            rootObj := hroot.symm, rootDuals := rfl, lb := eq_of_some hroot fun q => if conv then (q - eps).ceil else 0 }
  -- the tree search ends without an incumbent
  case case4 obj hroot conv lb _ _ _ st hb hloop =>
    exact { status := .inr (.inr rfl), usable := by simp, optimal := by simp, rootObj := hroot.symm, rootDuals := rfl,
            lb := eq_of_some hroot fun q => if conv then (q - eps).ceil else 0 }
  -- the tree search ends with the incumbent `p`
  case case5 obj hroot conv lb _ _ _ st p hb hloop =>
    exact { status := by by_cases hg : gapOk (rolls p) lb gapTol = true <;> simp [hg],
            usable := fun _ => ⟨p, obj, rfl, rfl, hroot⟩,
            optimal := fun h => .inr ⟨rfl, by by_contra hg; simp [hg] at h⟩,
            rootObj := hroot.symm, rootDuals := rfl, lb := eq_of_some hroot fun q => if conv then (q - eps).ceil else 0 }

theorem boundsDict_nil : boundsDict [] = [] := by simp [boundsDict]

theorem boundedCore_nil (cols : List Pat) (d : List Nat) (eps : Rat) :
    boundedCore cols d [] eps = masterCore cols d eps := by
  unfold boundedCore masterCore
  simp only [boundsDict_nil, List.filter_nil, List.length_nil, List.range_zero, List.map_nil, List.append_nil,
    Nat.add_zero, List.replicate_zero]
  rw [Nat.add_assoc, ← Nat.two_mul]

theorem boundedMasterLP_nil (cols : List Pat) (d : List Nat) (eps : Rat) :
    boundedMasterLP cols d [] eps = masterLP cols d eps := by
  unfold boundedMasterLP masterLP
  simp only [boundsDict_nil, List.filter_nil, List.length_nil, Nat.add_zero, boundedCore_nil]
  rw [Nat.add_assoc, ← Nat.two_mul]
  rfl

theorem nodeLP_root_value {pr : Pricer} {d : List Nat} {eps : Rat} {maxIter : Nat} {cols0 : List Pat} {q : Rat}
    (h : (nodeLP pr d eps maxIter cols0 []).obj = some q) :
    q = dotQ (nodeLP pr d eps maxIter cols0 []).duals d := by
  unfold nodeLP at h ⊢
  dsimp only at h ⊢
  split
  · rename_i hinf; rw [if_pos hinf] at h; cases h
  · rename_i hinf
    rw [if_neg hinf] at h
    dsimp only at h ⊢
    rw [boundedMasterLP_nil] at h ⊢
    exact masterLP_value_eq_dual h

end Solvor.Cut.Mirror
