import Solvor.Cut.Model
import Solvor.Common.ListLemmas
/-! Cut: lemmas for the exact optimum (`search` over residual demands, `enumPats`) and for the plans it speaks of. -/
namespace Solvor.Cut

theorem getD_eq_of_lt (l : List Nat) (i : Nat) (h : i < l.length) (a b : Nat) : l.getD i a = l.getD i b :=
  (getD_of_lt h a).trans (getD_of_lt h b).symm

theorem subv_getD (d p : List Nat) (i : Nat) :
    (subv d p).getD i 0 = d.getD i 0 - p.getD i 0 := by
  induction d generalizing p i with
  | nil => cases p <;> exact (Nat.zero_sub _).symm
  | cons a t ih =>
    cases p with
    | nil => rfl
    | cons b q =>
      cases i with
      | zero => rfl
      | succ j => exact ih q j

theorem isZero_iff (e : List Nat) : isZero e = true ↔ ∀ i, e.getD i 0 = 0 := by
  induction e with
  | nil => simp [isZero]
  | cons a t ih =>
    have h : isZero (a :: t) = (a == 0 && isZero t) := rfl
    rw [h]
    simp only [Bool.and_eq_true, beq_iff_eq, ih]
    constructor
    · rintro ⟨h0, ht⟩ i
      cases i with
      | zero => simpa using h0
      | succ j => simpa using ht j
    · intro h
      exact ⟨by simpa using h 0, fun i => by simpa using h (i + 1)⟩

theorem produced_cons (pc : Pat × Nat) (t : Plan) (i : Nat) :
    produced (pc :: t) i = pc.1.getD i 0 * pc.2 + produced t i := rfl

theorem rolls_cons (pc : Pat × Nat) (t : Plan) : rolls (pc :: t) = pc.2 + rolls t := rfl

/-- Pieces of type `i` in a list of patterns (one roll each). -/
def total (ps : List Pat) (i : Nat) : Nat := (ps.map fun p => p.getD i 0).sum

theorem total_cons (p : Pat) (ps : List Pat) (i : Nat) :
    total (p :: ps) i = p.getD i 0 + total ps i := rfl

theorem total_append (a b : List Pat) (i : Nat) : total (a ++ b) i = total a i + total b i := by
  simp only [total, List.map_append, List.sum_append]

theorem foldl_subv_getD (ps : List Pat) (d : List Nat) (i : Nat) :
    (ps.foldl subv d).getD i 0 = d.getD i 0 - total ps i := by
  induction ps generalizing d with
  | nil => rfl
  | cons p ps ih =>
    rw [List.foldl_cons, ih, subv_getD, total_cons, Nat.sub_sub]

/-- `k` columns of `pats` (with repetition) cover the demand vector `d`. -/
def Cov (pats : List Pat) (d : List Nat) (k : Nat) : Prop :=
  ∃ ps : List Pat, ps.length = k ∧ (∀ p ∈ ps, p ∈ pats) ∧ isZero (ps.foldl subv d) = true

theorem isZero_foldl_iff (ps : List Pat) (d : List Nat) :
    isZero (ps.foldl subv d) = true ↔ ∀ i, d.getD i 0 ≤ total ps i := by
  rw [isZero_iff]
  constructor
  · intro h i; have := h i; rw [foldl_subv_getD] at this; omega
  · intro h i; rw [foldl_subv_getD]; have := h i; omega

theorem mem_dedupAdj (l : List (List Nat)) (x : List Nat) : x ∈ dedupAdj l ↔ x ∈ l := by
  fun_induction dedupAdj l with
  | case1 a b t h ih =>
    have hab : a = b := by simpa using h
    subst hab
    rw [ih]; simp
  | case2 a b t h ih =>
    simp only [List.mem_cons] at ih ⊢
    rw [ih]
  | case3 l h => rfl

theorem mem_stepLevel (pats : List Pat) (F : List (List Nat)) (x : List Nat) :
    x ∈ stepLevel pats F ↔ ∃ e ∈ F, ∃ p ∈ pats, x = subv e p := by
  unfold stepLevel
  rw [mem_dedupAdj, (List.mergeSort_perm _ _).mem_iff]
  simp only [List.mem_flatMap, List.mem_map, eq_comm (a := x)]

/-- `F` is exactly the set of residual demands after `k` rolls. -/
def Level (pats : List Pat) (d : List Nat) (k : Nat) (F : List (List Nat)) : Prop :=
  ∀ e, e ∈ F ↔ ∃ ps : List Pat, ps.length = k ∧ (∀ p ∈ ps, p ∈ pats) ∧ e = ps.foldl subv d

theorem level_zero (pats : List Pat) (d : List Nat) : Level pats d 0 [d] := by
  intro e
  constructor
  · intro h
    have : e = d := by simpa using h
    exact ⟨[], rfl, by simp, by simp [this]⟩
  · rintro ⟨ps, hl, -, rfl⟩
    have : ps = [] := List.length_eq_zero_iff.1 hl
    subst this; simp

theorem level_succ {pats : List Pat} {d : List Nat} {k : Nat} {F : List (List Nat)}
    (h : Level pats d k F) : Level pats d (k + 1) (stepLevel pats F) := by
  intro x
  rw [mem_stepLevel]
  constructor
  · rintro ⟨e, he, p, hp, rfl⟩
    obtain ⟨ps, hl, hps, rfl⟩ := (h e).1 he
    refine ⟨ps ++ [p], by simp [hl], ?_, by simp [List.foldl_append]⟩
    intro q hq
    rcases List.mem_append.1 hq with hq | hq
    · exact hps q hq
    · have : q = p := by simpa using hq
      exact this ▸ hp
  · rintro ⟨ps, hl, hps, rfl⟩
    have hne : ps ≠ [] := by intro h0; subst h0; simp at hl
    obtain ⟨qs, p, rfl⟩ : ∃ qs p, ps = qs ++ [p] :=
      ⟨ps.dropLast, ps.getLast hne, (List.dropLast_concat_getLast hne).symm⟩
    have hl' : qs.length = k := by simpa using hl
    refine ⟨qs.foldl subv d, (h _).2 ⟨qs, hl', fun q hq => hps q (List.mem_append_left _ hq), rfl⟩,
      p, hps p (by simp), by simp [List.foldl_append]⟩

theorem level_any_zero {pats : List Pat} {d : List Nat} {k : Nat} {F : List (List Nat)}
    (h : Level pats d k F) : F.any isZero = true ↔ Cov pats d k := by
  rw [List.any_eq_true]
  constructor
  · rintro ⟨e, he, hz⟩
    obtain ⟨ps, hl, hps, rfl⟩ := (h e).1 he
    exact ⟨ps, hl, hps, hz⟩
  · rintro ⟨ps, hl, hps, hz⟩
    exact ⟨_, (h _).2 ⟨ps, hl, hps, rfl⟩, hz⟩

theorem not_cov_succ {pats : List Pat} {d : List Nat} {k : Nat} {F : List (List Nat)} (hL : Level pats d k F)
    (hz : ¬ F.any isZero = true) (hlt : ∀ j, j < k → ¬ Cov pats d j) : ∀ j, j < k + 1 → ¬ Cov pats d j := by
  intro j hj
  rcases Nat.lt_succ_iff_lt_or_eq.1 hj with h | rfl
  · exact hlt j h
  · exact fun hc => hz ((level_any_zero hL).2 hc)

theorem search_spec (pats : List Pat) (d : List Nat) (fuel k : Nat) (F : List (List Nat)) :
    Level pats d k F → (∀ j, j < k → ¬ Cov pats d j) →
      match search pats fuel k F with
      | some r => Cov pats d r ∧ ∀ j, j < r → ¬ Cov pats d j
      | none => ∀ j, j ≤ k + fuel → ¬ Cov pats d j := by
  fun_induction search pats fuel k F with
  -- case1, case3: the level holds the zero vector; case2: fuel spent; case4: next level
  | case1 k F hz | case3 fuel k F hz => exact fun hL hlt => ⟨(level_any_zero hL).1 hz, hlt⟩
  | case2 k F hz => exact fun hL hlt j hj => not_cov_succ hL hz hlt j (Nat.lt_succ_of_le hj)
  | case4 fuel k F hz ih =>
    intro hL hlt
    have := ih (level_succ hL) (not_cov_succ hL hz hlt)
    split at this
    · exact this
    · exact fun j hj => this j (by omega)

def expand (plan : Plan) : List Pat := plan.flatMap fun pc => List.replicate pc.2 pc.1

theorem expand_cons (pc : Pat × Nat) (t : Plan) : expand (pc :: t) = List.replicate pc.2 pc.1 ++ expand t :=
  List.flatMap_cons

theorem expand_length (plan : Plan) : (expand plan).length = rolls plan := by
  induction plan with
  | nil => rfl
  | cons pc t ih => rw [expand_cons, List.length_append, ih, List.length_replicate, rolls_cons]

theorem total_replicate (c : Nat) (p : Pat) (i : Nat) :
    total (List.replicate c p) i = p.getD i 0 * c := by
  rw [total, List.map_replicate, List.sum_replicate_nat, Nat.mul_comm]

theorem total_expand (plan : Plan) (i : Nat) : total (expand plan) i = produced plan i := by
  induction plan with
  | nil => rfl
  | cons pc t ih => rw [expand_cons, total_append, ih, total_replicate, produced_cons]

theorem mem_expand {plan : Plan} {p : Pat} (h : p ∈ expand plan) : ∃ pc ∈ plan, pc.1 = p := by
  unfold expand at h
  obtain ⟨pc, hpc, hp⟩ := List.mem_flatMap.1 h
  exact ⟨pc, hpc, (List.eq_of_mem_replicate hp).symm⟩

def unitPlan (ps : List Pat) : Plan := ps.map fun p => (p, 1)

theorem rolls_unitPlan (ps : List Pat) : rolls (unitPlan ps) = ps.length := by
  induction ps with
  | nil => rfl
  | cons p t ih => rw [unitPlan, List.map_cons, rolls_cons, ← unitPlan, ih, List.length_cons, Nat.add_comm]

theorem produced_unitPlan (ps : List Pat) (i : Nat) : produced (unitPlan ps) i = total ps i := by
  induction ps with
  | nil => rfl
  | cons p t ih => rw [unitPlan, List.map_cons, produced_cons, ← unitPlan, ih, total_cons, Nat.mul_one]

/-- Domination transfers coverage: if each `p` is replaced by some `q` with
`min pᵢ dᵢ ≤ qᵢ`, a demand `dᵢ` that was met stays met. -/
theorem exists_dominating {Feas : Pat → Prop} {pats : List Pat} {d : List Nat}
    (hd : ∀ p, Feas p → ∃ q ∈ pats, ∀ i, min (p.getD i 0) (d.getD i 0) ≤ q.getD i 0) :
    ∀ ps : List Pat, (∀ p ∈ ps, Feas p) →
      ∃ qs : List Pat, qs.length = ps.length ∧ (∀ q ∈ qs, q ∈ pats) ∧
        ∀ i, min (d.getD i 0) (total ps i) ≤ total qs i := by
  have min_add_le : ∀ a b c : Nat, min a (b + c) ≤ min b a + min a c := fun a b c => by
    rcases Nat.le_total a b with h | h
    · rw [Nat.min_eq_right h]; exact Nat.le_trans (Nat.min_le_left _ _) (Nat.le_add_right _ _)
    · rw [Nat.min_eq_left h]
      rcases Nat.le_total a c with h' | h'
      · rw [Nat.min_eq_left h']; exact Nat.le_trans (Nat.min_le_left _ _) (Nat.le_add_left _ _)
      · rw [Nat.min_eq_right h']; exact Nat.min_le_right _ _
  intro ps
  induction ps with
  | nil => intro _; exact ⟨[], rfl, by simp, fun _ => by simp [total]⟩
  | cons p t ih =>
    intro h
    obtain ⟨q, hq, hpq⟩ := hd p (h p (by simp))
    obtain ⟨qs, hl, hqs, hf⟩ := ih (fun p hp => h p (List.mem_cons_of_mem _ hp))
    refine ⟨q :: qs, by simp [hl], ?_, ?_⟩
    · intro x hx
      rcases List.mem_cons.1 hx with rfl | hx
      · exact hq
      · exact hqs x hx
    · intro i
      rw [total_cons, total_cons]
      exact Nat.le_trans (min_add_le ..) (Nat.add_le_add (hpq i) (hf i))

theorem cov_of_valid {Feas : Pat → Prop} {pats : List Pat} {d : List Nat}
    (hd : ∀ p, Feas p → ∃ q ∈ pats, ∀ i, min (p.getD i 0) (d.getD i 0) ≤ q.getD i 0)
    {plan : Plan} (hv : ValidPlan Feas d plan) : Cov pats d (rolls plan) := by
  obtain ⟨qs, hl, hqs, hf⟩ := exists_dominating hd (expand plan) (by
    intro p hp
    obtain ⟨pc, hpc, rfl⟩ := mem_expand hp
    exact hv.feas pc hpc)
  refine ⟨qs, by rw [hl, expand_length], hqs, ?_⟩
  rw [isZero_foldl_iff]
  intro i
  have h1 := hf i
  rw [total_expand] at h1
  by_cases hi : i < d.length
  · rwa [Nat.min_eq_left (hv.covers i hi)] at h1
  · rw [getD_of_ge (Nat.le_of_not_lt hi)]
    exact Nat.zero_le _

theorem valid_of_cov {Feas : Pat → Prop} {pats : List Pat} {d : List Nat}
    (hs : ∀ q ∈ pats, Feas q) {k : Nat} (h : Cov pats d k) :
    ∃ plan, ValidPlan Feas d plan ∧ rolls plan = k := by
  obtain ⟨ps, hl, hps, hz⟩ := h
  refine ⟨unitPlan ps, ⟨?_, ?_⟩, by rw [rolls_unitPlan, hl]⟩
  · intro pc hpc
    obtain ⟨p, hp, rfl⟩ := List.mem_map.1 hpc
    exact hs p (hps p hp)
  · intro i _
    rw [produced_unitPlan]
    exact (isZero_foldl_iff ps d).1 hz i

theorem dotN_nil_right (s : List Nat) : dotN s [] = 0 := by cases s <;> rfl

theorem dotN_zeros (l : List Nat) (n : Nat) : dotN l (List.replicate n 0) = 0 := by
  induction l generalizing n with
  | nil => rfl
  | cons a t ih => cases n <;> simp [List.replicate_succ, dotN, ih]

theorem enumPats_sound : ∀ (sizes : List Nat) (W : Nat) (caps : List Nat) (q : Pat),
    q ∈ enumPats W sizes caps → Fits W sizes q := by
  intro sizes
  induction sizes with
  | nil =>
    intro W caps q hq
    obtain rfl : q = [] := List.mem_singleton.1 hq
    exact ⟨rfl, Nat.zero_le _⟩
  | cons s ss ih =>
    intro W caps q hq
    cases ss with
    | nil =>
      obtain rfl : q = [min (caps.headD 0) (W / s)] := List.mem_singleton.1 hq
      exact ⟨rfl, Nat.le_trans (Nat.mul_le_mul_left _ (Nat.min_le_right _ _)) (Nat.mul_div_le W s)⟩
    | cons s' ss' =>
      unfold enumPats at hq
      obtain ⟨c, _, hc⟩ := List.mem_flatMap.1 hq
      split at hc
      · rename_i hle
        obtain ⟨q', hq', rfl⟩ := List.mem_map.1 hc
        obtain ⟨hl, hw⟩ := ih (W - s * c) caps.tail q' hq'
        exact ⟨congrArg Nat.succ hl, Nat.add_le_of_le_sub' hle hw⟩
      · cases hc

theorem enumPats_dom : ∀ (sizes : List Nat) (W : Nat) (caps : List Nat) (p : Pat),
    (∀ s ∈ sizes, 0 < s) → Fits W sizes p →
    ∃ q ∈ enumPats W sizes caps, ∀ i, min (p.getD i 0) (caps.getD i 0) ≤ q.getD i 0 := by
  intro sizes
  induction sizes with
  | nil =>
    intro W caps p _ hp
    have : p = [] := List.length_eq_zero_iff.1 hp.1
    subst this
    exact ⟨[], by simp [enumPats], by simp⟩
  | cons s ss ih =>
    intro W caps p hpos hp
    have hs : 0 < s := hpos s (by simp)
    obtain ⟨hl, hw⟩ := hp
    cases p with
    | nil => simp at hl
    | cons c cs =>
      have h3 : caps.getD 0 0 = caps.headD 0 := by cases caps <;> rfl
      cases ss with
      | nil =>
        have hcs : cs = [] := List.length_eq_zero_iff.1 (Nat.succ.inj hl)
        subst hcs
        refine ⟨[min (caps.headD 0) (W / s)], List.mem_singleton.2 rfl, fun i => ?_⟩
        cases i with
        | zero =>
          have h2 : c ≤ W / s := (Nat.le_div_iff_mul_le hs).2 (Nat.mul_comm s c ▸ hw)
          rw [List.getD_cons_zero, h3]
          exact Nat.le_min.2 ⟨Nat.min_le_right _ _, Nat.le_trans (Nat.min_le_left _ _) h2⟩
        | succ j => exact Nat.le_of_eq (Nat.zero_min _)
      | cons s' ss' =>
        have hw' : s * c + dotN (s' :: ss') cs ≤ W := hw
        let c0 := min c (caps.headD 0)
        have hc0 : s * c0 ≤ s * c := Nat.mul_le_mul_left _ (Nat.min_le_left _ _)
        obtain ⟨q', hq', hdom⟩ := ih (W - s * c0) caps.tail cs
          (fun x hx => hpos x (List.mem_cons_of_mem _ hx)) ⟨Nat.succ.inj hl, by omega⟩
        refine ⟨c0 :: q', ?_, fun i => ?_⟩
        · unfold enumPats
          refine List.mem_flatMap.2 ⟨c0, List.mem_range.2 (Nat.lt_succ_of_le (Nat.min_le_right _ _)), ?_⟩
          rw [if_pos (Nat.le_trans hc0 (Nat.le_trans (Nat.le_add_right _ _) hw'))]
          exact List.mem_map.2 ⟨q', hq', rfl⟩
        · cases i with
          | zero => rw [List.getD_cons_zero, h3]; exact Nat.le_refl _
          | succ j =>
            have h4 : caps.getD (j + 1) 0 = caps.tail.getD j 0 := by cases caps <;> rfl
            rw [List.getD_cons_succ, h4]
            exact hdom j

def consPlan (plan : Plan) : Plan := plan.map fun pc => (0 :: pc.1, pc.2)

theorem consPlan_spec (plan : Plan) : produced (consPlan plan) 0 = 0 ∧
    (∀ i, produced (consPlan plan) (i + 1) = produced plan i) ∧ rolls (consPlan plan) = rolls plan := by
  induction plan with
  | nil => exact ⟨rfl, fun _ => rfl, rfl⟩
  | cons pc t ih =>
    obtain ⟨h0, hs, hr⟩ := ih
    rw [consPlan, List.map_cons, ← consPlan, produced_cons, h0, rolls_cons, hr]
    exact ⟨Nat.zero_mul _, fun i => by rw [produced_cons, hs i]; rfl, rfl⟩

theorem singles_plan (W : Nat) : ∀ (sizes d : List Nat), d.length = sizes.length →
    (∀ s ∈ sizes, s ≤ W) → ∃ plan, ValidPlan (Fits W sizes) d plan ∧ rolls plan = d.sum := by
  intro sizes
  induction sizes with
  | nil =>
    intro d hl _
    rw [List.length_eq_zero_iff.1 hl]
    exact ⟨[], ⟨nofun, nofun⟩, rfl⟩
  | cons s ss ih =>
    intro d hl hW
    cases d with
    | nil => cases hl
    | cons d0 ds =>
      obtain ⟨plan', hv, hr⟩ := ih ds (Nat.succ.inj hl) (fun x hx => hW x (List.mem_cons_of_mem _ hx))
      obtain ⟨hc0, hcs, hcr⟩ := consPlan_spec plan'
      -- `d0` rolls with one piece of the first type each, then the plan for the other types
      refine ⟨((1 :: List.replicate ss.length 0 : Pat), d0) :: consPlan plan', ⟨?_, ?_⟩, ?_⟩
      · intro pc hpc
        rcases List.mem_cons.1 hpc with rfl | h
        · refine ⟨by rw [List.length_cons, List.length_replicate, List.length_cons], ?_⟩
          rw [dotN, dotN_zeros, Nat.mul_one]
          exact hW s List.mem_cons_self
        · obtain ⟨pc', hpc', rfl⟩ := List.mem_map.1 h
          obtain ⟨h1, h2⟩ := hv.feas pc' hpc'
          exact ⟨congrArg Nat.succ h1, by rw [dotN, Nat.mul_zero, Nat.zero_add]; exact h2⟩
      · intro i hi
        rw [produced_cons]
        cases i with
        | zero => rw [hc0]; exact Nat.le_of_eq (Nat.one_mul d0).symm
        | succ j =>
          rw [hcs]
          exact Nat.le_trans (hv.covers j (Nat.lt_of_succ_lt_succ hi)) (Nat.le_add_left _ _)
      · rw [rolls_cons, hcr, hr]; rfl

end Solvor.Cut
