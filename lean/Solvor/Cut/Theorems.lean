import Solvor.Cut.MirrorBpLemmas
/-! Cut: the property theorems of C17. -/
namespace Solvor.Cut

theorem fitsB_iff (W : Nat) (sizes : List Nat) (p : Pat) : fitsB W sizes p = true ↔ Fits W sizes p := by
  simp [fitsB, Fits]

theorem inColsB_iff (cols : List Pat) (p : Pat) : inColsB cols p = true ↔ InCols cols p := by
  simp [inColsB, InCols]

/-- C17 T-spec: the Boolean checker the driver evaluates on the implementation's plan and objective. -/
theorem plan_checker {Feas : Pat → Prop} {feasB : Pat → Bool} (hB : ∀ p, feasB p = true ↔ Feas p)
    (d : List Nat) (plan : Plan) (obj : Nat) :
    checkPlan feasB d plan obj = true ↔ ValidPlan Feas d plan ∧ obj = rolls plan := by
  unfold checkPlan
  simp only [Bool.and_eq_true, List.all_eq_true, decide_eq_true_eq, List.mem_range, beq_iff_eq]
  constructor
  · rintro ⟨⟨h1, h2⟩, h3⟩
    exact ⟨⟨fun pc hpc => (hB _).1 (h1 pc hpc), h2⟩, h3⟩
  · rintro ⟨⟨h1, h2⟩, h3⟩
    exact ⟨⟨fun pc hpc => (hB _).2 (h1 pc hpc), h2⟩, h3⟩

theorem plan_checker_cs (W : Nat) (sizes d : List Nat) (plan : Plan) (obj : Nat) :
    checkPlan (fitsB W sizes) d plan obj = true ↔ ValidPlan (Fits W sizes) d plan ∧ obj = rolls plan :=
  plan_checker (fitsB_iff W sizes) d plan obj

theorem plan_checker_cols (cols : List Pat) (d : List Nat) (plan : Plan) (obj : Nat) :
    checkPlan (inColsB cols) d plan obj = true ↔ ValidPlan (InCols cols) d plan ∧ obj = rolls plan :=
  plan_checker (inColsB_iff cols) d plan obj

theorem witness_plan : ValidPlan (Fits 7 [2, 1]) [1, 4] [([1, 4], 1)] :=
  ((plan_checker_cs 7 [2, 1] [1, 4] [([1, 4], 1)] 1).1 (by decide)).1

-- non-vacuity: the 1-roll plan for width 7, sizes [2,1], demands [1,4] is accepted, the
-- 2-roll plan `solve_bp` returned before its OPTIMAL claim was repaired is accepted with objective 2 and
-- rejected with objective 1
example : checkPlan (fitsB 7 [2, 1]) [1, 4] [([1, 4], 1)] 1 = true := by decide
example : checkPlan (fitsB 7 [2, 1]) [1, 4] [([3, 0], 1), ([0, 7], 1)] 2 = true := by decide
example : checkPlan (fitsB 7 [2, 1]) [1, 4] [([3, 0], 1), ([0, 7], 1)] 1 = false := by decide
example : checkPlan (fitsB 7 [2, 1]) [1, 4] [([3, 0], 1)] 1 = false := by decide

/-- C17 T-model.  `hd`: the list need only dominate every admissible pattern after capping it at the demands, which is
what `enumPats` provides. -/
theorem minRolls_correct (Feas : Pat → Prop) (pats : List Pat) (d : List Nat) (fuel : Nat)
    (hs : ∀ q ∈ pats, Feas q)
    (hd : ∀ p, Feas p → ∃ q ∈ pats, ∀ i, min (p.getD i 0) (d.getD i 0) ≤ q.getD i 0) :
    (∀ k, minRolls pats d fuel = some k → IsMinRolls Feas d k) ∧
    (minRolls pats d fuel = none → ∀ plan, ValidPlan Feas d plan → fuel < rolls plan) := by
  have h := search_spec pats d fuel 0 [d] (level_zero pats d) (by omega)
  constructor
  · intro k hk
    rw [show search pats fuel 0 [d] = some k from hk] at h
    obtain ⟨hc, hmin⟩ := h
    refine ⟨valid_of_cov hs hc, fun plan hv => ?_⟩
    rcases Nat.lt_or_ge (rolls plan) k with h | h
    · exact absurd (cov_of_valid hd hv) (hmin _ h)
    · exact h
  · intro hn plan hv
    rw [show search pats fuel 0 [d] = none from hn] at h
    rcases Nat.lt_or_ge fuel (rolls plan) with h' | h'
    · exact h'
    · exact absurd (cov_of_valid hd hv) (h _ (by omega))

/-- C17: the oracle `csOpt`, with which the driver compares what `solve_cg` / `solve_bp` claim, is the true minimum. -/
theorem cs_optimum_correct (W : Nat) (sizes d : List Nat) (hpos : ∀ s ∈ sizes, 0 < s) :
    (∀ k, csOpt W sizes d = some k → IsMinRolls (Fits W sizes) d k) ∧
    (csOpt W sizes d = none → ∀ plan, ValidPlan (Fits W sizes) d plan → d.sum < rolls plan) :=
  minRolls_correct (Fits W sizes) (enumPats W sizes d) d d.sum
    (enumPats_sound sizes W d)
    (fun p hp => enumPats_dom sizes W d p hpos hp)

theorem cols_optimum_correct (cols : List Pat) (d : List Nat) (fuel : Nat) :
    (∀ k, minRolls cols d fuel = some k → IsMinRolls (InCols cols) d k) ∧
    (minRolls cols d fuel = none → ∀ plan, ValidPlan (InCols cols) d plan → fuel < rolls plan) :=
  minRolls_correct (InCols cols) cols d fuel (fun _ hq => hq)
    (fun p hp => ⟨p, hp, fun _ => Nat.min_le_left _ _⟩)

/-- C17: on every instance `_solve_cutting_stock` accepts (equal lengths, positive sizes not exceeding the width) the oracle
answers. -/
theorem cs_optimum_exists (W : Nat) (sizes d : List Nat) (hl : d.length = sizes.length)
    (hpos : ∀ s ∈ sizes, 0 < s) (hW : ∀ s ∈ sizes, s ≤ W) :
    ∃ k, csOpt W sizes d = some k ∧ IsMinRolls (Fits W sizes) d k := by
  obtain ⟨hsome, hnone⟩ := cs_optimum_correct W sizes d hpos
  cases h : csOpt W sizes d with
  | some k => exact ⟨k, rfl, hsome k h⟩
  | none =>
    obtain ⟨plan, hv, hr⟩ := singles_plan W sizes d hl hW
    have := hnone h plan hv
    omega

-- non-vacuity: on the instance where `solve_bp` answered 2 rolls / OPTIMAL before the repair (width 7,
-- sizes [2,1], demands [1,4]) the hypotheses hold, `csOpt` returns a value and that value is at most 1
example : ∃ k, csOpt 7 [2, 1] [1, 4] = some k ∧ IsMinRolls (Fits 7 [2, 1]) [1, 4] k ∧ k ≤ 1 := by
  obtain ⟨k, hk, hmin⟩ := cs_optimum_exists 7 [2, 1] [1, 4] rfl (by decide) (by decide)
  refine ⟨k, hk, hmin, ?_⟩
  exact hmin.2 _ witness_plan

example : ValidPlan (InCols [[2, 0], [0, 2], [1, 1]]) [3, 3] [([1, 1], 3)] :=
  ((plan_checker_cols [[2, 0], [0, 2], [1, 1]] [3, 3] [([1, 1], 3)] 3).1 (by decide)).1

theorem dualFeasible_iff (W : Nat) (sizes : List Nat) (y : List Rat) (hpos : ∀ s ∈ sizes, 0 < s) :
    dualFeasible W sizes y = true ↔
      y.length = sizes.length ∧ (∀ q ∈ y, 0 ≤ q) ∧ ∀ p, Fits W sizes p → dotQ y p ≤ 1 := by
  unfold dualFeasible knapMax
  simp only [Bool.and_eq_true, beq_iff_eq, List.all_eq_true, decide_eq_true_eq]
  constructor
  · rintro ⟨⟨hl, hy⟩, hk⟩
    exact ⟨hl, hy, fun p hp => le_trans ((knapRow_max W sizes y hl.symm hpos W (le_refl _)).1 p hp.1 hp.2) hk⟩
  · rintro ⟨hl, hy, hp⟩
    obtain ⟨p, hpl, hpw, he⟩ := (knapRow_max W sizes y hl.symm hpos W (le_refl _)).2
    exact ⟨⟨hl, hy⟩, he ▸ hp p ⟨hpl, hpw⟩⟩

/-- C17 T-model: the lower-bound argument of `solve_cg`; that `y` prices ALL patterns that fit at most 1 is decided by the
knapsack DP `dualFeasible`. -/
theorem dual_bound (W : Nat) (sizes d : List Nat) (y : List Rat) (plan : Plan)
    (hpos : ∀ s ∈ sizes, 0 < s) (hy : dualFeasible W sizes y = true)
    (hv : ValidPlan (Fits W sizes) d plan) : dualBound y d ≤ (rolls plan : Int) := by
  obtain ⟨_, hy0, hf⟩ := (dualFeasible_iff W sizes y hpos).1 hy
  exact dual_bound_core hy0 hf hv

-- non-vacuity: for width 7, sizes [2,1] the vector y = (2/7, 1/7) is dual feasible (checked by
-- the DP), (1/2, 1/7) is not (pattern (3,1) is priced 23/14), and y certifies ⌈6/7⌉ = 1 roll
-- for demands [1,4]: every valid plan uses at least one roll
theorem witness_dual : dualFeasible 7 [2, 1] [2/7, 1/7] = true ∧ dualBound [2/7, 1/7] [1, 4] = 1 := by
  decide +kernel
example : dualFeasible 7 [2, 1] [2/7, 1/7] = true := witness_dual.1
example : dualFeasible 7 [2, 1] [1/2, 1/7] = false := by decide +kernel
example : dualBound [2/7, 1/7] [1, 4] = 1 := witness_dual.2
example (plan : Plan) (hv : ValidPlan (Fits 7 [2, 1]) [1, 4] plan) : (1 : Int) ≤ rolls plan := by
  have h := dual_bound 7 [2, 1] [1, 4] [2/7, 1/7] plan (by decide) witness_dual.1 hv
  rwa [witness_dual.2] at h

theorem dual_bound_le_opt (W : Nat) (sizes d : List Nat) (y : List Rat) (k : Nat)
    (hpos : ∀ s ∈ sizes, 0 < s) (hy : dualFeasible W sizes y = true)
    (hk : IsMinRolls (Fits W sizes) d k) : dualBound y d ≤ (k : Int) := by
  obtain ⟨⟨plan, hv, rfl⟩, _⟩ := hk
  exact dual_bound W sizes d y plan hpos hy hv

theorem dual_bound_cols (cols : List Pat) (d : List Nat) (y : List Rat) (plan : Plan)
    (hy : dualFeasibleCols cols y = true) (hv : ValidPlan (InCols cols) d plan) :
    dualBound y d ≤ (rolls plan : Int) := by
  unfold dualFeasibleCols at hy
  simp only [Bool.and_eq_true, List.all_eq_true, decide_eq_true_eq] at hy
  exact dual_bound_core (Feas := InCols cols) hy.1 hy.2 hv

theorem isMinRolls_of_bound {Feas : Pat → Prop} {d : List Nat} {plan : Plan} {lb : Int}
    (hv : ValidPlan Feas d plan) (hb : (rolls plan : Int) ≤ lb)
    (hlb : ∀ plan', ValidPlan Feas d plan' → lb ≤ (rolls plan' : Int)) : IsMinRolls Feas d (rolls plan) :=
  ⟨⟨plan, hv, rfl⟩, fun plan' hv' => by exact_mod_cast le_trans hb (hlb plan' hv')⟩

/-- The status rule of `solve_cg` (and of the repaired `solve_bp`) is sound. -/
theorem optimal_claim_sound (W : Nat) (sizes d : List Nat) (y : List Rat) (plan : Plan)
    (hpos : ∀ s ∈ sizes, 0 < s) (hy : dualFeasible W sizes y = true)
    (hv : ValidPlan (Fits W sizes) d plan)
    (hc : claimsOptimal true (rolls plan) (dualBound y d) = true) :
    IsMinRolls (Fits W sizes) d (rolls plan) :=
  isMinRolls_of_bound hv (by simpa [claimsOptimal] using hc) fun plan' hv' => dual_bound W sizes d y plan' hpos hy hv'

-- non-vacuity: the 1-roll plan of the witness instance is certified minimal by y = (2/7, 1/7)
example : IsMinRolls (Fits 7 [2, 1]) [1, 4] (rolls [([1, 4], 1)]) :=
  optimal_claim_sound 7 [2, 1] [1, 4] [2/7, 1/7] [([1, 4], 1)] (by decide) witness_dual.1 witness_plan
    (by rw [witness_dual.2]; decide)

/-! ### T-model: the `solve_cg` mirror (Solvor/Cut/Mirror.lean), for all inputs

None of these needs the simplex to be *correct*: they hold whatever `x` and duals the LP mirror
returns.  Validity rests on the code's own round-up and "Demand not met" re-check and on the
pricing DP only ever producing patterns that fit; optimality rests on the exact identity
`LP value = duals · d` of the tableau (`Mirror.masterLP_value_eq_dual`) plus a *decidable* side
condition the driver evaluates on every input (`dualFeasible` of the duals the mirror returned). -/

open Mirror in
/-- C17: the `solve_cg` mirror in cutting-stock mode, all inputs. -/
theorem cg_mirror_valid (W : Nat) (sizes d : List Nat) (maxIter : Nat) (eps : Rat) (stop : Nat → Bool)
    (hpos : ∀ s ∈ sizes, 0 < s) :
    let o := cgCuttingStock W sizes d maxIter eps stop
    (o.status = "OPTIMAL" ∨ o.status = "FEASIBLE" ∨ o.status = "INFEASIBLE" ∨ o.status = "OverflowError") ∧
    o.total = rolls o.plan ∧ (∀ pc ∈ o.plan, Fits W sizes pc.1) ∧
    ((o.status = "OPTIMAL" ∨ o.status = "FEASIBLE") → checkPlan (fitsB W sizes) d o.plan o.total = true) := by
  intro o
  have hfit : ∀ pc ∈ o.plan, Fits W sizes pc.1 := by
    intro pc hpc
    have := roundUp_mem hpc
    exact csLoop_fit W sizes d eps stop hpos maxIter 0 _ (initPats_fit W sizes d) _ this
  refine ⟨finishStatus_cases .., rfl, hfit, ?_⟩
  intro hu
  exact (plan_checker_cs W sizes d o.plan o.total).2 ⟨⟨hfit, finishStatus_usable_covers hu⟩, rfl⟩

-- non-vacuity: the only hypothesis is positivity of the sizes
example := cg_mirror_valid 7 [2, 1] [1, 4] 1000 Solvor.Gen.Cut.cgEps (fun _ => false) (by decide)

open Mirror in
/-- For an arbitrary certificate `y` (the driver's scaled duals). -/
theorem cg_mirror_optimal_of_bound (W : Nat) (sizes d : List Nat) (maxIter : Nat) (eps : Rat) (y : List Rat)
    (stop : Nat → Bool) (hpos : ∀ s ∈ sizes, 0 < s) :
    let o := cgCuttingStock W sizes d maxIter eps stop
    dualFeasible W sizes y = true → (o.status = "OPTIMAL" ∨ o.status = "FEASIBLE") →
    (o.total : Int) ≤ dualBound y d → IsMinRolls (Fits W sizes) d o.total := by
  intro o hy hs hb
  obtain ⟨_, _, _, hchk⟩ := cg_mirror_valid W sizes d maxIter eps stop hpos
  exact isMinRolls_of_bound ((plan_checker_cs W sizes d o.plan o.total).1 (hchk hs)).1 hb
    fun plan' hv' => dual_bound W sizes d y plan' hpos hy hv'

open Mirror in
theorem finish_optimal_bound {cols : List Pat} {d : List Nat} {eps : Rat} {it : Nat} {conv verify : Bool}
    (heps : 0 ≤ eps) (hs : (finish cols d eps it conv verify).status = "OPTIMAL") :
    (rolls (finish cols d eps it conv verify).plan : Int) ≤ dualBound (finish cols d eps it conv verify).duals d := by
  obtain ⟨_, q, hq, hle⟩ := finishStatus_optimal hs
  rw [dualBound, finish_duals, ← masterLP_value_eq_dual hq]
  exact le_trans hle (ceil_sub_le_ceil q eps heps)

open Mirror in
/-- C17: `OPTIMAL` of the `solve_cg` mirror is a true minimum under one side condition, which is decidable and which the driver
evaluates on every input (`rawDualFeas`): the duals of the final LP pass `dualFeasible`, i.e. the verified
DP `knapRow` of Model.lean (`knapRow_max`), not the mirror's pricing DP. -/
theorem cg_mirror_optimal_of_duals (W : Nat) (sizes d : List Nat) (maxIter : Nat) (eps : Rat) (stop : Nat → Bool)
    (hpos : ∀ s ∈ sizes, 0 < s) (heps : 0 ≤ eps) :
    let o := cgCuttingStock W sizes d maxIter eps stop
    dualFeasible W sizes o.duals = true → o.status = "OPTIMAL" →
    IsMinRolls (Fits W sizes) d o.total := by
  intro o hy hs
  exact cg_mirror_optimal_of_bound W sizes d maxIter eps o.duals stop hpos hy (Or.inl hs)
    (finish_optimal_bound heps hs)

-- non-vacuity: width 2, one piece of size 1, demand 3 — the mirror answers 2 rolls OPTIMAL, its
-- duals (1/2) pass the knapsack DP, so the theorem applies and 2 is the true minimum
example : IsMinRolls (Fits 2 [1]) [3] 2 := by
  -- `decide +kernel` on `cgCuttingStock …` itself would run the pricing DP over its 201 `Array` cells, quadratic in the
  -- kernel; so the pricing value is evaluated apart, in list form (`knapPass_eq` …), `csLoop_exit` turns the run into
  -- `finish …`, and only that is evaluated whole
  have hp : (Mirror.knapsackPricing [1] 2 (Mirror.masterLP (Mirror.initPats 2 [1] [3]) [3] Solvor.Gen.Cut.cgEps).2.1
      Solvor.Gen.Cut.cgEps).2 ≤ 1 + Solvor.Gen.Cut.cgEps := by
    simp only [Mirror.knapsackPricing, Mirror.dpBest_eq, Mirror.dpFill_size, Mirror.dpInit_size]
    simp only [Mirror.dpFill, Mirror.knapPass_eq, Mirror.dpInit_eq]
    decide +kernel
  -- so the loop ends converged at its first step, with the initial pool
  have ho : Mirror.cgCuttingStock 2 [1] [3] 1000 Solvor.Gen.Cut.cgEps
      = Mirror.finish (Mirror.initPats 2 [1] [3]) [3] Solvor.Gen.Cut.cgEps 0 true true := by
    rw [Mirror.cgCuttingStock, Mirror.csLoop_exit 2 [1] [3] _ _ 999 0 _ rfl hp]
  have h : let o := Mirror.finish (Mirror.initPats 2 [1] [3]) [3] Solvor.Gen.Cut.cgEps 0 true true
      dualFeasible 2 [1] o.duals = true ∧ o.status = "OPTIMAL" ∧ o.total = 2 := by decide +kernel
  have := cg_mirror_optimal_of_duals 2 [1] [3] 1000 Solvor.Gen.Cut.cgEps (fun _ => false) (by decide) (by decide +kernel)
  rw [ho] at this
  have := this h.1 h.2.1
  rwa [h.2.2] at this

open Mirror in
/-- Custom mode (`_solve_custom` has no demand re-check): status, objective and admissibility hold
for all inputs; coverage is what the verified checker decides per input.  The harness always sends `init ⊆ cols` (props/C17.py
builds `cols` as `init` plus further columns), so `init ∨ cols` here, `InCols cols` in the optimality theorems and
`init ++ cols` below are one and the same set. -/
theorem cg_custom_mirror_valid_partial (cols init : List Pat) (d : List Nat) (maxIter : Nat) (eps : Rat)
    (stop : Nat → Bool) :
    let o := cgCustom cols init d maxIter eps stop
    (o.status = "OPTIMAL" ∨ o.status = "FEASIBLE" ∨ o.status = "INFEASIBLE" ∨ o.status = "OverflowError") ∧
    o.total = rolls o.plan ∧ (∀ pc ∈ o.plan, pc.1 ∈ init ∨ pc.1 ∈ cols) := by
  intro o
  refine ⟨finishStatus_cases o.plan d o.lpObj eps (customLoop cols d eps stop maxIter 0 init).2.2 false, rfl, ?_⟩
  intro pc hpc
  exact customLoop_mem cols d eps stop maxIter 0 init _ (roundUp_mem hpc)
-- FULL STATEMENT (not proved): additionally, a usable status implies
-- `checkPlan (inColsB (init ++ cols)) d o.plan o.total = true`.  That needs primal feasibility of
-- the LP mirror's `x` (the code has no re-check in custom mode), and the mirror's eliminations
-- skip factors below `eps`, so `x` is feasible only up to `eps`; decided per input by `checkPlan`.

open Mirror in
/-- Custom mode: the checker's verdict (decidable, per input) is a hypothesis here as well. -/
theorem cg_custom_mirror_optimal_of_duals (cols init : List Pat) (d : List Nat) (maxIter : Nat) (eps : Rat)
    (stop : Nat → Bool) (heps : 0 ≤ eps) :
    let o := cgCustom cols init d maxIter eps stop
    checkPlan (inColsB cols) d o.plan o.total = true → dualFeasibleCols cols o.duals = true →
    o.status = "OPTIMAL" → IsMinRolls (InCols cols) d o.total := by
  intro o hchk hy hs
  exact isMinRolls_of_bound ((plan_checker_cols cols d o.plan o.total).1 hchk).1
    (finish_optimal_bound heps hs) fun plan' hv' => dual_bound_cols cols d o.duals plan' hy hv'

-- non-vacuity: columns (2,0),(0,2),(1,1), initial (2,0),(0,2), demands (3,2): 3 columns, OPTIMAL
example : IsMinRolls (InCols [[2, 0], [0, 2], [1, 1]]) [3, 2] 3 := by
  have h : let o := Mirror.cgCustom [[2, 0], [0, 2], [1, 1]] [[2, 0], [0, 2]] [3, 2] 1000 Solvor.Gen.Cut.cgEps
      checkPlan (inColsB [[2, 0], [0, 2], [1, 1]]) [3, 2] o.plan o.total = true ∧
      dualFeasibleCols [[2, 0], [0, 2], [1, 1]] o.duals = true ∧ o.status = "OPTIMAL" ∧ o.total = 3 := by
    decide +kernel
  have := cg_custom_mirror_optimal_of_duals [[2, 0], [0, 2], [1, 1]] [[2, 0], [0, 2]] [3, 2] 1000
    Solvor.Gen.Cut.cgEps (fun _ => false) (by decide +kernel) h.1 h.2.1 h.2.2.1
  rwa [h.2.2.2] at this

/-- [S, partial] `master-LP mirror`: holds on every input, whatever the pivots were (row-space invariant of the tableau,
`Mirror.lpCore_obj`). -/
theorem master_lp_value_is_dual_value (cols : List Pat) (d : List Nat) (eps : Rat) (o : Rat)
    (h : (Mirror.masterLP cols d eps).2.2 = some o) : o = dotQ (Mirror.masterLP cols d eps).2.1 d :=
  Mirror.masterLP_value_eq_dual h

-- non-vacuity: the master LP over columns (2,0),(0,2) with demands (3,2) has value 5/2
example : (Mirror.masterLP [[2, 0], [0, 2]] [3, 2] Solvor.Gen.Cut.cgEps).2.2 = some (5 / 2) := by
  decide +kernel
-- FULL STATEMENT (not proved): `master-LP mirror certifies` — on termination by optimality the
-- returned `x` is primal feasible and the duals are dual feasible for the pool (both only up to
-- `eps`, because eliminations with |factor| ≤ eps are skipped), hence the value is the LP optimum
-- up to a multiple of `eps`.

/-- [S, partial] `master-LP mirror`, dual side at a regular exit: `hexit` says that the final tableau passes the entering test
of `simplex_phase` (decidable on the output; it is how the loop normally ends). -/
theorem master_lp_duals_eps_feasible (cols : List Pat) (d : List Nat) (eps : Rat) (t : Mirror.Tab) (b : List Nat)
    (h : Mirror.masterCore cols d eps = some (t, b))
    (hexit : Mirror.findEnter t b (cols.length + d.length) d.length eps = none) :
    (∀ j, j < cols.length → b.contains j = false →
      Mirror.priceOf t cols.length d.length (cols.getD j []) ≤ 1 + eps) ∧
    (∀ i, i < d.length → b.contains (cols.length + i) = false →
      -eps ≤ Mirror.tget t d.length (cols.length + i)) := by
  unfold Mirror.findEnter at hexit
  rw [List.find?_eq_none] at hexit
  constructor
  · intro j hj hb
    have := hexit j (List.mem_range.2 (by omega))
    simp only [hb, Bool.not_false, Bool.true_and, decide_eq_true_eq] at this
    rw [Mirror.masterCore_redcost h hj] at this
    exact neg_le_sub_iff_le_add.1 (not_lt.1 this)
  · intro i hi hb
    have := hexit (cols.length + i) (List.mem_range.2 (by omega))
    simp only [hb, Bool.not_false, Bool.true_and, decide_eq_true_eq] at this
    exact not_lt.1 this

-- non-vacuity: the master LP over (2,0),(0,2),(1,1) with demands (3,2) ends regularly
example : (match Mirror.masterCore [[2, 0], [0, 2], [1, 1]] [3, 2] Solvor.Gen.Cut.cgEps with
    | some (t, b) => Mirror.findEnter t b 5 2 Solvor.Gen.Cut.cgEps == none
    | none => false) = true := by decide +kernel

open Mirror in
/-- C17 T-model `bp_status_rule` (the `solve_bp` mirror, Solvor/Cut/MirrorBp.lean): the repaired status rule of
`_branch_and_price`, for EVERY node solver (whatever `_solve_node_lp` returns at any node).  The two tolerance hypotheses hold for
the default `gap_tol` and fewer than 10⁶ rolls; under them passing the gap test against `lb` gives `total ≤ lb`. -/
theorem bp_status_rule (solve : Solver) (cols0 : List Pat) (d : List Nat) (eps gapTol : Rat)
    (maxIter maxNodes : Nat) (stop : Nat → Bool) (htol1 : gapTol ≤ 1) :
    let o := bpRun solve cols0 d eps gapTol maxIter maxNodes stop
    (o.status = "OPTIMAL" ∨ o.status = "FEASIBLE" ∨ o.status = "INFEASIBLE") ∧
    ((o.status = "OPTIMAL" ∨ o.status = "FEASIBLE") → ∃ p, o.plan = some p ∧ o.total = rolls p) ∧
    (o.status = "OPTIMAL" → gapTol * (o.total : Rat) ≤ 1 →
      (o.rootIntegral = true ∧ o.rootConverged = true) ∨ ((o.total : Int) ≤ o.lb)) ∧
    (∀ q, (solve cols0 []).obj = some q → o.lb = if o.rootConverged then (q - eps).ceil else 0) := by
  intro o
  have r := bpRun_rule solve cols0 d eps gapTol maxIter maxNodes stop
  exact ⟨r.status, fun hu => (r.usable hu).imp fun p ⟨_, hp, ht, _⟩ => ⟨hp, ht⟩,
    fun hs htol2 => (r.optimal hs).imp id fun hg => gapOk_le htol1 htol2 hg.2, r.lb⟩

-- non-vacuity: a node solver that always reports an integral root LP
example : (Mirror.bpRun (fun cols _ => ⟨cols, [1], [1], some 1, 0, 0, none⟩) [[1]] [1] 0 (1 / 1000000) 5 5).status
    = "OPTIMAL" := by decide +kernel

open Mirror in
/-- For any admissibility predicate `Feas` and any pricer: `OPTIMAL` of the `solve_bp` mirror `o` (`ho`) is a true minimum when
its plan is valid (`hv`) and the root duals bound every valid plan from below (`hcert`; weak duality in the two uses).
`hside` is needed because at an integral root LP `bpRun` answers `OPTIMAL` on the converged flag alone, with a plan that
`buildSolution` rounds half to even: there `rolls ≤ ⌈root LP − eps⌉` is no consequence of the status rule, so it is asked for
(the driver evaluates it, `rootSide`). -/
theorem bp_optimal_core (Feas : Pat → Prop) (pr : Pricer) (cols0 : List Pat) (d : List Nat) (eps gapTol : Rat)
    (maxIter maxNodes : Nat) (stop : Nat → Bool) (heps : 0 ≤ eps) (htol1 : gapTol ≤ 1)
    (o : BpOut) (ho : bpRun (nodeLP pr d eps maxIter) cols0 d eps gapTol maxIter maxNodes stop = o)
    (hs : o.status = "OPTIMAL") (htol2 : gapTol * (o.total : Rat) ≤ 1)
    (hv : ∀ p, o.plan = some p → ValidPlan Feas d p)
    (hcert : ∀ plan', ValidPlan Feas d plan' → dualBound o.rootDuals d ≤ (rolls plan' : Int))
    (hside : o.rootIntegral = true → ∀ q, o.rootObj = some q → (o.total : Int) ≤ (q - eps).ceil) :
    IsMinRolls Feas d o.total := by
  have r : BpRule _ cols0 eps gapTol o := ho ▸ bpRun_rule _ cols0 d eps gapTol maxIter maxNodes stop
  obtain ⟨p, q, hp, ht, hq⟩ := r.usable (Or.inl hs)
  have hval : q = dotQ o.rootDuals d := by
    rw [r.rootDuals]; exact nodeLP_root_value hq
  have hvp := hv p hp
  -- rolls ≤ ⌈q − eps⌉, or there are no rolls at all
  have hle : (o.total : Int) ≤ (q - eps).ceil ∨ o.total = 0 := by
    rcases r.optimal hs with ⟨hri, _⟩ | ⟨_, hg⟩
    · left; exact hside hri q (by rw [r.rootObj]; exact hq)
    · have hlb := gapOk_le htol1 htol2 hg
      rw [r.lb q hq] at hlb
      split at hlb
      · left; exact hlb
      · right; omega
  rcases hle with hle | h0
  · have h2' : (q - eps).ceil ≤ dualBound o.rootDuals d := by
      rw [dualBound, ← hval]; exact ceil_sub_le_ceil q eps heps
    rw [ht] at hle ⊢
    exact isMinRolls_of_bound hvp (le_trans hle h2') hcert
  · rw [h0]
    exact ⟨⟨p, hvp, by rw [← ht, h0]⟩, fun _ _ => Nat.zero_le _⟩

open Mirror in
/-- C17 (cutting stock): `OPTIMAL` of the `solve_bp` mirror is a true minimum under side conditions that are decidable and that
the driver evaluates on every input: the checker's verdict (`planOk`), the root duals pass the knapsack DP (`rawDualFeas`), and
at an integral root `rolls ≤ ⌈root LP value − eps⌉` (`rootSide`). -/
theorem bp_mirror_optimal_of_duals (W : Nat) (sizes d : List Nat) (maxIter maxNodes : Nat) (eps gapTol : Rat)
    (stop : Nat → Bool) (hpos : ∀ s ∈ sizes, 0 < s) (heps : 0 ≤ eps) (htol1 : gapTol ≤ 1) :
    let o := bpCuttingStock W sizes d maxIter maxNodes eps gapTol stop
    o.status = "OPTIMAL" → gapTol * (o.total : Rat) ≤ 1 →
    (∀ p, o.plan = some p → checkPlan (fitsB W sizes) d p o.total = true) →
    dualFeasible W sizes o.rootDuals = true →
    (o.rootIntegral = true → ∀ q, o.rootObj = some q → (o.total : Int) ≤ (q - eps).ceil) →
    IsMinRolls (Fits W sizes) d o.total := by
  intro o hs htol2 hchk hy hside
  exact bp_optimal_core (Fits W sizes) (csPricer W sizes eps) (initPats W sizes d) d eps gapTol maxIter maxNodes
    stop heps htol1 o rfl hs htol2
    (fun p hp => ((plan_checker_cs W sizes d p o.total).1 (hchk p hp)).1)
    (fun plan' hv' => dual_bound W sizes d o.rootDuals plan' hpos hy hv') hside

open Mirror in
/-- C17, `solve_bp` with a custom pricing function over the explicit column list `cols`: the same side conditions, dual
feasibility decided column by column (`dualFeasibleCols`). -/
theorem bp_custom_mirror_optimal_of_duals (cols init : List Pat) (d : List Nat) (maxIter maxNodes : Nat)
    (eps gapTol : Rat) (stop : Nat → Bool) (heps : 0 ≤ eps) (htol1 : gapTol ≤ 1) :
    let o := bpCustom cols init d maxIter maxNodes eps gapTol stop
    o.status = "OPTIMAL" → gapTol * (o.total : Rat) ≤ 1 →
    (∀ p, o.plan = some p → checkPlan (inColsB cols) d p o.total = true) →
    dualFeasibleCols cols o.rootDuals = true →
    (o.rootIntegral = true → ∀ q, o.rootObj = some q → (o.total : Int) ≤ (q - eps).ceil) →
    IsMinRolls (InCols cols) d o.total := by
  intro o hs htol2 hchk hy hside
  exact bp_optimal_core (InCols cols) (colsPricer cols eps) init d eps gapTol maxIter maxNodes
    stop heps htol1 o rfl hs htol2
    (fun p hp => ((plan_checker_cols cols d p o.total).1 (hchk p hp)).1)
    (fun plan' hv' => dual_bound_cols cols d o.rootDuals plan' hy hv') hside

-- non-vacuity: columns (2,0),(0,2),(1,1), initial (2,0),(0,2), demands (3,2): the root LP is
-- fractional, the tree search finds 3 columns, OPTIMAL, and every side condition holds
example : IsMinRolls (InCols [[2, 0], [0, 2], [1, 1]]) [3, 2] 3 := by
  obtain ⟨hs, ht, hfrac, hchk, hy⟩ : let o := (Mirror.bpCustom [[2, 0], [0, 2], [1, 1]] [[2, 0], [0, 2]] [3, 2] 1000 100
        Solvor.Gen.Cut.bpEps Solvor.Gen.Cut.bpGapTol)
      o.status = "OPTIMAL" ∧ o.total = 3 ∧ o.rootIntegral = false ∧
      (match o.plan with
        | some p => checkPlan (inColsB [[2, 0], [0, 2], [1, 1]]) [3, 2] p o.total
        | none => false) = true ∧
      dualFeasibleCols [[2, 0], [0, 2], [1, 1]] o.rootDuals = true := by decide +kernel
  have := bp_custom_mirror_optimal_of_duals [[2, 0], [0, 2], [1, 1]] [[2, 0], [0, 2]] [3, 2] 1000 100
    Solvor.Gen.Cut.bpEps Solvor.Gen.Cut.bpGapTol (fun _ => false) (by decide +kernel) (by decide +kernel) hs
    (by rw [ht]; decide +kernel)
    (fun p hp => by rw [hp] at hchk; exact hchk) hy
    (fun hri => by rw [hfrac] at hri; cases hri)
  rwa [ht] at this

end Solvor.Cut
