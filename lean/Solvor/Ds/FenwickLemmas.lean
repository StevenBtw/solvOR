import Solvor.Ds.Fenwick
import Solvor.Common.ListLemmas
/-! Ds: the Fenwick tree represents its array: `tree[j] = Σ a[g j .. j]` is kept by `update` and established by the
O(n) constructor.  The index steps are the regenerated `Solvor.Gen.fenUp`, `fenDownBase`, `fenBuildParent`; core Lean
only. -/
namespace Solvor.Ds
open Solvor.Gen

-- `g j` is where the range of cell `j` starts (`tree[j] = Σ a[g j .. j]`); `h j` is the next cell whose range
-- contains that of `j`: `update` and the constructor go from `j` to `h j`, `prefix` from `j` to `g j - 1`
open Solvor.Gen renaming fenDownBase → g, fenUp → h

theorem g_def (i : Nat) : g i = i &&& (i+1) := rfl
theorem h_def (i : Nat) : h i = i ||| (i+1) := rfl
theorem buildParent_eq (i : Nat) : fenBuildParent i = h i := rfl

theorem bit_div (a : Nat) {x : Nat} (hx : x < 2) : (2 * a + x) / 2 = a := by omega
theorem bit_mod (a : Nat) {x : Nat} (hx : x < 2) : (2 * a + x) % 2 ^ 1 = x := by omega

theorem and_bit (a b : Nat) {x y : Nat} (hx : x < 2) (hy : y < 2) :
    (2 * a + x) &&& (2 * b + y) = 2 * (a &&& b) + (x &&& y) := by
  rw [← Nat.div_add_mod (_ &&& _) 2, Nat.and_div_two, bit_div a hx, bit_div b hy, ← Nat.pow_one 2,
    Nat.and_mod_two_pow, bit_mod a hx, bit_mod b hy]
theorem or_bit (a b : Nat) {x y : Nat} (hx : x < 2) (hy : y < 2) :
    (2 * a + x) ||| (2 * b + y) = 2 * (a ||| b) + (x ||| y) := by
  rw [← Nat.div_add_mod (_ ||| _) 2, Nat.or_div_two, bit_div a hx, bit_div b hy, ← Nat.pow_one 2,
    Nat.or_mod_two_pow, bit_mod a hx, bit_mod b hy]

theorem g_odd (m : Nat) : g (2*m+1) = 2 * g m := and_bit m (m + 1) (x := 1) (y := 0) (by decide) (by decide)
theorem g_even (m : Nat) : g (2*m) = 2*m := by
  have := and_bit m m (x := 0) (y := 1) (by decide) (by decide)
  rwa [Nat.and_self] at this
theorem h_even (m : Nat) : h (2*m) = 2*m+1 := by
  have := or_bit m m (x := 0) (y := 1) (by decide) (by decide)
  rwa [Nat.or_self] at this
theorem h_odd (m : Nat) : h (2*m+1) = 2 * h m + 1 := or_bit m (m + 1) (x := 1) (y := 0) (by decide) (by decide)

theorem g_le : ∀ j, g j ≤ j := fun _ => Nat.and_le_left

theorem parity (j : Nat) : (∃ m, j = 2*m) ∨ (∃ m, j = 2*m+1) := by
  have hj := Nat.div_add_mod j 2
  rcases Nat.mod_two_eq_zero_or_one j with hm | hm <;> rw [hm] at hj
  · exact Or.inl ⟨j / 2, hj.symm⟩
  · exact Or.inr ⟨j / 2, hj.symm⟩

theorem odd_induction {P : Nat → Prop} (even : ∀ m, P (2*m)) (odd : ∀ m, P m → P (2*m+1)) : ∀ j, P j := by
  intro j
  induction j using Nat.strongRecOn with
  | _ j ih =>
    rcases parity j with ⟨m, rfl⟩ | ⟨m, rfl⟩
    · exact even m
    · exact odd m (ih m (by omega))

theorem lt_h : ∀ j, j < h j :=
  odd_induction (fun m => by rw [h_even]; omega) fun m ih => by rw [h_odd]; omega

theorem g_h_le : ∀ j, g (h j) ≤ g j :=
  odd_induction (fun m => by rw [h_even, g_odd, g_even]; have := g_le m; omega)
    fun m ih => by rw [h_odd, g_odd, g_odd]; omega

theorem gap : ∀ j k, j < k → k < h j → j < g k :=
  odd_induction (fun m k h1 h2 => by rw [h_even] at h2; omega) fun m ih k h1 h2 => by
    rw [h_odd] at h2
    rcases parity k with ⟨q, rfl⟩ | ⟨q, rfl⟩
    · rw [g_even]; omega
    · rw [g_odd]
      have := ih q (by omega) (by omega)
      omega

/-- cell `j` covers index `i` -/
def covers (i j : Nat) : Prop := g j ≤ i ∧ i ≤ j

instance (i j : Nat) : Decidable (covers i j) := by unfold covers; infer_instance

theorem covers_h {i j : Nat} (hc : covers i j) : covers i (h j) :=
  ⟨Nat.le_trans (g_h_le j) hc.1, Nat.le_trans hc.2 (Nat.le_of_lt (lt_h j))⟩
theorem not_covers_between {i j k : Nat} (hc : covers i j) (h1 : j < k) (h2 : k < h j) :
    ¬ covers i k := by
  intro hk; have := gap j k h1 h2; have := hk.1; have := hc.2; omega

/-- the range of a child `c` of `h c` starts where the range of `h c` starts, or right after another child -/
theorem child_tiling : ∀ c, g c = g (h c) ∨ (1 ≤ g c ∧ h (g c - 1) = h c) := by
  refine odd_induction (fun m => ?_) fun m ih => ?_
  · rw [h_even, g_even, g_odd]
    rcases parity m with ⟨q, rfl⟩ | ⟨q, rfl⟩
    · left; rw [g_even]
    · right
      refine ⟨Nat.succ_pos _, ?_⟩
      show h (2 * (2 * q) + 1) = _
      rw [h_odd, h_even]
  · rw [h_odd, g_odd, g_odd]
    rcases ih with h1 | ⟨h1, h2⟩
    · left; rw [h1]
    · right
      refine ⟨by omega, ?_⟩
      have : 2 * g m - 1 = 2 * (g m - 1) + 1 := by omega
      rw [this, h_odd, h2]

theorem pred_child (j : Nat) (hj : g j < j) : h (j - 1) = j := by
  rcases parity j with ⟨m, rfl⟩ | ⟨m, rfl⟩
  · rw [g_even] at hj; omega
  · have : 2 * m + 1 - 1 = 2 * m := by omega
    rw [this, h_even]

/-- `arrPrefix a i` is `psum a (i + 1)` -/
def psum (a : List Int) (m : Nat) : Int := (a.take m).sum

theorem psum_zero (a : List Int) : psum a 0 = 0 := by simp [psum]

theorem psum_succ (a : List Int) (m : Nat) : psum a (m + 1) = psum a m + a.getD m 0 := by
  rw [psum, psum, List.take_add_one, List.sum_append, List.getD_eq_getElem?_getD]
  cases a[m]? <;> simp

theorem getD_set_add (t : List Int) (c j : Nat) (d : Int) (hc : c < t.length) :
    (t.set c (t.getD c 0 + d)).getD j 0 = t.getD j 0 + (if j = c then d else 0) := by
  by_cases hjc : j = c
  · subst hjc; rw [getD_set_self hc, if_pos rfl]
  · rw [getD_set_ne (Ne.symm hjc), if_neg hjc, Int.add_zero]

theorem psum_set (a : List Int) (i : Nat) (v : Int) (m : Nat) (hi : i < a.length) :
    psum (a.set i v) m = psum a m + (if i < m then v - a.getD i 0 else 0) := by
  induction m with
  | zero => rw [psum_zero, psum_zero, if_neg (Nat.not_lt_zero i)]; rfl
  | succ k ih =>
    rw [psum_succ, psum_succ, ih]
    by_cases h2 : i = k
    · subst h2
      rw [getD_set_self hi, if_neg (Nat.lt_irrefl i), if_pos (Nat.lt_succ_self i)]; omega
    · rw [getD_set_ne h2]
      by_cases h1 : i < k
      · rw [if_pos h1, if_pos (Nat.lt_succ_of_lt h1)]; omega
      · rw [if_neg h1, if_neg (fun h3 => h1 (Nat.lt_of_le_of_ne (Nat.le_of_lt_succ h3) h2))]; omega

def FInv (t a : List Int) : Prop :=
  t.length = a.length ∧ ∀ j, j < a.length → t.getD j 0 = psum a (j + 1) - psum a (g j)

/-- a step of the query walk goes from `i` to `g i - 1 < i`, so fuel `i + 1` lasts -/
theorem prefix_correct {t a : List Int} (hI : FInv t a) :
    ∀ fuel i, i < a.length → i + 1 ≤ fuel → fenPreLoop fuel t i = psum a (i + 1) := by
  intro fuel
  induction fuel with
  | zero => intro i _ h2; exact absurd h2 (Nat.not_succ_le_zero i)
  | succ f ih =>
    intro i hi hf
    rw [fenPreLoop, hI.2 i hi]
    by_cases h0 : g i = 0
    · rw [if_pos h0, h0, psum_zero, Int.sub_zero, Int.add_zero]
    · have hle := g_le i
      have hpos := Nat.pos_of_ne_zero h0
      rw [if_neg h0, ih (g i - 1) (by omega) (by omega), Nat.sub_add_cancel hpos, Int.sub_add_cancel]

theorem fenPrefix_correct {t a : List Int} (hI : FInv t a) {i : Nat} (hi : i < a.length) :
    fenPrefix t i = arrPrefix a i :=
  prefix_correct hI _ _ hi (Nat.le_refl _)

theorem covers_from {i c j : Nat} (hc : covers i c) :
    (c ≤ j ∧ covers i j) ↔ (j = c ∨ (h c ≤ j ∧ covers i j)) := by
  have hlt := lt_h c
  constructor
  · rintro ⟨h1, h2⟩
    by_cases hjc : j = c
    · exact Or.inl hjc
    · refine Or.inr ⟨Decidable.byContradiction fun hn => ?_, h2⟩
      exact not_covers_between hc (by omega) (by omega) h2
  · rintro (rfl | ⟨h1, h2⟩)
    · exact ⟨Nat.le_refl _, hc⟩
    · exact ⟨by omega, h2⟩

/-- `covers i c ∨ n ≤ c`: `c` is on the walk of `update i` or past the end; every step increases `c`, hence the
bound on the fuel -/
theorem updLoop_spec (n i : Nat) (d : Int) :
    ∀ fuel (t : List Int) c, t.length = n → (covers i c ∨ n ≤ c) → n + 1 ≤ fuel + c →
      (fenUpdLoop n fuel t c d).length = n ∧
      ∀ j, j < n → (fenUpdLoop n fuel t c d).getD j 0 =
        t.getD j 0 + (if c ≤ j ∧ covers i j then d else 0) := by
  intro fuel
  induction fuel with
  | zero =>
    intro t c hl _ hf
    exact ⟨hl, fun j hj => by rw [if_neg fun hq => absurd hq.1 (by omega), Int.add_zero]; rfl⟩
  | succ f ih =>
    intro t c hl hc hf
    unfold fenUpdLoop
    by_cases hcn : c < n
    · rw [if_pos hcn]
      have hcov : covers i c := hc.resolve_right (Nat.not_le.2 hcn)
      have hlt := lt_h c
      obtain ⟨l1, l2⟩ := ih (t.set c (t.getD c 0 + d)) (h c) (by simpa using hl)
        (if hn : n ≤ h c then Or.inr hn else Or.inl (covers_h hcov)) (by omega)
      refine ⟨l1, fun j hj => ?_⟩
      rw [l2 j hj, getD_set_add _ _ _ _ (hl ▸ hcn), Int.add_assoc]
      congr 1
      by_cases hjc : j = c
      · subst hjc
        rw [if_pos rfl, if_neg fun hq => absurd hq.1 (Nat.not_le.2 hlt), if_pos ⟨Nat.le_refl _, hcov⟩, Int.add_zero]
      · rw [if_neg hjc, Int.zero_add]
        by_cases hq : h c ≤ j ∧ covers i j
        · rw [if_pos hq, if_pos ((covers_from hcov).2 (Or.inr hq))]
        · rw [if_neg hq, if_neg fun hp => hq (((covers_from hcov).1 hp).resolve_left hjc)]
    · rw [if_neg hcn]
      exact ⟨hl, fun j hj => by rw [if_neg fun hq => hcn (Nat.lt_of_le_of_lt hq.1 hj), Int.add_zero]⟩

theorem arrUpdate_length (a : List Int) (i : Nat) (d : Int) : (arrUpdate a i d).length = a.length :=
  List.length_set

theorem update_correct {t a : List Int} (hI : FInv t a) (i : Nat) (d : Int) (hi : i < a.length) :
    FInv (fenUpdate t i d) (arrUpdate a i d) := by
  obtain ⟨hl, hv⟩ := hI
  unfold fenUpdate arrUpdate
  obtain ⟨l1, l2⟩ := updLoop_spec t.length i d (t.length + 1) t i rfl (Or.inl ⟨g_le i, Nat.le_refl i⟩) (Nat.le_add_right _ _)
  refine ⟨by rw [l1, hl, List.length_set], fun j hj => ?_⟩
  have hj' : j < a.length := by rwa [List.length_set] at hj
  have hΔ : a.getD i 0 + d - a.getD i 0 = d := by rw [Int.add_comm, Int.add_sub_cancel]
  rw [l2 j (hl ▸ hj'), hv j hj', psum_set _ _ _ _ hi, psum_set _ _ _ _ hi, hΔ]
  have hg := g_le j
  generalize psum a (j + 1) = P1, psum a (g j) = P0
  clear hv l2 l1
  by_cases h1 : i < g j
  · rw [if_neg fun hc => absurd hc.2.1 (Nat.not_le.2 h1), if_pos (Nat.lt_succ_of_le (Nat.le_trans (Nat.le_of_lt h1) hg)), if_pos h1]; omega
  · by_cases h2 : i ≤ j
    · rw [if_pos ⟨h2, Nat.le_of_not_lt h1, h2⟩, if_pos (Nat.lt_succ_of_le h2), if_neg h1]; omega
    · rw [if_neg fun hc => h2 hc.1, if_neg fun hc => h2 (Nat.le_of_lt_succ hc), if_neg h1]; omega

/-- one iteration of the O(n) construction loop -/
def buildStep (n : Nat) (t : List Int) (i : Nat) : List Int :=
  let j := fenBuildParent i
  if j < n then t.set j (t.getD j 0 + t.getD i 0) else t

/-- invariant of the construction loop before index `m` is processed; `part`: the parent of a cell `c` that covers
`m` has absorbed what lies in front of `c`'s range and nothing more -/
structure BInv (a : List Int) (m : Nat) (t : List Int) : Prop where
  len : t.length = a.length
  full : ∀ j, j < a.length → j ≤ m → t.getD j 0 = psum a (j + 1) - psum a (g j)
  fresh : ∀ j, m < g j → t.getD j 0 = a.getD j 0
  part : ∀ c, covers m c → h c < a.length → t.getD (h c) 0 = a.getD (h c) 0 + psum a (g c) - psum a (g (h c))

theorem binv_zero (a : List Int) : BInv a 0 a where
  len := rfl
  full := fun j _ hj => by
    obtain rfl := Nat.le_zero.1 hj
    rw [Nat.le_zero.1 (g_le 0), psum_succ, psum_zero]; omega
  fresh := fun _ _ => rfl
  part := fun c hc _ => by
    have h0 : g c = 0 := Nat.le_zero.1 hc.1
    have h1 : g (h c) = 0 := Nat.le_zero.1 (h0 ▸ g_h_le c)
    rw [h0, h1, psum_zero]; omega

theorem buildStep_length (n : Nat) (t : List Int) (m : Nat) : (buildStep n t m).length = t.length := by
  unfold buildStep; dsimp only; split
  · exact List.length_set
  · rfl

theorem buildStep_getD {t : List Int} {n : Nat} (hl : t.length = n) (m j : Nat) :
    (buildStep n t m).getD j 0 = t.getD j 0 + (if j = h m ∧ h m < n then t.getD m 0 else 0) := by
  show (if h m < n then t.set (h m) (t.getD (h m) 0 + t.getD m 0) else t).getD j 0 = _
  by_cases hn : h m < n
  · rw [if_pos hn, getD_set_add _ _ _ _ (hl ▸ hn)]
    by_cases hj : j = h m
    · rw [if_pos hj, if_pos ⟨hj, hn⟩]
    · rw [if_neg hj, if_neg fun hc => hj hc.1]
  · rw [if_neg hn, if_neg fun hc => hn hc.2, Int.add_zero]

theorem binv_step {a : List Int} {m : Nat} {t : List Int} (hB : BInv a m t) (hm : m < a.length) :
    BInv a (m + 1) (buildStep a.length t m) := by
  have hmm : covers m m := ⟨g_le m, Nat.le_refl m⟩
  have hne : ∀ j, j ≠ h m → (buildStep a.length t m).getD j 0 = t.getD j 0 := fun j hj => by
    rw [buildStep_getD hB.len, if_neg fun hc => hj hc.1, Int.add_zero]
  have heq : h m < a.length →
      (buildStep a.length t m).getD (h m) 0 = a.getD (h m) 0 + psum a (m + 1) - psum a (g (h m)) := fun hn => by
    rw [buildStep_getD hB.len, if_pos ⟨rfl, hn⟩, hB.part m hmm hn, hB.full m hm (Nat.le_refl m)]; omega
  have hfar : ∀ {j}, m < g j → j ≠ h m := fun hj e =>
    Nat.lt_irrefl m (Nat.lt_of_lt_of_le (e ▸ hj) (Nat.le_trans (g_h_le m) (g_le m)))
  refine ⟨(buildStep_length ..).trans hB.len, fun j hj hjm => ?_, fun j hj => ?_, fun c hc hcn => ?_⟩
  · by_cases hjm' : j ≤ m
    · rw [hne j (Nat.ne_of_lt (Nat.lt_of_le_of_lt hjm' (lt_h m))), hB.full j hj hjm']
    · -- cell `m + 1` is the parent of `m`, completed by this step, or it has no child and was complete untouched
      obtain rfl : j = m + 1 := Nat.le_antisymm hjm (Nat.lt_of_not_le hjm')
      by_cases hg : g (m + 1) < m + 1
      · have hpc : h m = m + 1 := pred_child (m + 1) hg
        rw [← hpc, heq (hpc ▸ hj), psum_succ a (h m), hpc]; omega
      · have hg' : g (m + 1) = m + 1 := Nat.le_antisymm (g_le _) (Nat.le_of_not_lt hg)
        have hm' : m < g (m + 1) := hg'.symm ▸ Nat.lt_succ_self m
        rw [hne _ (hfar hm'), hB.fresh _ hm', hg', psum_succ]; omega
  · have hj' : m < g j := Nat.lt_of_succ_lt hj
    rw [hne j (hfar hj'), hB.fresh j hj']
  · -- `c` covered `m` already (then `h c` is not `h m`), or its range starts at `m + 1`: by `child_tiling` its parent
    -- was untouched so far, or is `h m` and has just absorbed everything in front of `m + 1`
    by_cases hgc : g c ≤ m
    · have hmc : m < c := Nat.lt_of_succ_le hc.2
      have hcm : covers m c := ⟨hgc, Nat.le_of_lt hmc⟩
      rw [hne _ fun e => not_covers_between hmm hmc (e ▸ lt_h c) hcm, hB.part c hcm hcn]
    · have hgc' : g c = m + 1 := Nat.le_antisymm hc.1 (Nat.lt_of_not_le hgc)
      rcases child_tiling c with hA | ⟨_, hB'⟩
      · have hm' : m < g (h c) := hA ▸ hgc'.symm ▸ Nat.lt_succ_self m
        rw [hne _ (hfar hm'), hB.fresh _ hm', hA]; omega
      · rw [hgc', Nat.add_sub_cancel] at hB'
        rw [← hB', heq (hB' ▸ hcn), hgc']

theorem build_correct (vals : List Int) : FInv (fenBuild vals) vals := by
  -- `fenBuild vals` unfolds to this fold: `buildStep` is the body of its step function
  have hB := foldl_range_inv (BInv vals) (buildStep vals.length) vals (binv_zero vals) vals.length
    fun _ _ hk h => binv_step h hk
  exact ⟨hB.len, fun j hj => hB.full j hj (Nat.le_of_lt hj)⟩

theorem range_correct {t a : List Int} (hI : FInv t a) (l r : Nat) (hlr : l ≤ r) (hr : r < a.length) :
    fenRange t l r = arrRange a l r := by
  unfold fenRange arrRange
  have hsplit : arrPrefix a r = psum a l + ((a.take (r + 1)).drop l).sum := by
    have := List.take_append_drop l (a.take (r + 1))
    rw [List.take_take, Nat.min_eq_left (Nat.le_succ_of_le hlr)] at this
    rw [arrPrefix, psum, ← List.sum_append, this]
  rw [fenPrefix_correct hI hr, hsplit]
  cases l with
  | zero => rw [if_neg (Nat.lt_irrefl 0), psum_zero, Int.zero_add]
  | succ l =>
    rw [if_pos l.succ_pos, Nat.add_sub_cancel, fenPrefix_correct hI (Nat.lt_of_lt_of_le (Nat.lt_succ_self l) (Nat.le_trans hlr (Nat.le_of_lt hr)))]
    show psum a (l + 1) + _ - psum a (l + 1) = _
    omega

end Solvor.Ds
