import Solvor.Ds.FenwickLemmas
import Solvor.Ds.UFRefine
/-! Ds: the property theorems of C20 (`FenwickTree` against a plain array, `UnionFind` against quick-find labels). -/
namespace Solvor.Ds

theorem finv_zeros (n : Nat) : FInv (List.replicate n 0) (List.replicate n 0) := by
  have hz : ∀ m, psum (List.replicate n 0) m = 0 := fun m => by simp [psum, List.take_replicate]
  refine ⟨rfl, fun j hj => ?_⟩
  rw [hz, hz]
  simp only [List.getD, List.getElem?_replicate]
  split <;> simp

theorem run_refines {t a : List Int} (hI : FInv t a) (ops : List FOp)
    (hops : ∀ op ∈ ops, op.inRange a.length) : fenRun t ops = arrRun a ops := by
  induction ops generalizing t a with
  | nil => rfl
  | cons op ops ih =>
    have hop := hops op List.mem_cons_self
    have hrest : ∀ op' ∈ ops, op'.inRange a.length := fun o ho => hops o (List.mem_cons_of_mem _ ho)
    cases op with
    | update i d =>
      exact ih (update_correct hI i d hop) (by rwa [arrUpdate_length])
    | pre i => exact congrArg₂ List.cons (fenPrefix_correct hI hop) (ih hI hrest)
    | range l r => exact congrArg₂ List.cons (range_correct hI l r hop.1 hop.2) (ih hI hrest)

/-- C20 (FenwickTree): over any in-range history of `update` / `prefix` / `range_sum` calls the tree built by the
O(n) constructor answers as a plain array does (`prefix i = Σ a[0..i]`, `range_sum l r = Σ a[l..r]`).  That queries
do not modify the tree is built into `fenRun`. -/
theorem fenwick_refines (vals : List Int) (ops : List FOp)
    (hops : ∀ op ∈ ops, op.inRange vals.length) :
    fenRun (fenBuild vals) ops = arrRun vals ops :=
  run_refines (build_correct vals) ops hops

/-- Same for `FenwickTree(n)` (all zeros, no construction loop). -/
theorem fenwick_refines_zeros (n : Nat) (ops : List FOp)
    (hops : ∀ op ∈ ops, op.inRange n) :
    fenRun (List.replicate n 0) ops = arrRun (List.replicate n 0) ops :=
  run_refines (finv_zeros n) ops (by simpa using hops)

theorem finv_canonical {t t2 a : List Int} (h1 : FInv t a) (h2 : FInv t2 a) : t = t2 :=
  ext_getD 0 h1.1 h2.1 fun j hj => (h1.2 j hj).trans (h2.2 j hj).symm

def fenUpdates (t : List Int) (ups : List (Nat × Int)) : List Int :=
  ups.foldl (fun t u => fenUpdate t u.1 u.2) t
def arrUpdates (a : List Int) (ups : List (Nat × Int)) : List Int :=
  ups.foldl (fun a u => arrUpdate a u.1 u.2) a

theorem arrUpdates_length (a : List Int) (ups : List (Nat × Int)) :
    (arrUpdates a ups).length = a.length := by
  induction ups generalizing a with
  | nil => rfl
  | cons u us ih => exact (ih _).trans (arrUpdate_length ..)

theorem finv_updates {t a : List Int} (hI : FInv t a) (ups : List (Nat × Int))
    (hups : ∀ u ∈ ups, u.1 < a.length) : FInv (fenUpdates t ups) (arrUpdates a ups) := by
  induction ups generalizing t a with
  | nil => exact hI
  | cons u us ih =>
    exact ih (update_correct hI u.1 u.2 (hups u List.mem_cons_self)) fun v hv => by
      rw [arrUpdate_length]
      exact hups v (List.mem_cons_of_mem _ hv)

/-- C20 (FenwickTree), history independence: the state, not only the answers, is a function of the reference
array. -/
theorem fenwick_updates_eq_rebuild (vals : List Int) (ups : List (Nat × Int))
    (hups : ∀ u ∈ ups, u.1 < vals.length) :
    fenUpdates (fenBuild vals) ups = fenBuild (arrUpdates vals ups) :=
  finv_canonical (finv_updates (build_correct vals) ups hups) (build_correct _)

theorem fenwick_history_independent (vals : List Int) (ups ups2 : List (Nat × Int))
    (h1 : ∀ u ∈ ups, u.1 < vals.length) (h2 : ∀ u ∈ ups2, u.1 < vals.length)
    (hnet : arrUpdates vals ups = arrUpdates vals ups2) :
    fenUpdates (fenBuild vals) ups = fenUpdates (fenBuild vals) ups2 := by
  rw [fenwick_updates_eq_rebuild vals ups h1, fenwick_updates_eq_rebuild vals ups2 h2, hnet]

example : fenUpdates (fenBuild [1, 2, 3, 4, 5]) [(1, 10), (4, -7), (1, -3)]
    = fenBuild [1, 9, 3, 4, -2] := by decide
example : arrUpdates [1, 2, 3, 4, 5] [(1, 10), (4, -7), (1, -3)] = [1, 9, 3, 4, -2] := by decide

-- the calls of the `FenwickTree` class docstring in `solvor/utils/data_structures.py`, and two more
example : fenRun (fenBuild [1, 2, 3, 4, 5]) [.pre 2, .update 1 10, .pre 2, .range 1 3, .update 4 (-7), .pre 4]
    = [6, 16, 19, 18] := by decide
example : ∀ op ∈ [FOp.pre 2, .update 1 10, .pre 2, .range 1 3, .update 4 (-7), .pre 4],
    op.inRange ([1, 2, 3, 4, 5] : List Int).length := by
  intro op hop
  simp only [List.mem_cons, List.mem_nil_iff, or_false] at hop
  rcases hop with rfl | rfl | rfl | rfl | rfl | rfl <;> simp [FOp.inRange]

theorem run_sim {n : Nat} {s : PyUF} {lab : List Nat} (h : Sim n s lab) (ops : List UOp)
    (hops : ∀ op ∈ ops, op.inRange n) : ufRun n s ops = qfRun lab ops := by
  induction ops generalizing s lab with
  | nil => rfl
  | cons op ops ih =>
    obtain ⟨e, h'⟩ := sim_step h op (hops op List.mem_cons_self)
    simp only [ufRun, qfRun, e]
    rw [ih h' (fun o ho => hops o (List.mem_cons_of_mem _ ho))]

/-- C20 (UnionFind): over any in-range history of calls the union-find (path compression on every read, union by
rank) answers as the reference does that keeps one class label per element and relabels one class on `union`:
sizes and components in first-occurrence order, as a Python dict lists them, and `find` up to the partition (both
sides report the least element of the class). -/
theorem uf_refines (n : Nat) (ops : List UOp) (hops : ∀ op ∈ ops, op.inRange n) :
    ufRun n (PyUF.init n) ops = qfRun (List.range n) ops :=
  run_sim (sim_init n) ops hops

/-- A check of the reference itself: its `component_count` is the number of classes. -/
theorem qf_count_is_classes (lab : List Nat) :
    (qfStep lab .count).2 = .nat lab.toFinset.card := by
  simp [qfStep, distinct_length]

-- the union-find's answers are not computed here: the reference's are, by `decide`, and `uf_refines` carries them over
def exOps : List UOp :=
  [.union 0 1, .union 1 0, .union 2 2, .find 1, .connected 0 1, .union 3 4, .count, .union 1 4, .sizes, .comps]
theorem exOps_inRange : ∀ op ∈ exOps, op.inRange 5 := by
  intro op hop
  simp only [exOps, List.mem_cons, List.mem_nil_iff, or_false] at hop
  rcases hop with rfl | rfl | rfl | rfl | rfl | rfl | rfl | rfl | rfl | rfl <;> simp [UOp.inRange]
example : ufRun 5 (PyUF.init 5) exOps
    = [.bool true, .bool false, .bool false, .nat 0, .bool true, .bool true, .nat 3, .bool true,
       .nats [4, 1], .natss [[0, 1, 3, 4], [2]]] := by
  rw [uf_refines 5 exOps exOps_inRange]; decide

end Solvor.Ds
