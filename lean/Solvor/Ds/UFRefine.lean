import Solvor.Ds.UF
import Solvor.Common.ListLemmas
import Batteries.Data.UnionFind.Lemmas
import Mathlib.Data.Finset.Card
import Mathlib.Data.Finset.Image
import Mathlib.Data.List.Basic
import Mathlib.Data.List.Find
/-! Ds: the union-find refines the label array of the quick-find reference (`Sim`). -/
namespace Solvor.Ds
open Batteries

theorem distinct_toFinset (l : List Nat) : (distinct l).toFinset = l.toFinset := by
  induction l with
  | nil => rfl
  | cons a l ih =>
    ext x
    simp only [distinct, List.toFinset_cons, Finset.mem_insert, List.mem_toFinset, List.mem_filter,
      bne_iff_ne, ne_eq]
    have : x ∈ distinct l ↔ x ∈ l := by
      rw [← List.mem_toFinset, ih, List.mem_toFinset]
    rw [this]
    by_cases h : x = a <;> simp [h]

theorem distinct_nodup (l : List Nat) : (distinct l).Nodup := by
  induction l with
  | nil => exact List.nodup_nil
  | cons a l ih =>
    simp only [distinct, List.nodup_cons, List.mem_filter, bne_iff_ne, ne_eq, not_and, not_not]
    exact ⟨fun _ => trivial, ih.filter _⟩

theorem distinct_length (l : List Nat) : (distinct l).length = l.toFinset.card := by
  rw [← distinct_toFinset, List.toFinset_card_of_nodup (distinct_nodup l)]

theorem distinct_merge (l : List Nat) (lx ly : Nat) (hx : lx ∈ l) (hy : ly ∈ l) (hne : lx ≠ ly) :
    (distinct (l.map fun v => if v == ly then lx else v)).length + 1 = (distinct l).length := by
  rw [distinct_length, distinct_length]
  have : (l.map fun v => if (v == ly) = true then lx else v).toFinset = l.toFinset.erase ly := by
    ext z
    simp only [List.mem_map, List.mem_toFinset, Finset.mem_erase, beq_iff_eq]
    constructor
    · rintro ⟨v, hv, rfl⟩
      by_cases h : v = ly
      · simp [h, hne, hx]
      · simp [h, hv]
    · rintro ⟨hz, hzl⟩
      exact ⟨z, hzl, by simp [hz]⟩
  rw [this, Finset.card_erase_add_one (List.mem_toFinset.2 hy)]

/-- two key lists with the same equality pattern: all that `groupsBy` and `classRep` look at -/
structure SameKeys (k1 k2 : List Nat) : Prop where
  len : k1.length = k2.length
  iff : ∀ i j, i < k1.length → j < k1.length → (k1.getD i 0 = k1.getD j 0 ↔ k2.getD i 0 = k2.getD j 0)

theorem SameKeys.beq {k1 k2 : List Nat} (h : SameKeys k1 k2) {i j : Nat} (hi : i < k1.length) (hj : j < k1.length) :
    (k1.getD j 0 == k1.getD i 0) = (k2.getD j 0 == k2.getD i 0) := by
  rw [Bool.eq_iff_iff, beq_iff_eq, beq_iff_eq]; exact h.iff j i hj hi

theorem groupsBy_congr {k1 k2 : List Nat} (h : SameKeys k1 k2) : groupsBy k1 = groupsBy k2 := by
  unfold groupsBy
  rw [← h.len]
  have e1 : ((List.range k1.length).filter fun i => (List.range i).all fun j => k1.getD j 0 != k1.getD i 0)
      = ((List.range k1.length).filter fun i => (List.range i).all fun j => k2.getD j 0 != k2.getD i 0) :=
    List.filter_congr fun i hi => by
      have hi' := List.mem_range.1 hi
      rw [Bool.eq_iff_iff, List.all_eq_true, List.all_eq_true]
      exact forall₂_congr fun j hj => by rw [bne, bne, h.beq hi' (Nat.lt_trans (List.mem_range.1 hj) hi')]
  simp only [e1]
  exact List.map_congr_left fun i hi => List.filter_congr fun j hj =>
    h.beq (List.mem_range.1 (List.mem_filter.1 hi).1) (List.mem_range.1 hj)

theorem classRep_congr {k1 k2 : List Nat} (h : SameKeys k1 k2) {x : Nat} (hx : x < k1.length) :
    classRep k1 x = classRep k2 x := by
  unfold classRep
  rw [← h.len]
  exact congrArg (·.getD x) (List.find?_congr fun j hj => h.beq hx (List.mem_range.1 hj))

/-- what `uf_refines` carries along a history: the union-find and the reference's labels give the same partition
and count -/
structure Sim (n : Nat) (s : PyUF) (lab : List Nat) : Prop where
  size : s.uf.size = n
  len : lab.length = n
  cls : ∀ a b, a < n → b < n → (s.uf.rootD a = s.uf.rootD b ↔ lab.getD a 0 = lab.getD b 0)
  cnt : s.count = (distinct lab).length

theorem pushN_size (n : Nat) : (pushN n).size = n := by
  induction n with
  | zero => rfl
  | succ k ih => simp [pushN, UnionFind.push, UnionFind.size] at *; omega

theorem pushN_rootD (n a : Nat) : (pushN n).rootD a = a := by
  induction n with
  | zero => simp [pushN]
  | succ k ih => simp [pushN, ih]

theorem getD_range (n a : Nat) (h : a < n) : (List.range n).getD a 0 = a := by
  simp [List.getD, h]

theorem sim_init (n : Nat) : Sim n (PyUF.init n) (List.range n) := by
  refine ⟨pushN_size n, List.length_range, ?_, ?_⟩
  · intro a b ha hb
    simp [PyUF.init, pushN_rootD, ha, hb]
  · rw [distinct_length, List.toFinset_card_of_nodup List.nodup_range, List.length_range]; rfl

/-- what a read (`find`, `roots`) may change: nothing that `Sim` looks at -/
structure Keeps (s s' : PyUF) : Prop where
  size : s'.uf.size = s.uf.size
  root : ∀ i, s'.uf.rootD i = s.uf.rootD i
  count : s'.count = s.count

theorem Keeps.trans {s s' s'' : PyUF} (h : Keeps s s') (h' : Keeps s' s'') : Keeps s s'' :=
  ⟨h'.size.trans h.size, fun i => (h'.root i).trans (h.root i), h'.count.trans h.count⟩

theorem find_spec (s : PyUF) (x : Nat) (hx : x < s.uf.size) :
    (s.find x).2 = s.uf.rootD x ∧ Keeps s (s.find x).1 := by
  unfold PyUF.find UnionFind.findD
  simp only [hx, dite_true]
  exact ⟨UnionFind.find_root_2 s.uf ⟨x, hx⟩, UnionFind.find_size s.uf ⟨x, hx⟩,
    UnionFind.find_root_1 s.uf ⟨x, hx⟩, rfl⟩

theorem Sim.lt {n : Nat} {s : PyUF} {lab : List Nat} (h : Sim n s lab) {x : Nat} (hx : x < n) : x < s.uf.size :=
  h.size.symm ▸ hx

theorem Sim.of_keeps {n : Nat} {s s' : PyUF} {lab : List Nat} (h : Sim n s lab) (k : Keeps s s') : Sim n s' lab :=
  ⟨k.size.trans h.size, h.len, fun a b ha hb => by rw [k.root, k.root]; exact h.cls a b ha hb, k.count.trans h.cnt⟩

theorem sim_find {n : Nat} {s : PyUF} {lab : List Nat} (h : Sim n s lab) (x : Nat) (hx : x < n) :
    Sim n (s.find x).1 lab :=
  h.of_keeps (find_spec s x (h.lt hx)).2

theorem roots_spec (s : PyUF) (m : Nat) (hm : m ≤ s.uf.size) :
    (s.roots m).2 = (List.range m).map s.uf.rootD ∧ Keeps s (s.roots m).1 := by
  refine foldl_range_inv (fun k (acc : PyUF × List Nat) => acc.2 = (List.range k).map s.uf.rootD ∧ Keeps s acc.1)
    _ (s, []) ⟨rfl, rfl, fun _ => rfl, rfl⟩ m fun k acc hk ⟨i1, ik⟩ => ?_
  obtain ⟨f1, fk⟩ := find_spec acc.1 k (ik.size ▸ Nat.lt_of_lt_of_le hk hm)
  refine ⟨?_, ik.trans fk⟩
  show acc.2 ++ [(acc.1.find k).2] = _
  rw [i1, f1, ik.root, List.range_succ, List.map_append]; rfl

theorem sim_keys {n : Nat} {s : PyUF} {lab : List Nat} (h : Sim n s lab) :
    SameKeys ((List.range n).map s.uf.rootD) lab := by
  refine ⟨by simp [h.len], fun i j hi hj => ?_⟩
  simp only [List.length_map, List.length_range] at hi hj
  rw [getD_map_range _ _ hi, getD_map_range _ _ hj]
  exact h.cls i j hi hj

theorem getD_map_of_lt (lab : List Nat) (f : Nat → Nat) (a : Nat) (h : a < lab.length) :
    (lab.map f).getD a 0 = f (lab.getD a 0) := by
  simp [List.getD, List.getElem?_eq_getElem h]

theorem union_size (u : UnionFind) (x y : Fin u.size) : (u.union x y).size = u.size := by
  simp [UnionFind.union, UnionFind.link, UnionFind.size]

theorem qf_union_getD (lab : List Nat) (x y a : Nat) (ha : a < lab.length) :
    (qfStep lab (.union x y)).1.getD a 0 =
      if lab.getD a 0 = lab.getD y 0 then lab.getD x 0 else lab.getD a 0 := by
  simp only [qfStep]
  split
  · rename_i hs
    have hs : lab.getD x 0 = lab.getD y 0 := by simpa using hs
    split
    · rename_i h; rw [hs, h]
    · rfl
  · rw [getD_map_of_lt _ _ _ ha]; simp only [beq_iff_eq]

theorem sim_roots {n : Nat} {s : PyUF} {lab : List Nat} (h : Sim n s lab) :
    groupsBy (s.roots n).2 = groupsBy lab ∧ Sim n (s.roots n).1 lab := by
  obtain ⟨r1, rk⟩ := roots_spec s n (Nat.le_of_eq h.size.symm)
  exact ⟨by rw [r1, groupsBy_congr (sim_keys h)], h.of_keeps rk⟩

theorem classRep_rootD {n : Nat} (u : UnionFind) (hn : u.size = n) {x : Nat} (hx : x < n) :
    classRep ((List.range n).map u.rootD) (u.rootD x) = classRep ((List.range n).map u.rootD) x := by
  have hr : u.rootD x < n := hn ▸ (UnionFind.rootD_lt (self := u) (x := x)).2 (hn ▸ hx)
  unfold classRep
  rw [getD_map_range _ _ hr, getD_map_range _ _ hx, UnionFind.rootD_rootD]
  -- `x` itself is found, so the default is never taken
  cases hf : (List.range ((List.range n).map u.rootD).length).find? fun j =>
      ((List.range n).map u.rootD).getD j 0 == u.rootD x with
  | some v => rfl
  | none =>
    have := List.find?_eq_none.1 hf x (by simpa using hx)
    rw [getD_map_range _ _ hx] at this
    exact absurd (beq_self_eq_true _) this

/-- A check of the reference itself: `union x y` merges the classes of `x` and `y` and nothing else. -/
theorem qf_union_classes (lab : List Nat) (x y a b : Nat) (ha : a < lab.length) (hb : b < lab.length) :
    ((qfStep lab (.union x y)).1.getD a 0 = (qfStep lab (.union x y)).1.getD b 0) ↔
      (lab.getD a 0 = lab.getD b 0 ∨ (lab.getD a 0 = lab.getD y 0 ∧ lab.getD x 0 = lab.getD b 0) ∨
        (lab.getD a 0 = lab.getD x 0 ∧ lab.getD y 0 = lab.getD b 0)) := by
  rw [qf_union_getD _ _ _ _ ha, qf_union_getD _ _ _ _ hb, relabel_eq_iff]
  exact or_congr_right Or.comm

theorem cls_union {n : Nat} {s : PyUF} {lab : List Nat} (h : Sim n s lab) {x y : Nat} (hx : x < n) (hy : y < n)
    (hxs : x < s.uf.size) (hys : y < s.uf.size) (a b : Nat) (ha : a < n) (hb : b < n) :
    (s.uf.union ⟨y, hys⟩ ⟨x, hxs⟩).rootD a = (s.uf.union ⟨y, hys⟩ ⟨x, hxs⟩).rootD b ↔
      (qfStep lab (.union x y)).1.getD a 0 = (qfStep lab (.union x y)).1.getD b 0 := by
  have := UnionFind.equiv_union (self := s.uf) (x := ⟨y, hys⟩) (y := ⟨x, hxs⟩) (a := a) (b := b)
  simp only [UnionFind.Equiv] at this
  rw [this, h.cls a b ha hb, h.cls a y ha hy, h.cls x b hx hb, h.cls a x ha hx, h.cls y b hy hb,
    qf_union_classes lab x y a b (h.len ▸ ha) (h.len ▸ hb)]

theorem sim_step {n : Nat} {s : PyUF} {lab : List Nat} (h : Sim n s lab) (op : UOp)
    (hop : op.inRange n) :
    (ufStep n s op).2 = (qfStep lab op).2 ∧ Sim n (ufStep n s op).1 (qfStep lab op).1 := by
  cases op with
  | find x =>
    have hx : x < n := hop
    have f1 := (find_spec s x (h.lt hx)).1
    refine ⟨?_, sim_find h x hx⟩
    simp only [ufStep, qfStep, f1, Out.nat.injEq]
    rw [classRep_rootD s.uf h.size hx]
    exact classRep_congr (sim_keys h) (by simpa using hx)
  | connected x y =>
    have hx : x < n := hop.1
    have hy : y < n := hop.2
    obtain ⟨f1, fk⟩ := find_spec s x (h.lt hx)
    have g1 := (find_spec (s.find x).1 y ((sim_find h x hx).lt hy)).1
    refine ⟨?_, sim_find (sim_find h x hx) y hy⟩
    simp only [ufStep, qfStep, PyUF.connected, f1, g1, fk.root, Out.bool.injEq]
    rw [Bool.eq_iff_iff]
    simp only [beq_iff_eq]
    exact h.cls x y hx hy
  | count => exact ⟨by simp [ufStep, qfStep, h.cnt], h⟩
  | sizes | comps => exact ⟨by simp only [ufStep, qfStep, (sim_roots h).1], (sim_roots h).2⟩
  | union x y =>
    have hx : x < n := hop.1
    have hy : y < n := hop.2
    have hxs := h.lt hx
    have hys := h.lt hy
    have hxy := h.cls x y hx hy
    -- the class clause does not depend on whether the two were already joined
    have cls := cls_union h hx hy hxs hys
    -- reverted, so that the `simp only` below rewrites `qfStep … (.union x y)` in it as in the goal
    revert cls
    simp only [ufStep, qfStep, PyUF.union, hxs, hys, and_self, dite_true]
    by_cases hsame : lab.getD x 0 = lab.getD y 0
    · simp only [hsame, beq_self_eq_true, if_true, hxy.2 hsame, decide_true, Bool.not_true]
      exact fun cls => ⟨trivial, { size := by rw [union_size, h.size], len := h.len, cls := cls, cnt := h.cnt }⟩
    · have hroot : ¬ s.uf.rootD x = s.uf.rootD y := fun e => hsame (hxy.1 e)
      have hne : (lab.getD x 0 == lab.getD y 0) = false := by simpa using hsame
      simp only [hne, hroot, decide_false, Bool.not_false, Bool.false_eq_true, if_false]
      refine fun cls => ⟨trivial, { size := by rw [union_size, h.size], len := by simp [h.len], cls := cls, cnt := ?_ }⟩
      show s.count - 1 = _
      rw [h.cnt]
      have := distinct_merge lab (lab.getD x 0) (lab.getD y 0)
        (getD_mem (h.len.symm ▸ hx) _) (getD_mem (h.len.symm ▸ hy) _) hsame
      omega

end Solvor.Ds
