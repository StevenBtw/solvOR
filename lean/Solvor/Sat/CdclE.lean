import Solvor.Sat.CdclOps
import Solvor.Sat.Certify
/-!
Sat.CdclE: every clause the CDCL mirror learns (before the first blocking clause) is entailed by the
input formula – the chain check `chainOk` it runs on each learned clause is sound – and the certificate `certify` it
checks before answering INFEASIBLE is sound.
-/
namespace Solvor.Sat.Cdcl
open Solvor.Sat

def stored (st : St) : Cnf := st.clauses.toList.map (·.toList)

theorem cnfTrue_stored {F st k} (h : Inv F st k) (σ : Asg) : cnfTrue σ (stored st) = cnfTrue σ F := by
  apply Bool.eq_iff_iff.2
  rw [cnfTrue_iff, cnfTrue_iff]
  unfold stored
  constructor
  · intro hs c hc
    obtain ⟨i, hi, rfl⟩ := List.getElem_of_mem hc
    have hmem : (cl st i).toList ∈ st.clauses.toList.map (·.toList) :=
      List.mem_map.2 ⟨cl st i, get!_mem (by rw [h.csize]; exact hi), rfl⟩
    obtain ⟨l, hl, ht⟩ := hs _ hmem
    exact ⟨l, (h.clMem hi).1 hl, ht⟩
  · intro hF c hc
    obtain ⟨C, hC, rfl⟩ := List.mem_map.1 hc
    obtain ⟨i, hi, rfl⟩ := (mem_toList_iff_get! _ _).1 hC
    have hi' : i < F.length := by rw [← h.csize]; exact hi
    obtain ⟨l, hl, ht⟩ := hF _ (List.getElem_mem hi')
    exact ⟨l, (h.clMem hi').2 hl, ht⟩

/-- until the first blocking clause is added (`nBlocking = 0`) the stored learned clauses and every clause ever
learned are entailed by the input; afterwards nothing is claimed (`einv_of_blocked`): INFEASIBLE is then not
reported any more -/
structure EInv (F : Cnf) (st : St) (ever : Array (Array Int)) : Prop where
  learned : st.nBlocking = 0 → ∀ j, j < st.learned.size → Entails F (st.learned[j]!).toList
  ever : st.nBlocking = 0 → ∀ C ∈ ever.toList, Entails F C.toList

theorem EInv.lperm {F st st' ever} (h : EInv F st ever) (p : LPerm st st') : EInv F st' ever :=
  ⟨fun hb j hj => entails_mono (fun _ => (p.perm j).mem_iff.2) (h.learned (p.nb ▸ hb) j (p.size ▸ hj)),
    fun hb => h.ever (p.nb ▸ hb)⟩

theorem lperm_unassignTo (st : St) (level : Nat) : LPerm st (unassignTo st level) := by
  obtain ⟨_, _, _, _, _, _, _, e, _⟩ := unassignTo_only st level
  rw [e]; exact lperm_of_eq rfl rfl

theorem getClause_entails {F st k ever} (hI : Inv F st k) (hE : EInv F st ever) (hnb : st.nBlocking = 0)
    {idx : Nat} (hr : idx < st.nOrig + st.learned.size) : Entails F (getClause st idx).toList := by
  by_cases hc : idx < st.nOrig
  · rw [getClause_orig st hc]
    have hcF : idx < F.length := by rw [← hI.nOrig]; exact hc
    exact entails_mono (fun _ => (hI.perm idx hcF).mem_iff.2) (entails_mem (List.getElem_mem hcF))
  · have hno := Nat.le_of_not_lt hc
    rw [getClause_learned st hno]
    exact hE.learned hnb _ (Nat.sub_lt_left_of_lt_add hno hr)

theorem chainOk_sound {F st k ever} (hI : Inv F st k) (hE : EInv F st ever) (hnb : st.nBlocking = 0)
    {cidx : Nat} {steps : Array (Nat × Int)} {lc : Array Int} (h : chainOk st cidx steps lc = true) :
    Entails F lc.toList := by
  unfold chainOk at h
  simp only [Bool.and_eq_true, decide_eq_true_eq, List.all_eq_true, bne_iff_ne, List.contains_iff_mem] at h
  obtain ⟨⟨h0, hs⟩, hsub⟩ := h
  refine learn_chain_sound F _ _ _ (hsub := hsub) (getClause_entails hI hE hnb h0) fun s hs' => ?_
  obtain ⟨t, ht, rfl⟩ := List.mem_map.1 hs'
  exact ⟨getClause_entails hI hE hnb (hs t ht).1, (hs t ht).2⟩

theorem certify_unsat {F st ever as} (hcnf : ∀ σ, cnfTrue σ (stored st) = cnfTrue σ F) (hE : EInv F st ever)
    (hnb : st.nBlocking = 0)
    (hasm : st.assumptions = as) {usePure : Bool} (h : certify st usePure ever = true) : ¬ ∃ σ, Models σ F as := by
  unfold certify at h
  simp only at h
  have hever : ∀ C ∈ ever.toList.map (·.toList), Entails (stored st) C := by
    intro C hC σ hσ
    obtain ⟨X, hX, rfl⟩ := List.mem_map.1 hC
    exact hE.ever hnb X hX σ (by rw [← hcnf]; exact hσ)
  have := certify_sound (stored st) st.assumptions st.nVars usePure _ hever h
  rintro ⟨σ, hσ⟩
  apply this
  refine ⟨σ, ?_, hasm ▸ hσ.2⟩
  exact cnfTrue_iff.1 (by rw [hcnf]; exact cnfTrue_iff.2 hσ.1)

theorem einv_push {F st ever} (h : EInv F st ever) (lc : Array Int) (hlc : st.nBlocking = 0 → Entails F lc.toList)
    (LB : Array Nat) : EInv F { st with learned := st.learned.push lc, lbd := LB } (ever.push lc) := by
  refine ⟨fun hb j hj => ?_, fun hb C hC => ?_⟩
  · show Entails F ((st.learned.push lc)[j]!).toList
    rw [get!_push]
    split
    · exact hlc hb
    · rename_i hne
      have hj' : j < (st.learned.push lc).size := hj
      rw [Array.size_push] at hj'
      exact h.learned hb j (Nat.lt_of_le_of_ne (Nat.le_of_lt_succ hj') hne)
  · rw [Array.toList_push, List.mem_append] at hC
    rcases hC with hC | hC
    · exact h.ever hb C hC
    · rw [List.mem_singleton.1 hC]; exact hlc hb

theorem reduceDb_nb (st : St) : (reduceDb st).nBlocking = st.nBlocking := by
  obtain ⟨_, _, _, _, e⟩ := reduceDb_only st
  rw [e]

theorem reduceDb_learned (st : St) : ∀ j, j < (reduceDb st).learned.size →
    ∃ i, i < st.learned.size ∧ (reduceDb st).learned[j]! = st.learned[i]! := by
  unfold reduceDb
  by_cases hc : ((st.learned.size - st.nBlocking : Nat) : Int) < Solvor.Gen.Sat.reduceDbThreshold
  · rw [if_pos hc]; exact fun j hj => ⟨j, hj, rfl⟩
  · rw [if_neg hc]
    simp only
    obtain ⟨_, _, e⟩ := reattach_only st.nOrig _ _ 0
      { st with learned := _, lbd := _, watch := st.watch.map (·.filter (· < st.nOrig)), big := _ }
    rw [e]
    intro j hj
    dsimp only at hj ⊢
    obtain ⟨p, hp, hpe⟩ := List.mem_map.1 (get!_mem hj)
    have h1 := (List.mem_filter.1 hp).1
    have h2 := List.mem_of_getElem? (List.mem_zipIdx_iff_getElem?.1 h1)
    exact ⟨p.1, List.mem_range.1 ((List.mergeSort_perm _ _).mem_iff.1 h2), hpe.symm⟩

theorem einv_reduceDb {F st ever} (h : EInv F st ever) : EInv F (reduceDb st) ever := by
  refine ⟨fun hb j hj => ?_, fun hb => h.ever (reduceDb_nb st ▸ hb)⟩
  obtain ⟨i, hi, e⟩ := reduceDb_learned st j hj
  rw [e]; exact h.learned (reduceDb_nb st ▸ hb) i hi

theorem einv_of_blocked {F : Cnf} {st : St} {ever : Array (Array Int)} (h : st.nBlocking ≠ 0) : EInv F st ever :=
  ⟨fun hb => absurd hb h, fun hb => absurd hb h⟩

end Solvor.Sat.Cdcl
