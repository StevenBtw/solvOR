import Solvor.Sat.Model
/-! Sat: facts about the regenerated `luby()` loop (`Solvor.Gen.lubyLoop`, rewritten from
`solvor/sat.py` on every run).  They hold for the loop as repaired by
`proposed_fixes/C02_luby_loop.diff`; on the unrepaired source (`if i >= (1 << (k - 1))`)
`luby(2)` does not terminate, `lubyLoop n 2 1 = 0` for every `n`, and this file does not build. -/
namespace Solvor.Sat
open Solvor.Gen

theorem two_pow_pred (k : Nat) (h : 1 ≤ k) : 2 ^ k = 2 * 2 ^ (k - 1) :=
  (Nat.mul_comm _ _ ▸ Nat.two_pow_pred_mul_two h).symm

theorem luby_level_le (k : Nat) : k ≤ 2 ^ (k - 1) := Nat.le_of_pred_lt Nat.lt_two_pow_self

theorem luby_level_lt {i k : Nat} (hi : 2 ^ (k - 1) ≤ i) : k + 1 ≤ 2 * i :=
  Nat.two_mul i ▸ Nat.add_le_add (Nat.le_trans (luby_level_le k) hi) (Nat.le_trans (Nat.two_pow_pos _) hi)

/-- `2 * index + 2 - level` is the fuel a state is entitled to: a drop lowers it by at least one more than the level gained -/
theorem luby_drop_facts {i k : Nat} (hk : 1 ≤ k) (hi : 2 ^ (k - 1) ≤ i) (h : i < 2 ^ k - 1) :
    1 ≤ i - (2 ^ (k - 1) - 1) ∧ 2 * (i - (2 ^ (k - 1) - 1)) + 2 + k ≤ 2 * i + 2 := by
  have hkp := luby_level_le k
  have hp : 1 ≤ 2 ^ (k - 1) := Nat.two_pow_pos _
  rw [two_pow_pred k hk] at h
  replace h := Nat.add_lt_of_lt_sub h
  generalize 2 ^ (k - 1) = p at *
  obtain ⟨d, rfl⟩ := Nat.exists_eq_add_of_le hi
  rw [Nat.sub_add_comm (Nat.sub_le p 1), Nat.sub_sub_self hp]
  omega

theorem lubyLoop_succ (fuel i k : Nat) : lubyLoop (fuel + 1) i k =
    if i = 2 ^ k - 1 then 2 ^ (k - 1) else if i < 2 ^ k - 1 then lubyLoop fuel (i - (2 ^ (k - 1) - 1)) 1
    else lubyLoop fuel i (k + 1) := by
  rw [lubyLoop, Nat.one_shiftLeft, Nat.one_shiftLeft]

theorem lubyLoop_hit (fuel k : Nat) : lubyLoop (fuel + 1) (2 ^ k - 1) k = 2 ^ (k - 1) := by
  rw [lubyLoop_succ, if_pos rfl]

theorem lubyLoop_drop {fuel i k : Nat} (h : i < 2 ^ k - 1) :
    lubyLoop (fuel + 1) i k = lubyLoop fuel (i - (2 ^ (k - 1) - 1)) 1 := by
  rw [lubyLoop_succ, if_neg (Nat.ne_of_lt h), if_pos h]

theorem lubyLoop_up {fuel i k : Nat} (h : 2 ^ k - 1 < i) : lubyLoop (fuel + 1) i k = lubyLoop fuel i (k + 1) := by
  rw [lubyLoop_succ, if_neg (Nat.ne_of_gt h), if_neg (Nat.lt_asymm h)]

/-- from a state `(i, k)` with `2^(k-1) ≤ i`, fuel `2*i+2-k` suffices: going up a level costs one unit and lowers
`2*i+2-k` by one; a drop: `luby_drop_facts` -/
theorem lubyLoop_spec : ∀ (fuel i k : Nat), 1 ≤ k → 2 ^ (k - 1) ≤ i → 2 * i + 2 ≤ fuel + k →
    (∃ j, lubyLoop fuel i k = 2 ^ j) ∧ ∀ extra, lubyLoop (fuel + extra) i k = lubyLoop fuel i k := by
  intro fuel
  induction fuel with
  | zero =>
    intro i k hk hi hf
    rw [Nat.zero_add] at hf
    exact absurd (Nat.le_trans (Nat.le_trans (luby_level_lt hi) (Nat.le_add_right _ 2)) hf) (Nat.not_succ_le_self k)
  | succ fuel ih =>
    intro i k hk hi hf
    have shift : ∀ extra, fuel + 1 + extra = (fuel + extra) + 1 := fun _ => Nat.add_right_comm _ _ _
    rcases Nat.lt_trichotomy i (2 ^ k - 1) with h | h | h
    · obtain ⟨hpos, hdrop⟩ := luby_drop_facts hk hi h
      obtain ⟨a, b⟩ := ih (i - (2 ^ (k - 1) - 1)) 1 (Nat.le_refl 1) hpos
        (Nat.le_of_add_le_add_right (Nat.le_trans hdrop hf))
      exact ⟨by rw [lubyLoop_drop h]; exact a, fun extra => by rw [shift, lubyLoop_drop h, lubyLoop_drop h]; exact b extra⟩
    · subst h
      exact ⟨⟨k - 1, lubyLoop_hit fuel k⟩, fun extra => by rw [shift, lubyLoop_hit, lubyLoop_hit]⟩
    · obtain ⟨a, b⟩ := ih i (k + 1) (Nat.le_add_left 1 k) (by rw [Nat.add_sub_cancel]; exact Nat.le_of_pred_lt h)
        (by rw [← Nat.add_assoc, Nat.add_right_comm]; exact hf)
      exact ⟨by rw [lubyLoop_up h]; exact a, fun extra => by rw [shift, lubyLoop_up h, lubyLoop_up h]; exact b extra⟩

theorem lubyLoop_fuel {fuel i k : Nat} (hk : 1 ≤ k) (hi : 2 ^ (k - 1) ≤ i) (hf : 2 * i + 2 ≤ fuel + k) {n : Nat}
    (hn : fuel ≤ n) : lubyLoop n i k = lubyLoop fuel i k := by
  have := (lubyLoop_spec fuel i k hk hi hf).2 (n - fuel)
  rwa [Nat.add_sub_cancel' hn] at this

/-- the loop started by `luby i` climbs to the level `k` with `2^(k-1) ≤ i` first, one unit of fuel per level -/
theorem luby_climb {i : Nat} : ∀ {k : Nat}, 1 ≤ k → 2 ^ (k - 1) ≤ i → luby i = lubyLoop (2 * i + 2 - k + 1) i k := by
  intro k
  induction k with
  | zero => intro h; exact absurd h (Nat.not_succ_le_zero 0)
  | succ k ih =>
    intro _ hi
    rw [Nat.add_sub_cancel] at hi
    rcases Nat.eq_zero_or_pos k with rfl | hk
    · show lubyLoop (2 * i + 2) i 1 = lubyLoop (2 * i + 2 - 1 + 1) i 1
      rw [Nat.sub_add_cancel (Nat.le_add_left 1 _)]
    · have hlt := luby_level_lt (k := k + 1) (by rwa [Nat.add_sub_cancel])
      rw [ih hk (Nat.le_trans (Nat.pow_le_pow_right Nat.two_pos (Nat.sub_le k 1)) hi),
        show 2 * i + 2 - k + 1 = (2 * i + 2 - (k + 1) + 1) + 1 by
          rw [← Nat.sub_add_comm (Nat.le_trans (Nat.le_add_right _ 1) (Nat.le_trans hlt (Nat.le_add_right _ 2))),
            Nat.add_sub_add_right],
        lubyLoop_up (Nat.lt_of_lt_of_le (Nat.sub_lt (Nat.two_pow_pos _) Nat.one_pos) hi)]

theorem luby_at_pow (k : Nat) (hk : 1 ≤ k) : luby (2 ^ k - 1) = 2 ^ (k - 1) := by
  rw [luby_climb hk (Nat.le_sub_one_of_lt (Nat.pow_lt_pow_right (Nat.lt_succ_self 1) (Nat.sub_lt hk Nat.one_pos))),
    lubyLoop_hit]

theorem luby_rec (i k : Nat) (hk : 1 ≤ k) (h1 : 2 ^ (k - 1) ≤ i) (h2 : i < 2 ^ k - 1) :
    luby i = luby (i - (2 ^ (k - 1) - 1)) := by
  obtain ⟨hpos, hdrop⟩ := luby_drop_facts hk h1 h2
  rw [luby_climb hk h1, lubyLoop_drop h2]
  generalize i - (2 ^ (k - 1) - 1) = i' at hpos hdrop ⊢
  exact lubyLoop_fuel (Nat.le_refl 1) hpos (Nat.le_add_right _ 1) (Nat.le_sub_of_add_le hdrop)

end Solvor.Sat
