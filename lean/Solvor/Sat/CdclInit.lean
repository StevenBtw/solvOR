import Solvor.Sat.CdclMain
import Solvor.Common.ListLemmas
/-! Sat.CdclInit: the set-up code of `solve` (clause database, pure literals, unit clauses, first
`propagate`) establishes the loop invariant. -/
namespace Solvor.Sat.Cdcl

theorem foldl2_max_spec (F : List (List Int)) (n : Nat) :
    n ≤ F.foldl (fun n c => c.foldl (fun n l => max n l.natAbs) n) n ∧
    ∀ c ∈ F, ∀ l ∈ c, l.natAbs ≤ F.foldl (fun n c => c.foldl (fun n l => max n l.natAbs) n) n := by
  induction F generalizing n with
  | nil => exact ⟨Nat.le_refl _, fun _ h => nomatch h⟩
  | cons d t ih =>
    obtain ⟨h1, h2⟩ := ih (d.foldl (fun n l => max n l.natAbs) n)
    refine ⟨Nat.le_trans (foldl_max_spec Int.natAbs d n).1 h1, fun c hc l hl => ?_⟩
    rcases List.mem_cons.1 hc with rfl | hc
    · exact Nat.le_trans ((foldl_max_spec Int.natAbs c n).2 l hl) h1
    · exact h2 c hc l hl

theorem countVars_clause (F : List (List Int)) (as : List Int) (c : List Int) (hc : c ∈ F) (l : Int) (hl : l ∈ c) :
    l.natAbs ≤ countVars F as := by
  unfold countVars
  exact Nat.le_trans ((foldl2_max_spec F 0).2 c hc l hl) (foldl_max_spec Int.natAbs as _).1

theorem countVars_asm (F : List (List Int)) (as : List Int) (a : Int) (ha : a ∈ as) :
    a.natAbs ≤ countVars F as := by
  unfold countVars
  exact (foldl_max_spec Int.natAbs as _).2 a ha

theorem foldl_heapPush_mem (f : Nat → Float × Nat) : ∀ (vs : List Nat) (h0 : Array (Float × Nat)) (e : Float × Nat),
    e ∈ (vs.foldl (fun h v => heapPush h (f v)) h0).toList ↔ e ∈ h0.toList ∨ ∃ v ∈ vs, e = f v := by
  intro vs
  induction vs with
  | nil => intro h0 e; simp
  | cons a t ih =>
    intro h0 e
    simp only [List.foldl_cons]
    rw [ih, mem_heapPush]
    constructor
    · rintro ((rfl | h) | ⟨v, hv, rfl⟩)
      · exact Or.inr ⟨a, List.mem_cons_self, rfl⟩
      · exact Or.inl h
      · exact Or.inr ⟨v, List.mem_cons_of_mem _ hv, rfl⟩
    · rintro (h | ⟨v, hv, rfl⟩)
      · exact Or.inl (Or.inr h)
      · rcases List.mem_cons.1 hv with rfl | hv
        · exact Or.inl (Or.inl rfl)
        · exact Or.inr ⟨v, hv, rfl⟩

/-- (an entry of a `replicate` of empty lists is empty inside and outside the table: no range condition) -/
theorem wl_initSt (F : List (List Int)) (as : List Int) (N : Nat) (l : Int) :
    wl (initSt F as N) l = [] ∧ il (initSt F as N) l = [] := by
  have empty : ∀ {α} (n i : Nat), ((Array.replicate n (#[] : Array α))[i]!).toList = [] := fun n i => by
    rw [get!_replicate]; split <;> rfl
  exact ⟨empty _ _, empty _ _⟩

theorem hinv_initSt (F : List (List Int)) (as : List Int) (N : Nat) (ha : ∀ a ∈ as, a ≠ 0) : HInv (initSt F as N) := by
  have hheap : ∀ e, e ∈ (initSt F as N).heap.toList ↔ ∃ v ∈ List.range' 1 N, e = (-(0.0 : Float), v) := fun e =>
    (foldl_heapPush_mem (fun v => (-(0.0 : Float), v)) (List.range' 1 N) #[] e).trans (or_iff_right nofun)
  refine { isz := Array.size_replicate, vsz := Array.size_replicate, tr := nofun, he := fun e he => ?_
           entry := fun v hv1 hv2 => ?_, flag := fun v _ hv2 _ _ => ?_, t0 := nofun, anz := ha, lnz := nofun
           wlr := fun l idx hidx => ?_, bnz := fun l e he => ?_ }
  · obtain ⟨v, hv, rfl⟩ := (hheap e).1 he
    exact (List.mem_range'_1.1 hv).1
  · have hv2' : (Array.replicate (N + 1) true)[v]! = true := hv2
    rw [get!_replicate] at hv2'
    split at hv2'
    · exact ⟨_, (hheap _).2 ⟨v, List.mem_range'_1.2 ⟨hv1, by omega⟩, rfl⟩, rfl⟩
    · cases hv2'
  · exact (get!_replicate _ _ _).trans (if_pos (Nat.lt_succ_of_le hv2))
  · rw [(wl_initSt F as N l).1] at hidx; cases hidx
  · rw [(wl_initSt F as N l).2] at he; cases he

theorem pureList_pos (n : Nat) (F : List (List Int)) (as : List Int) : ∀ p ∈ pureList n F as, 1 ≤ p.1 := by
  intro p hp
  unfold pureList at hp
  simp only [List.mem_filterMap, List.mem_range'_1] at hp
  obtain ⟨v, ⟨hv1, _⟩, hf⟩ := hp
  split at hf
  · cases hf; exact hv1
  · split at hf
    · cases hf; exact hv1
    · cases hf

/-- the watch / implication lists while the first `i` input clauses have been attached -/
structure LoadInv (F : List (List Int)) (N : Nat) (st : St) (i : Nat) : Prop where
  clauses : st.clauses = (F.map List.toArray).toArray
  wsize : st.watch.size = 2 * (N + 1)
  bsize : st.big.size = 2 * (N + 1)
  ws : ∀ l c, c ∈ wl st l → c < i ∧ 3 ≤ (cl st c).size ∧ ((cl st c)[0]! = l ∨ (cl st c)[1]! = l)
  wn : ∀ l, (wl st l).Nodup
  wa : ∀ c, c < i → c < F.length → 3 ≤ (cl st c).size → c ∈ wl st (cl st c)[0]! ∧ c ∈ wl st (cl st c)[1]!
  ba : ∀ c, c < i → c < F.length → (cl st c).size = 2 →
    ((cl st c)[1]!, c) ∈ il st (cl st c)[0]! ∧ ((cl st c)[0]!, c) ∈ il st (cl st c)[1]!

theorem cl_of_clauses {F : List (List Int)} {st : St} (h : st.clauses = (F.map List.toArray).toArray)
    {c : Nat} (hc : c < F.length) : cl st c = F[c].toArray := by
  unfold cl; rw [h, get!_eq]; simp [hc]

theorem LoadInv.unit {F N st i a} (h : LoadInv F N st i) (hi : i < F.length) (hFi : F[i] = [a]) :
    LoadInv F N st (i + 1) := by
  have hcl : cl st i = #[a] := by rw [cl_of_clauses h.clauses hi, hFi]
  refine { clauses := h.clauses, wsize := h.wsize, bsize := h.bsize, ws := ?_, wn := h.wn, wa := ?_, ba := ?_ }
  · intro l c hc; obtain ⟨x, y, z⟩ := h.ws l c hc; exact ⟨by omega, y, z⟩
  · intro c hc hcF h3
    by_cases he : c = i
    · subst he; rw [hcl] at h3; simp at h3
    · exact h.wa c (by omega) hcF h3
  · intro c hc hcF h2
    by_cases he : c = i
    · subst he; rw [hcl] at h2; simp at h2
    · exact h.ba c (by omega) hcF h2

theorem LoadInv.binary {F N st i a b} (hf : FOK F N) (h : LoadInv F N st i) (hi : i < F.length) (hFi : F[i] = [a, b]) :
    LoadInv F N (bigAdd st a b i) (i + 1) := by
  have hcl : cl st i = #[a, b] := by rw [cl_of_clauses h.clauses hi, hFi]
  have hcF : [a, b] ∈ F := hFi ▸ List.getElem_mem hi
  have hra : litIdx a < st.big.size := by rw [h.bsize]; exact litIdx_lt (hf.rng _ hcF a (by simp))
  have hrb : litIdx b < st.big.size := by rw [h.bsize]; exact litIdx_lt (hf.rng _ hcF b (by simp))
  have hself := il_bigAdd_self st a b i hra hrb
  have hmono : ∀ l e, e ∈ il st l → e ∈ il (bigAdd st a b i) l := il_bigAdd_mono st a b i
  have hB : ((st.big.modify (litIdx a) (·.push (b, i))).modify (litIdx b) (·.push (a, i))).size = 2 * (N + 1) := by
    rw [Array.size_modify, Array.size_modify]; exact h.bsize
  -- from here on the new state is a record that differs from `st` in `big` only
  simp only [bigAdd] at hself hmono ⊢
  generalize (st.big.modify (litIdx a) (·.push (b, i))).modify (litIdx b) (·.push (a, i)) = B at hB hself hmono ⊢
  have hclsame : ∀ c, cl { st with big := B } c = cl st c := fun _ => rfl
  refine { clauses := h.clauses, wsize := h.wsize, bsize := hB, ws := ?_, wn := h.wn, wa := ?_, ba := ?_ }
  · intro l c hc; obtain ⟨x, y, z⟩ := h.ws l c hc; exact ⟨by omega, y, z⟩
  · intro c hc hcF h3
    rw [hclsame] at h3
    by_cases he : c = i
    · subst he; rw [hcl] at h3; simp at h3
    · exact h.wa c (by omega) hcF h3
  · intro c hc hcF' h2
    rw [hclsame] at h2 ⊢
    by_cases he : c = i
    · subst he
      rw [hcl]
      exact hself
    · obtain ⟨x, y⟩ := h.ba c (by omega) hcF' h2
      exact ⟨hmono _ _ x, hmono _ _ y⟩

theorem LoadInv.long {F N st i a b d t} (hf : FOK F N) (h : LoadInv F N st i) (hi : i < F.length)
    (hFi : F[i] = a :: b :: d :: t) : LoadInv F N (addWatch (addWatch st a i) b i) (i + 1) := by
  have hcl : cl st i = (a :: b :: d :: t).toArray := by rw [cl_of_clauses h.clauses hi, hFi]
  have hcF : a :: b :: d :: t ∈ F := hFi ▸ List.getElem_mem hi
  have hab : a ≠ b := by
    intro e; have hnd := hf.nodup _ hcF; subst e; simp at hnd
  have hra : litIdx a < st.watch.size := by rw [h.wsize]; exact litIdx_lt (hf.rng _ hcF a (by simp))
  have hrb : litIdx b < st.watch.size := by rw [h.wsize]; exact litIdx_lt (hf.rng _ hcF b (by simp))
  have hrb' : litIdx b < (addWatch st a i).watch.size := by
    unfold addWatch; simpa [Array.size_modify] using hrb
  have hW : ((st.watch.modify (litIdx a) (·.push i)).modify (litIdx b) (·.push i)).size = 2 * (N + 1) := by
    rw [Array.size_modify, Array.size_modify]; exact h.wsize
  have hwl : ∀ l, wl (addWatch (addWatch st a i) b i) l =
      if l = b then wl st l ++ [i] else if l = a then wl st l ++ [i] else wl st l := by
    intro l
    rw [wl_addWatch, wl_addWatch]
    by_cases hlb : l = b
    · subst hlb; simp [hrb', Ne.symm hab]
    · by_cases hla : l = a
      · subst hla; simp [hlb, hra]
      · simp [hlb, hla]
  -- `i` is in no list yet (`ws`: listed clauses are `< i`), so the lists stay duplicate-free
  have hnotin : ∀ l, i ∉ wl st l := by
    intro l hm; have := (h.ws l _ hm).1; omega
  -- from here on the new state is a record that differs from `st` in `watch` only
  simp only [addWatch] at hwl ⊢
  generalize (st.watch.modify (litIdx a) (·.push i)).modify (litIdx b) (·.push i) = W at hW hwl ⊢
  have hclsame : ∀ c, cl { st with watch := W } c = cl st c := fun _ => rfl
  have mono : ∀ l c, c ∈ wl st l → c ∈ wl { st with watch := W } l := by
    intro l c hm; rw [hwl]; split
    · exact List.mem_append_left _ hm
    · split
      · exact List.mem_append_left _ hm
      · exact hm
  have hnew : ∀ l, (wl st l ++ [i]).Nodup := fun l => Solvor.nodup_concat (h.wn l) (hnotin l)
  refine { clauses := h.clauses, wsize := hW, bsize := h.bsize, ws := ?_, wn := ?_, wa := ?_, ba := ?_ }
  · intro l c hc
    rw [hwl] at hc
    rw [hclsame]
    have old : c ∈ wl st l → c < i + 1 ∧ 3 ≤ (cl st c).size ∧ ((cl st c)[0]! = l ∨ (cl st c)[1]! = l) := by
      intro hm; obtain ⟨x, y, z⟩ := h.ws l c hm; exact ⟨by omega, y, z⟩
    have new : l = a ∨ l = b → c ∈ [i] → c < i + 1 ∧ 3 ≤ (cl st c).size ∧ ((cl st c)[0]! = l ∨ (cl st c)[1]! = l) := by
      intro hl hm
      rw [List.mem_singleton] at hm; subst hm
      rw [hcl]; exact ⟨by omega, by simp, by rcases hl with rfl | rfl <;> simp⟩
    split at hc
    · rename_i hlb
      exact (List.mem_append.1 hc).elim old (new (Or.inr hlb))
    · split at hc
      · rename_i hla
        exact (List.mem_append.1 hc).elim old (new (Or.inl hla))
      · exact old hc
  · intro l
    rw [hwl]
    split
    · exact hnew l
    · split
      · exact hnew l
      · exact h.wn l
  · intro c hc hcF' h3
    rw [hclsame] at h3 ⊢
    by_cases he : c = i
    · subst he
      rw [hcl, hwl, hwl]
      simp [hab]
    · obtain ⟨x, y⟩ := h.wa c (by omega) hcF' h3
      exact ⟨mono _ _ x, mono _ _ y⟩
  · intro c hc hcF' h2
    rw [hclsame] at h2 ⊢
    by_cases he : c = i
    · subst he; rw [hcl] at h2; simp at h2
    · exact h.ba c (by omega) hcF' h2

theorem loadClauses_spec {F : List (List Int)} {N : Nat} (hf : FOK F N) {st st' : St} {us : List (Int × Nat)}
    (h0 : LoadInv F N st 0) (hH : HInv st) (hn : F.length ≤ st.nOrig) (hs : loadClauses F 0 st [] = some (st', us)) :
    LoadInv F N st' F.length ∧ (∀ idx (h : idx < F.length), ∀ a, F[idx] = [a] → (a, idx) ∈ us) ∧ HInv st' ∧
      (∀ e ∈ us, e.1 ≠ 0) ∧ ∃ W B, st' = { st with watch := W, big := B } := by
  have more : ∀ {i : Nat} {us : List (Int × Nat)} (hi : i < F.length), (∀ a, F[i] ≠ [a]) →
      (∀ idx (h : idx < F.length), idx < i → ∀ a, F[idx] = [a] → (a, idx) ∈ us) →
      ∀ idx (h : idx < F.length), idx < i + 1 → ∀ a, F[idx] = [a] → (a, idx) ∈ us := by
    intro i us hi hn hu idx h hidx a ha
    by_cases he : idx = i
    · subst he; exact absurd ha (hn a)
    · exact hu idx h (by omega) a ha
  have hlit : ∀ i (hi : i < F.length), ∀ l ∈ F[i], l ≠ 0 := fun i hi => hf.nz _ (List.getElem_mem hi)
  obtain ⟨acc, rfl, hl, hu, hH', hz, e⟩ := loadClauses_ind (F := F)
    (R := fun i s us => LoadInv F N s i ∧ (∀ idx (h : idx < F.length), idx < i → ∀ a, F[idx] = [a] → (a, idx) ∈ us) ∧
      HInv s ∧ (∀ e ∈ us, e.1 ≠ 0) ∧ ∃ W B, s = { st with watch := W, big := B })
    (fun i hi s us a hFi h => by
      obtain ⟨hl, hu, hH, hz, e⟩ := h
      refine ⟨hl.unit hi hFi, fun idx hidx hlt b hb => ?_, hH,
        List.forall_mem_cons.2 ⟨hlit i hi a (by rw [hFi]; exact List.mem_singleton_self _), hz⟩, e⟩
      by_cases he : idx = i
      · subst he; rw [hFi] at hb; cases hb; exact List.mem_cons_self
      · exact List.mem_cons_of_mem _ (hu idx hidx (by omega) b hb))
    (fun i hi s us a b hFi h => by
      obtain ⟨hl, hu, hH, hz, W, B, rfl⟩ := h
      refine ⟨hl.binary hf hi hFi, more hi (fun x hx => by rw [hFi] at hx; cases hx) hu,
        hinv_bigAdd hH (hlit i hi a (by rw [hFi]; simp)) (hlit i hi b (by rw [hFi]; simp)) i, hz, ?_⟩
      unfold bigAdd; exact ⟨_, _, rfl⟩)
    (fun i hi s us a b d t hFi h => by
      obtain ⟨hl, hu, hH, hz, W, B, rfl⟩ := h
      have hok : st.nOrig ≤ i → i - st.nOrig < st.learned.size ∧ 2 ≤ (st.learned[i - st.nOrig]!).size :=
        fun hh => absurd (Nat.lt_of_lt_of_le hi (Nat.le_trans hn hh)) (Nat.lt_irrefl _)
      refine ⟨hl.long hf hi hFi, more hi (fun x hx => by rw [hFi] at hx; cases hx) hu,
        hinv_addWatch (hinv_addWatch hH a i hok) b i hok, hz, ?_⟩
      unfold addWatch; exact ⟨_, _, rfl⟩)
    F [] st [] st' us rfl ⟨h0, fun _ _ hidx => absurd hidx (Nat.not_lt_zero _), hH, (fun _ he => nomatch he), _, _, rfl⟩ hs
  exact ⟨hl, fun idx h a ha => List.mem_reverse.2 (hu idx h h a ha), hH', fun e he => hz e (List.mem_reverse.1 he), e⟩

theorem initSt_loadInv (F : List (List Int)) (as : List Int) (N : Nat) : LoadInv F N (initSt F as N) 0 := by
  have hw : ∀ l, wl (initSt F as N) l = [] := fun l => (wl_initSt F as N l).1
  refine { clauses := rfl, wsize := by simp [initSt], bsize := by simp [initSt], ws := ?_, wn := ?_, wa := ?_, ba := ?_ }
  · intro l c hc; rw [hw] at hc; cases hc
  · intro l; rw [hw]; exact List.nodup_nil
  · intro c hc; omega
  · intro c hc; omega

theorem inv_of_loaded {F : List (List Int)} {N : Nat} {st : St} (hf : FOK F N) (hl : LoadInv F N st F.length)
    (hv : st.vals = Array.replicate (N + 1) UNDEF) (hlv : st.levels.size = N + 1)
    (ht : st.trail = #[]) (htl : st.trailLim = #[]) (hn : st.nVars = N) (ho : st.nOrig = F.length) :
    Inv F st 0 := by
  have hval : ∀ v, v ≤ N → valAt st v = UNDEF := by
    intro v hv'; unfold valAt; rw [hv, get!_eq, Array.getElem?_replicate]
    have : v < N + 1 := by omega
    simp [this]
  have hvr : ∀ v, valAt st v ≤ 2 := by
    intro v; unfold valAt; rw [hv, get!_eq, Array.getElem?_replicate]; split <;> simp [UNDEF]
  have hproc : ∀ w, ¬ Proc st 0 w := by rintro w ⟨i, hi, _⟩; omega
  refine { nOrig := ho, csize := by rw [hl.clauses]; simp
           perm := ?_, fok := hn ▸ hf, vsize := by rw [hv, hn]; simp, vrange := hvr, lsize := by rw [hlv, hn]
           wsize := by rw [hl.wsize, hn]
           tnodup := by rw [ht]; exact List.nodup_nil
           tmem := ?_, limSorted := ?_, limLe := ?_, kLe := Nat.zero_le _, tl := ?_, lvlLe := ?_
           wsound := fun l c hc _ => (hl.ws l c hc).2
           wnodup := fun l => (List.filter_sublist).nodup (hl.wn l)
           wattach := fun c hc h3 => hl.wa c hc hc h3
           wsem := fun c _ _ => ⟨fun _ hp => absurd hp (hproc _), fun _ hp => absurd hp (hproc _)⟩
           battach := fun c hc h2 => hl.ba c hc hc h2
           bsem := fun c _ _ => ⟨fun _ hp => absurd hp (hproc _), fun _ hp => absurd hp (hproc _)⟩ }
  · intro c hc; rw [cl_of_clauses hl.clauses hc]
  · intro v; rw [ht, hn]
    constructor
    · intro hm; simp at hm
    · rintro ⟨a, b⟩; exact absurd (hval v a) b
  · intro j1 j2 _ hj; rw [htl] at hj; simp at hj
  · intro j hj; rw [htl] at hj; simp at hj
  · intro i j hi; rw [ht] at hi; simp at hi
  · intro i hi; rw [ht] at hi; simp at hi

theorem pureSteps_spec {F k x} : ∀ (ps : List (Nat × Bool)) (st : St), Inv F st k → HInvX st x → (∀ p ∈ ps, 1 ≤ p.1) →
    Inv F (ps.foldl pureStep st) k ∧ HInvX (ps.foldl pureStep st) x ∧ Ext1 st (ps.foldl pureStep st) := by
  intro ps
  induction ps with
  | nil => intro st h hH _; exact ⟨h, hH, .refl _⟩
  | cons p t ih =>
    intro st h hH hp
    obtain ⟨hp1, ht⟩ := List.forall_mem_cons.1 hp
    simp only [List.foldl_cons]
    unfold pureStep
    split
    · rename_i hu
      obtain ⟨_, h0, hH0, e0⟩ := assert_spec h hH (Nat.ne_of_gt hp1) hu p.2 (-1)
      obtain ⟨a, b, c⟩ := ih _ h0 hH0 ht
      exact ⟨a, b, e0.trans c⟩
    · exact ih _ h hH ht

theorem loadUnits_spec {F k x} : ∀ {us : List (Int × Nat)} {st st' : St}, Inv F st k → HInvX st x → (∀ e ∈ us, e.1 ≠ 0) →
    loadUnits us st = some st' →
    Inv F st' k ∧ HInvX st' x ∧ Ext1 st st' ∧ ∀ e ∈ us, IsTrue st' e.1 := by
  intro us
  induction us with
  | nil =>
    intro st st' h hH _ hs
    simp only [loadUnits, Option.some.injEq] at hs; subst hs
    exact ⟨h, hH, .refl _, fun _ he => nomatch he⟩
  | cons e t ih =>
    intro st st' h hH hnz hs
    obtain ⟨lit, idx⟩ := e
    obtain ⟨hl, ht⟩ := List.forall_mem_cons.1 hnz
    unfold loadUnits at hs
    split at hs
    · rename_i hu
      obtain ⟨hu', h0, hH0, e0⟩ := assert_spec h hH (Int.natAbs_ne_zero.2 hl) hu (decide (0 < lit)) idx
      obtain ⟨a, b, c, d⟩ := ih h0 hH0 ht hs
      exact ⟨a, b, e0.trans c, List.forall_mem_cons.2 ⟨c.isTrue (isTrue_assign hu' _), d⟩⟩
    · rename_i hu
      split at hs
      · cases hs
      · rename_i hne
        obtain ⟨a, b, c, d⟩ := ih h hH ht hs
        exact ⟨a, b, c, List.forall_mem_cons.2 ⟨c.isTrue (isTrue_of_tests hu hne), d⟩⟩

/-- a good answer whose enumeration, if it returns one, passed `distinctB` over the variables `1..n` -/
abbrev OutGoodD (F : List (List Int)) (as : List Int) (P : Params) (n : Nat) (o : Out) : Prop :=
  OutGood F as P o ∧ ∀ ms, o.solutions = some ms → Solvor.Sat.distinctB (List.range' 1 n) ms = true

theorem outGood_empty {F : List (List Int)} {as : List Int} (hne : ∀ c ∈ F, c ≠ []) (has : as = [])
    (h0 : countVars F as = 0) (P : Params) (L : Loop) (fuel : Nat) (n : Nat) :
    OutGoodD F as P n (mkOut L .OPTIMAL (some []) none fuel) := by
  refine ⟨optimal_good L [] none fuel ⟨?_, ?_, ?_⟩ (fun _ e => nomatch e), fun _ e => nomatch e⟩
  · intro c hc
    obtain ⟨l, t, rfl⟩ := List.exists_cons_of_ne_nil (hne c hc)
    exact ⟨l, List.mem_cons_self, by simp [List.lookup]⟩
  · intro a ha; rw [has] at ha; cases ha
  · intro v hv1 hv2; omega

theorem stored_initSt (F : List (List Int)) (as : List Int) (N : Nat) : stored (initSt F as N) = F := by
  unfold stored initSt
  simp only [List.map_map]
  exact List.map_id'' (fun _ => rfl) F

theorem einv_initSt (F : List (List Int)) (as : List Int) (N : Nat) : EInv F (initSt F as N) #[] :=
  ⟨fun _ j hj => by simp [initSt] at hj, fun _ C hC => by simp at hC⟩

theorem guardDistinct_good {F as P} (n : Nat) (o : Out) (h : OutGood F as P o) : OutGood F as P (guardDistinct n o) := by
  unfold guardDistinct
  split
  · split
    · exact h
    · exact { sol := (fun _ e => nomatch e), sols := (fun _ e => nomatch e), infeasible := (fun e => nomatch e),
              optimal := (fun e => nomatch e), maxIter := (fun e => nomatch e), status := .inr (.inr (.inr rfl)),
              note := by show ("GUARD" : String) ≠ "FUEL"; decide }
  · exact h

theorem guardDistinct_distinct (n : Nat) (o : Out) (ms : List (List (Nat × Bool)))
    (h : (guardDistinct n o).solutions = some ms) : Solvor.Sat.distinctB (List.range' 1 n) ms = true := by
  unfold guardDistinct at h
  split at h
  · rename_i ms' hms'
    split at h
    · rename_i hd
      rw [hms'] at h
      cases h
      exact hd
    · cases h
  · rename_i hn; rw [hn] at h; cases h

theorem finishInf_empty_solutions (usePure : Bool) (st : St) (fuel : Nat) :
    (finishInf usePure (emptyLoop st) fuel).solutions = none := by
  unfold finishInf
  have : ¬ (emptyLoop st).all.size > 0 := by simp [emptyLoop]
  simp only [this, if_false]
  split <;> rfl

/-- the state during the set-up code of `solve`, from the loaded clause database to the first `propagate`:
decision level 0, nothing propagated, the learned clauses of `initSt` (none) -/
structure Setup (F : List (List Int)) (as : List Int) (N : Nat) (st : St) : Prop where
  inv : Inv F st 0
  hinv : HInv st
  lp : LPerm (initSt F as N) st
  asm : st.assumptions = as
  nv : st.nVars = N
  ph : st.propHead = 0
  lim : st.trailLim = #[]

theorem Setup.ext {F as N st st'} (s : Setup F as N st) (hI : Inv F st' 0) (hH : HInv st') (e : Ext1 st st') :
    Setup F as N st' :=
  { inv := hI, hinv := hH, lp := s.lp.trans e.lp, asm := e.asm.trans s.asm, nv := e.nV.trans s.nv, ph := e.ph.trans s.ph
    lim := e.lim.trans s.lim }

theorem setupExit_good {F as N P st st'} (lp : LPerm (initSt F as N) st) (hasm : st.assumptions = as)
    (hcnf : ∀ σ, Solvor.Sat.cnfTrue σ (stored st) = Solvor.Sat.cnfTrue σ F) (e1 : st'.clauses = st.clauses)
    (e2 : st'.learned = st.learned) (e3 : st'.nBlocking = st.nBlocking) (e4 : st'.assumptions = st.assumptions)
    (usePure : Bool) (n : Nat) : OutGoodD F as P n (finishInf usePure (emptyLoop st') 0) := by
  have lp' := lp.trans (lperm_of_eq e2 e3)
  refine ⟨finishInf_good _ _ _ (fun m hm => nomatch hm) (fun σ => ?_) ((einv_initSt F as N).lperm lp')
    (fun _ => lp'.nb) (e4.trans hasm), fun ms h => by rw [finishInf_empty_solutions] at h; cases h⟩
  show Solvor.Sat.cnfTrue σ (stored st') = _
  unfold stored; rw [e1]; exact hcnf σ

theorem setup_loaded {F : List (List Int)} {as : List Int} {N : Nat} (hf : FOK F N) (ha0 : ∀ a ∈ as, a ≠ 0)
    {st1 : St} {units : List (Int × Nat)} (hload : loadClauses F 0 (initSt F as N) [] = some (st1, units)) :
    Setup F as N st1 ∧ st1.clauses = (F.map List.toArray).toArray ∧
    (∀ idx (h : idx < F.length), ∀ a, F[idx] = [a] → (a, idx) ∈ units) ∧ ∀ e ∈ units, e.1 ≠ 0 := by
  obtain ⟨hl1, hu1, hH1, hunz, W, B, rfl⟩ :=
    loadClauses_spec hf (initSt_loadInv F as N) (hinv_initSt F as N ha0) (by simp [initSt]) hload
  have hinv1 := inv_of_loaded hf hl1 rfl (by simp [initSt]) rfl rfl rfl (by simp [initSt])
  exact ⟨{ inv := hinv1, hinv := hH1, lp := lperm_of_eq rfl rfl, asm := rfl, nv := rfl, ph := rfl, lim := rfl },
    hl1.clauses, hu1, hunz⟩

/-- (the stages of the set-up code of `solve`, each handing a `Setup` to the next by its frame) -/
theorem solve_good (F : List (List Int)) (as : List Int) (P : Params)
    (hnd : ∀ c ∈ F, c.Nodup) (hnz : ∀ c ∈ F, ∀ l ∈ c, l ≠ 0) (hne : ∀ c ∈ F, c ≠ []) (ha0 : ∀ a ∈ as, a ≠ 0) :
    OutGood F as P (solve F as P) ∧
    ∀ ms, (solve F as P).solutions = some ms → Solvor.Sat.distinctB (List.range' 1 (countVars F as)) ms = true := by
  show OutGoodD F as P (countVars F as) (solve F as P)
  unfold solve
  split
  · rename_i he
    simp only [Bool.and_eq_true, List.isEmpty_iff] at he
    exact outGood_empty hne he.2 (by rw [he.1, he.2]; rfl) _ _ _ _
  · simp only
    split
    · rename_i h0
      have h0' : countVars F as = 0 := by simpa using h0
      have has : as = [] := by
        cases as with
        | nil => rfl
        | cons a t =>
          have := countVars_asm F (a :: t) a List.mem_cons_self
          have := ha0 a List.mem_cons_self
          omega
      exact outGood_empty hne has h0' _ _ _ _
    · have hf : FOK F (countVars F as) := ⟨hnd, hnz, fun c hc l hl => countVars_clause F as c hc l hl⟩
      generalize hN : countVars F as = N at hf
      have haN : ∀ a ∈ as, a ≠ 0 ∧ a.natAbs ≤ N := fun a ha => ⟨ha0 a ha, hN ▸ countVars_asm F as a ha⟩
      split
      · apply setupExit_good (LPerm.refl _) rfl (fun σ => by rw [stored_initSt]) <;> rfl
      · rename_i st1 units hload
        obtain ⟨s1, hcl1, hu1, hunz⟩ := setup_loaded hf ha0 hload
        -- pure literals
        generalize hst2 : (if P.solutionLimit ≤ 1 then pureLits st1 F as else st1) = st2
        have h2 : Setup F as N st2 ∧ Ext1 st1 st2 := by
          subst hst2
          split
          · rw [pureLits_eq]
            obtain ⟨a, b, c⟩ := pureSteps_spec (pureList st1.nVars F as) _ s1.inv s1.hinv (pureList_pos _ _ _)
            exact ⟨s1.ext a b c, c⟩
          · exact ⟨s1, .refl _⟩
        obtain ⟨s2, ext2⟩ := h2
        split
        · apply setupExit_good s2.lp s2.asm (cnfTrue_stored s2.inv) <;> rfl
        · rename_i st3 hunits
          -- unit clauses
          obtain ⟨hinv3, hH3, ext3, ht3⟩ := loadUnits_spec s2.inv s2.hinv hunz hunits
          have s3 := s2.ext hinv3 hH3 ext3
          have ext13 := ext2.trans ext3
          have hlim3 : st3.trailLim.size = 0 := by rw [s3.lim]; rfl
          have hzu : ∀ c, c < F.length → (cl st3 c).size = 1 → True0 st3 (cl st3 c)[0]! := by
            intro c hc h1
            have hsz1 := h1
            rw [← perm_unit (ext13.cperm c) h1] at hsz1 ⊢
            have hcl := cl_of_clauses hcl1 hc
            rw [hcl] at hsz1
            have hlen : F[c].length = 1 := by simpa using hsz1
            obtain ⟨a, hFa⟩ := List.length_eq_one_iff.1 hlen
            have h0 : (cl st1 c)[0]! = a := by rw [hcl, hFa]; rfl
            rw [h0]
            have ht := ht3 _ (hu1 c hc a hFa)
            refine ⟨ht, ?_⟩
            have hr : a.natAbs ≤ st3.nVars := by
              rw [s3.nv]; exact hf.rng _ (List.getElem_mem hc) a (by rw [hFa]; simp)
            have := hinv3.lvlLeOf hr ht.assigned
            omega
          -- the first `propagate`
          generalize hpr : propagate st3 = pr
          obtain ⟨st4, c0⟩ := pr
          have hinv3' : Inv F st3 st3.propHead := by rw [s3.ph]; exact hinv3
          obtain ⟨pr4, t4⟩ := propagate_spec hinv3' s3.hinv hpr
          obtain ⟨_, hinv4⟩ := pr4.inv
          have ext4 := pr4.ext
          have lp4 := s3.lp.trans ext4.lp
          have hasm4 : st4.assumptions = as := ext4.asm.trans s3.asm
          have hnv4 : st4.nVars = N := ext4.nV.trans s3.nv
          have hl4 : st4.trailLim.size = 0 := by rw [ext4.lim]; exact hlim3
          simp only
          split
          · apply setupExit_good lp4 hasm4 (cnfTrue_stored hinv4) <;> rfl
          · rename_i hnc
            refine ⟨guardDistinct_good _ _ ?_, guardDistinct_distinct _ _⟩
            apply run_spec P st4.decisions
            rotate_left
            · show loopFuel P.maxConflicts P.solutionLimit st4.nVars ≤ 0 + loopFuel P.maxConflicts P.solutionLimit N
              rw [hnv4]; omega
            have pre : LoopPre F as P st4.decisions st4 #[] #[] 0 0 (pend c0) 0 :=
              { good := fun m hm => nomatch hm
                asm := hasm4
                aok := fun a ha => by rw [hnv4]; exact haN a ha
                ne := hne
                nv := hnv4.trans hN.symm
                hinv := pr4.hinv
                einv := (einv_initSt F as N).lperm lp4
                noblk := fun _ => lp4.nb
                c_it := (Nat.zero_add _).trans (Nat.add_zero _).symm
                c_lt := by rw [pr4.con]; omega
                c_a := Nat.zero_le _
                c_d := Nat.le_trans (Nat.le_add_right _ _) (Nat.le_add_right _ _)
                c_lvl := by omega
                c_reg := Or.inr (by omega) }
            refine ⟨pre, ?_⟩
            · show After F st4 c0
              refine { inv := pr4.inv, ok := pr4.ok, nf := pr4.nf, z := fun hna => ?_ }
              cases c0 with
              | ok =>
                obtain ⟨a, _⟩ := pr4.ok rfl
                refine ⟨?_, ?_⟩
                · intro c hc h1
                  have hsz3 := h1
                  rw [← perm_unit (ext4.cperm c) h1] at hsz3 ⊢
                  obtain ⟨x, y⟩ := hzu c hc hsz3
                  exact ⟨ext4.isTrue x, by rw [ext4.lvl x.assigned]; exact y⟩
                · intro x hx
                  have hx3 : x ∈ st3.assumptions := ext4.asm ▸ hx
                  have ht := t4 rfl hlim3 x hx3
                  refine ⟨ht, ?_⟩
                  have hr : x.natAbs ≤ st4.nVars := by rw [hnv4]; exact (haN x (s3.asm ▸ hx3)).2
                  have := a.lvlLeOf hr ht.assigned
                  omega
              | conflict idx => exact absurd rfl (hnc idx)
              | assumption => exact absurd rfl hna
              | fuel => exact absurd rfl pr4.nf

end Solvor.Sat.Cdcl
