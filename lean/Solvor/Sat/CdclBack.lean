import Solvor.Sat.CdclOps
/-! Sat.CdclBack: `unassignTo` (backjump / restart) keeps the invariant; everything at or below
the target level stays assigned. -/
namespace Solvor.Sat.Cdcl

/-- fields `popTrail` does not touch (no lemma is stated with it: `popTrail_only` says the same by equation) -/
structure PopFrame (st st' : St) : Prop where
  nVars : st'.nVars = st.nVars
  nOrig : st'.nOrig = st.nOrig
  asm : st'.assumptions = st.assumptions
  clauses : st'.clauses = st.clauses
  levels : st'.levels = st.levels
  trailLim : st'.trailLim = st.trailLim
  watch : st'.watch = st.watch
  big : st'.big = st.big
  vsize : st'.vals.size = st.vals.size

theorem popOne_trail (st : St) : (popOne st).trail = st.trail.pop := by
  unfold popOne
  simp only
  split <;> rfl

theorem popOne_vals (st : St) : (popOne st).vals = st.vals.set! st.trail.back! UNDEF := by
  unfold popOne
  simp only
  split <;> rfl

theorem popTrail_cut (target : Nat) : ∀ (fuel : Nat) (st : St), st.trail.size ≤ target + fuel →
    (popTrail target fuel st).trail.toList = st.trail.toList.take target ∧
    (popTrail target fuel st).vals.size = st.vals.size ∧
    ∀ v, (popTrail target fuel st).vals[v]! =
      if v ∈ st.trail.toList.drop target ∧ v < st.vals.size then UNDEF else st.vals[v]! := by
  have stop : ∀ st : St, st.trail.size ≤ target → st.trail.toList = st.trail.toList.take target ∧
      st.vals.size = st.vals.size ∧ ∀ v, st.vals[v]! =
        if v ∈ st.trail.toList.drop target ∧ v < st.vals.size then UNDEF else st.vals[v]! := by
    intro st hle
    have hl : st.trail.toList.length ≤ target := by rw [Array.length_toList]; exact hle
    refine ⟨(List.take_of_length_le hl).symm, rfl, fun v => ?_⟩
    rw [List.drop_of_length_le hl, if_neg fun h => absurd h.1 List.not_mem_nil]
  intro fuel
  induction fuel with
  | zero => intro st hsz; exact stop st hsz
  | succ fuel ih =>
    intro st hsz
    unfold popTrail
    split
    · rename_i hle; exact stop st hle
    · rename_i hgt
      have hpos : 0 < st.trail.size := Nat.lt_of_le_of_lt (Nat.zero_le _) (Nat.not_le.1 hgt)
      obtain ⟨ht, hs, hv⟩ := ih (popOne st) (by rw [popOne_trail, Array.size_pop]; omega)
      rw [popOne_trail] at ht hv
      rw [popOne_vals, Array.size_set!] at hs hv
      have hys : st.trail.toList = st.trail.pop.toList ++ [st.trail.back!] := toList_eq_pop_append_last st.trail hpos
      have htl : target ≤ st.trail.pop.toList.length := by rw [Array.length_toList, Array.size_pop]; omega
      refine ⟨?_, hs, fun v => ?_⟩
      · rw [ht, hys, List.take_append_of_le_length htl]
      · rw [hv v, get!_set!, hys, List.drop_append_of_le_length htl]
        simp only [List.mem_append, List.mem_singleton]
        by_cases h1 : v ∈ st.trail.pop.toList.drop target ∧ v < st.vals.size
        · rw [if_pos h1, if_pos ⟨Or.inl h1.1, h1.2⟩]
        · rw [if_neg h1]
          by_cases h2 : st.trail.back! = v ∧ st.trail.back! < st.vals.size
          · rw [if_pos h2, if_pos ⟨Or.inr h2.1.symm, h2.1 ▸ h2.2⟩]
          · rw [if_neg h2, if_neg]
            rintro ⟨h3 | h3, h4⟩
            · exact h1 ⟨h3, h4⟩
            · exact h2 ⟨h3.symm, h3 ▸ h4⟩

/-- what a backjump to `level` does to the assignment -/
structure Back (st st' : St) (level : Nat) : Prop where
  nVars : st'.nVars = st.nVars
  nOrig : st'.nOrig = st.nOrig
  asm : st'.assumptions = st.assumptions
  clauses : st'.clauses = st.clauses
  levels : st'.levels = st.levels
  watch : st'.watch = st.watch
  big : st'.big = st.big
  keep : ∀ v, lvlAt st v ≤ level → valAt st' v = valAt st v
  gone : ∀ v, v ≤ st.nVars → valAt st v ≠ UNDEF → level < lvlAt st v → valAt st' v = UNDEF
  undef : ∀ v, valAt st v = UNDEF → valAt st' v = UNDEF

/-- cutting the trail at the mark of decision level `level` (`tr`), with the variables above the mark unassigned
(`vs`) and the marks from `level` on dropped: the invariant holds up to the end of what is left -/
theorem inv_truncate {F st k level} (h : Inv F st k) (hl : level < st.trailLim.size) {tr vs : Array Nat}
    {ph ih : Array Bool} {hp : Array (Float × Nat)}
    (htr : tr.toList = st.trail.toList.take st.trailLim[level]!) (hvs : vs.size = st.vals.size)
    (hval : ∀ v, vs[v]! = if v ∈ st.trail.toList.drop st.trailLim[level]! then UNDEF else st.vals[v]!) :
    let s1 : St := { st with trailLim := st.trailLim.extract 0 level, propHead := tr.size, trail := tr, phase := ph,
                             vals := vs, heap := hp, inHeap := ih }
    Inv F s1 tr.size ∧ Back st s1 level := by
  intro s1
  have tgt_le_k : st.trailLim[level]! ≤ k := h.limLe level hl
  have tgt_le : st.trailLim[level]! ≤ st.trail.size := Nat.le_trans tgt_le_k h.kLe
  have hsize : tr.size = st.trailLim[level]! := by
    have := congrArg List.length htr
    rwa [Array.length_toList, List.length_take, Array.length_toList, Nat.min_eq_left tgt_le] at this
  have htget : ∀ i, i < st.trailLim[level]! → tr[i]! = st.trail[i]! :=
    fun i hi => get!_toList_take st.trail tr _ i htr hi
  have hmin : min level st.trailLim.size - 0 = level := by rw [Nat.sub_zero, Nat.min_eq_left (Nat.le_of_lt hl)]
  have hlimsz : (st.trailLim.extract 0 level).size = level := by rw [Array.size_extract, hmin]
  have hlimget : ∀ j, j < level → (st.trailLim.extract 0 level)[j]! = st.trailLim[j]! := by
    intro j hj
    rw [get!_eq, get!_eq, Array.getElem?_extract, hmin, if_pos hj, Nat.zero_add]
  have dropLvl : ∀ v, v ∈ st.trail.toList.drop (st.trailLim[level]!) → level < lvlAt st v := by
    intro v hvm
    obtain ⟨i, hi⟩ := List.mem_iff_getElem?.1 hvm
    rw [List.getElem?_drop] at hi
    have hlt : st.trailLim[level]! + i < st.trail.size := by
      have := (List.getElem?_eq_some_iff.1 hi).1; simpa using this
    have hget : st.trail[st.trailLim[level]! + i]! = v := by
      rw [get!_eq, ← Array.getElem?_toList, hi]; rfl
    have := (h.tl _ level hlt hl).1 (Nat.le_add_right _ _)
    rw [hget] at this; exact this
  have takeLvl : ∀ i, i < st.trailLim[level]! → lvlAt st (st.trail[i]!) ≤ level := fun i hi =>
    Nat.le_of_not_lt fun hn => Nat.not_le.2 hi ((h.tl i level (Nat.lt_of_lt_of_le hi tgt_le) hl).2 hn)
  have hkeep : ∀ v, lvlAt st v ≤ level → valAt s1 v = valAt st v := by
    intro v hle
    show vs[v]! = st.vals[v]!
    rw [hval, if_neg fun hm => Nat.not_le.2 (dropLvl v hm) hle]
  have hsem : ∀ w o, Sem2 st k w o → Sem2 s1 tr.size w o := by
    intro w o hs hf hp
    obtain ⟨i, hi, _, hti⟩ := hp
    rw [hsize] at hi
    have hti' : st.trail[i]! = w.natAbs := (htget i hi).symm.trans hti
    have hlw : lvlAt st w.natAbs ≤ level := by rw [← hti']; exact takeLvl i hi
    have hf' : IsFalse st w := hf.congr (hkeep _ hlw).symm
    obtain ⟨ht, hle⟩ := hs hf' ⟨i, Nat.lt_of_lt_of_le hi tgt_le_k, Nat.lt_of_lt_of_le hi tgt_le, hti'⟩
    exact ⟨ht.congr (hkeep _ (Nat.le_trans hle hlw)), hle⟩
  refine ⟨{ nOrig := h.nOrig, csize := h.csize, perm := h.perm, fok := h.fok, vsize := hvs.trans h.vsize
            vrange := ?_, lsize := h.lsize, wsize := h.wsize
            tnodup := by show tr.toList.Nodup; rw [htr]; exact (List.take_sublist _ _).nodup h.tnodup
            tmem := ?_, limSorted := ?_, limLe := ?_, kLe := Nat.le_refl _, tl := ?_, lvlLe := ?_
            wsound := h.wsound, wnodup := h.wnodup, wattach := h.wattach
            wsem := fun c hc h3 => ⟨hsem _ _ (h.wsem c hc h3).1, hsem _ _ (h.wsem c hc h3).2⟩
            battach := h.battach
            bsem := fun c hc h2 => ⟨hsem _ _ (h.bsem c hc h2).1, hsem _ _ (h.bsem c hc h2).2⟩ },
    { nVars := rfl, nOrig := rfl, asm := rfl, clauses := rfl, levels := rfl, watch := rfl, big := rfl, keep := hkeep
      gone := ?_, undef := ?_ }⟩
  · intro v
    show vs[v]! ≤ 2
    rw [hval]; split
    · exact Nat.le_refl 2
    · exact h.vrange v
  · intro v
    show v ∈ tr.toList ↔ v ≤ st.nVars ∧ vs[v]! ≠ UNDEF
    rw [htr, hval]
    constructor
    · intro hm
      obtain ⟨a, b⟩ := (h.tmem v).1 (List.mem_of_mem_take hm)
      have hnd : v ∉ st.trail.toList.drop (st.trailLim[level]!) := by
        intro hd
        have hnodup := h.tnodup
        rw [← List.take_append_drop (st.trailLim[level]!) st.trail.toList] at hnodup
        exact (List.nodup_append.1 hnodup).2.2 v hm v hd rfl
      rw [if_neg hnd]; exact ⟨a, b⟩
    · rintro ⟨a, b⟩
      by_cases hd : v ∈ st.trail.toList.drop (st.trailLim[level]!)
      · rw [if_pos hd] at b; exact absurd rfl b
      · rw [if_neg hd] at b
        have := (h.tmem v).2 ⟨a, b⟩
        rw [← List.take_append_drop (st.trailLim[level]!) st.trail.toList] at this
        exact (List.mem_append.1 this).resolve_right hd
  · intro j1 j2 hj hj2
    show (st.trailLim.extract 0 level)[j1]! ≤ (st.trailLim.extract 0 level)[j2]!
    have hj2' : j2 < level := hlimsz ▸ hj2
    rw [hlimget j1 (Nat.lt_of_le_of_lt hj hj2'), hlimget j2 hj2']
    exact h.limSorted j1 j2 hj (Nat.lt_trans hj2' hl)
  · intro j hj
    show (st.trailLim.extract 0 level)[j]! ≤ tr.size
    have hj' : j < level := hlimsz ▸ hj
    rw [hlimget j hj', hsize]
    exact h.limSorted j level (Nat.le_of_lt hj') hl
  · intro i j hi hj
    show (st.trailLim.extract 0 level)[j]! ≤ i ↔ j < lvlAt st tr[i]!
    have hi' : i < st.trailLim[level]! := hsize ▸ hi
    have hj' : j < level := hlimsz ▸ hj
    rw [htget i hi', hlimget j hj']
    exact h.tl i j (Nat.lt_of_lt_of_le hi' tgt_le) (Nat.lt_trans hj' hl)
  · intro i hi
    show lvlAt st tr[i]! ≤ (st.trailLim.extract 0 level).size
    have hi' : i < st.trailLim[level]! := hsize ▸ hi
    rw [htget i hi', hlimsz]
    exact takeLvl i hi'
  · intro v hvn hva hlv
    show vs[v]! = UNDEF
    rw [hval]
    have hm := (h.tmem v).2 ⟨hvn, hva⟩
    rw [← List.take_append_drop (st.trailLim[level]!) st.trail.toList] at hm
    rcases List.mem_append.1 hm with t | t
    · exfalso
      obtain ⟨i, hi⟩ := List.mem_iff_getElem?.1 t
      rw [List.getElem?_take] at hi
      split at hi
      · rename_i hlt
        have hget : st.trail[i]! = v := by rw [get!_eq, ← Array.getElem?_toList, hi]; rfl
        have := takeLvl i hlt
        rw [hget] at this
        exact Nat.not_le.2 hlv this
      · cases hi
    · rw [if_pos t]
  · intro v hu
    show vs[v]! = UNDEF
    rw [hval]; split
    · rfl
    · exact hu

theorem unassignTo_spec {F st k level} (h : Inv F st k) (hl : level < st.trailLim.size) :
    Inv F (unassignTo st level) (unassignTo st level).propHead ∧ Back st (unassignTo st level) level := by
  obtain ⟨htr, hvs, hv⟩ := popTrail_cut (st.trailLim[level]!) st.trail.size
    { st with trailLim := st.trailLim.extract 0 level } (Nat.le_add_left _ _)
  obtain ⟨tr, ph, vs, hp, ih, e⟩ := popTrail_only (st.trailLim[level]!) st.trail.size
    { st with trailLim := st.trailLim.extract 0 level }
  unfold unassignTo
  rw [if_neg (Nat.not_le.2 hl)]
  simp only
  rw [e] at htr hvs hv ⊢
  have hval : ∀ v, vs[v]! = if v ∈ st.trail.toList.drop st.trailLim[level]! then UNDEF else st.vals[v]! := by
    intro v
    have hr : v ∈ st.trail.toList.drop st.trailLim[level]! → v < st.vals.size := fun hm => by
      rw [h.vsize]
      exact Nat.lt_succ_of_le ((h.tmem v).1 (List.mem_of_mem_drop hm)).1
    rw [hv v]
    by_cases hm : v ∈ st.trail.toList.drop st.trailLim[level]!
    · rw [if_pos ⟨hm, hr hm⟩, if_pos hm]
    · rw [if_neg fun hh => hm hh.1, if_neg hm]
  exact inv_truncate (ph := ph) (ih := ih) (hp := hp) h hl htr hvs hval

end Solvor.Sat.Cdcl
