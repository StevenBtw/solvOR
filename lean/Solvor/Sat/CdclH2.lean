import Solvor.Sat.CdclH
import Solvor.Sat.CdclHeap
/-! Sat.CdclH2: the heap / learned-clause invariant through backjumps, clause learning, `reduceDb` and an activity bump. -/
namespace Solvor.Sat.Cdcl

theorem hinv_heapInsert {st x} (h : HInvX st x) {v : Nat} (hv : 1 ≤ v) (f : Float) :
    HInvX { st with heap := heapPush st.heap (f, v), inHeap := st.inHeap.set! v true } x :=
  { h with
    isz := (Array.size_set! _ _ _).trans h.isz
    he := fun e he => (mem_heapPush.1 he).elim (· ▸ hv) (h.he e)
    entry := fun u hu1 hu2 => by
      have hu2' : (st.inHeap.set! v true)[u]! = true := hu2
      rw [get!_set!] at hu2'
      split at hu2'
      · rename_i hh; exact ⟨_, mem_heapPush.2 (Or.inl rfl), hh.1⟩
      · exact (h.entry u hu1 hu2').imp fun e he => ⟨mem_heapPush.2 (Or.inr he.1), he.2⟩
    flag := fun u hu1 hu2 hux huu => by
      show (st.inHeap.set! v true)[u]! = true
      rw [get!_set!]
      split
      · rfl
      · exact h.flag u hu1 hu2 hux huu }

theorem hinv_unassign {st x} (h : HInvX st x) {var : Nat} (hin : st.inHeap[var]! = true)
    (T : Array Nat) (hT : ∀ u ∈ T.toList, u ∈ st.trail.toList) (ph : Array Bool) :
    HInvX { st with trail := T, phase := ph, vals := st.vals.set! var UNDEF } x := by
  exact { h with
    vsz := (Array.size_set! _ _ _).trans h.vsz
    tr := fun u hu => h.tr u (hT u hu)
    t0 := fun hm => h.t0 (hT 0 hm)
    flag := fun u hu1 hu2 hux huu => by
      by_cases huv : u = var
      · exact huv ▸ hin
      · exact h.flag u hu1 hu2 hux ((get!_set!_ne _ _ _ _ (Ne.symm huv)).symm.trans huu) }

theorem hinv_popOne {st x} (h : HInvX st x) (hne : 0 < st.trail.size) : HInvX (popOne st) x := by
  have hm := back!_mem hne
  have hT : ∀ u ∈ st.trail.pop.toList, u ∈ st.trail.toList := fun u hu => by
    rw [Array.toList_pop] at hu; exact List.dropLast_subset _ hu
  unfold popOne
  simp only
  generalize st.trail.back! = var at hm ⊢
  split
  · have hv : 1 ≤ var := Nat.pos_of_ne_zero fun e => h.t0 (e ▸ hm)
    exact hinv_unassign
      (st := { st with heap := heapPush st.heap (-(st.activity[var]!), var), inHeap := st.inHeap.set! var true })
      (hinv_heapInsert h hv _)
      (Array.getElem!_set!_self _ _ _ (by rw [h.isz]; exact Nat.lt_succ_of_le (h.tr _ hm))) _ hT _
  · rename_i hh
    exact hinv_unassign h (by simpa using hh) _ hT _

theorem hinv_popTrail {x} (target : Nat) : ∀ (fuel : Nat) (st : St), HInvX st x → HInvX (popTrail target fuel st) x := by
  intro fuel
  induction fuel with
  | zero => intro st h; exact h
  | succ fuel ih =>
    intro st h
    unfold popTrail
    split
    · exact h
    · exact ih _ (hinv_popOne h (by omega))

theorem hinv_unassignTo {st x} (h : HInvX st x) (level : Nat) : HInvX (unassignTo st level) x := by
  unfold unassignTo
  split
  · exact h
  · simp only
    have h0 : HInvX { st with trailLim := st.trailLim.extract 0 level } x := { h with }
    exact hinv_frame (hinv_popTrail _ _ _ h0)

theorem hinv_pushLearned {st x} (h : HInvX st x) (X : Array Int) (hX : ∀ l ∈ X.toList, l ≠ 0) (LB : Array Nat) (nb : Nat) :
    HInvX { st with learned := st.learned.push X, lbd := LB, nBlocking := nb } x := by
  refine { hinv_learned h (st.learned.push X) (fun i hi l hl => ?_) (fun i hi => ?_) with }
  · rw [get!_push] at hl
    split at hl
    · exact hX l hl
    · exact h.lnz i (by rw [Array.size_push] at hi; omega) l hl
  · rw [Array.size_push, get!_push, if_neg (Nat.ne_of_lt hi)]
    exact ⟨Nat.lt_succ_of_lt hi, Nat.le_refl _⟩

theorem hinv_attach {st x} (h : HInvX st x) (c : Array Int) (idx : Nat)
    (hr : idx - st.nOrig < st.learned.size) (hc : st.learned[idx - st.nOrig]! = c) :
    HInvX (attach st c idx) x := by
  have hnz : ∀ l ∈ c.toList, l ≠ 0 := fun l hl => h.lnz _ hr l (hc ▸ hl)
  unfold attach
  split
  · rename_i h2
    have h2' : c.size = 2 := by simpa using h2
    exact hinv_bigAdd h (hnz _ (get!_mem (by omega)))
      (hnz _ (get!_mem (by omega))) idx
  · split
    · rename_i h3
      have hok : st.nOrig ≤ idx → idx - st.nOrig < st.learned.size ∧ 2 ≤ (st.learned[idx - st.nOrig]!).size :=
        fun _ => ⟨hr, by rw [hc]; omega⟩
      exact hinv_addWatch (hinv_addWatch h _ _ hok) _ _ hok
    · exact h

theorem hinv_reattach {x} (no : Nat) (keep : Array (Array Int)) : ∀ (fuel j : Nat) (st : St), HInvX st x →
    st.nOrig = no → st.learned = keep → j + fuel ≤ keep.size → HInvX (reattach no keep fuel j st) x := by
  intro fuel
  induction fuel with
  | zero => intro j st h _ _ _; exact h
  | succ fuel ih =>
    intro j st h hno hl hj
    rw [reattach_succ]
    have h1 : HInvX (attach st keep[j]! (no + j)) x :=
      hinv_attach h _ _ (by rw [hno, hl]; omega) (by rw [hno, hl]; congr 1; omega)
    obtain ⟨_, _, e⟩ := attach_only st keep[j]! (no + j)
    exact ih (j + 1) _ h1 (by rw [e]; exact hno) (by rw [e]; exact hl) (by omega)

theorem hinv_reduceDb {st x} (h : HInvX st x) : HInvX (reduceDb st) x := by
  unfold reduceDb
  split
  · exact h
  · simp only
    apply hinv_reattach
    · refine { h with lnz := ?_, wlr := ?_, bnz := ?_ }
      · intro j hj l hl
        simp only at hj hl
        have hmem := get!_mem hj
        simp only [List.mem_map] at hmem
        obtain ⟨p, _, hp⟩ := hmem
        rw [← hp] at hl
        by_cases hps : p.1 < st.learned.size
        · exact h.lnz p.1 hps l hl
        · rw [get!_of_ge _ _ (by omega)] at hl
          have : (default : Array Int).toList = [] := rfl
          rw [this] at hl; cases hl
      · intro l idx hidx hno
        simp only [wl, watchOf, get!_map_filter] at hidx
        exact absurd (of_decide_eq_true (List.mem_filter.1 hidx).2) (Nat.not_lt.2 hno)
      · intro l e he
        simp only [il, implications, get!_map_filter] at he
        exact h.bnz l e (List.mem_filter.1 he).1
    · rfl
    · rfl
    · omega

theorem hinv_bumpOne {st x} (h : HInvX st x) {v : Nat} (hv : 1 ≤ v) : HInvX (bumpOne st v) x := by
  unfold bumpOne
  simp only
  split
  · exact { h with
      he := fun e he => (mem_heapPush.1 he).elim (· ▸ hv) (h.he e)
      entry := fun u hu1 hu2 => (h.entry u hu1 hu2).imp fun e he => ⟨mem_heapPush.2 (Or.inr he.1), he.2⟩ }
  · exact { h with }

end Solvor.Sat.Cdcl
