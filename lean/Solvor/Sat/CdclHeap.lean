import Solvor.Sat.CdclKit
/-! Sat.CdclHeap: the binary heap of `(-activity, var)` entries only ever permutes its entries:
`heapPush` adds one, `heapPop` removes one. -/
namespace Solvor.Sat.Cdcl

theorem siftUp_perm : ∀ (fuel : Nat) (h : Array (Float × Nat)) (i : Nat), (siftUp fuel h i).toList.Perm h.toList := by
  intro fuel
  induction fuel with
  | zero => intro h i; exact List.Perm.refl _
  | succ fuel ih =>
    intro h i
    unfold siftUp
    split
    · exact List.Perm.refl _
    · simp only
      split
      · exact (ih _ _).trans (swapIB_perm _ _ _)
      · exact List.Perm.refl _

theorem siftDown_perm : ∀ (fuel : Nat) (h : Array (Float × Nat)) (i : Nat), (siftDown fuel h i).toList.Perm h.toList := by
  intro fuel
  induction fuel with
  | zero => intro h i; exact List.Perm.refl _
  | succ fuel ih =>
    intro h i
    unfold siftDown
    simp only
    generalize siftChild h i = m
    split
    · exact List.Perm.refl _
    · exact (ih _ _).trans (swapIB_perm _ _ _)

theorem heapPush_perm (h : Array (Float × Nat)) (e : Float × Nat) : (heapPush h e).toList.Perm (e :: h.toList) := by
  unfold heapPush
  simp only
  refine (siftUp_perm _ _ _).trans ?_
  rw [Array.toList_push]
  exact List.perm_append_singleton e h.toList

theorem mem_heapPush {h : Array (Float × Nat)} {e x : Float × Nat} :
    x ∈ (heapPush h e).toList ↔ x = e ∨ x ∈ h.toList := by
  rw [(heapPush_perm h e).mem_iff]; simp

theorem heapPop_none {h : Array (Float × Nat)} (hp : heapPop h = none) : h.toList = [] := by
  unfold heapPop at hp
  split at hp
  · rename_i h0
    have : h.size = 0 := by simpa using h0
    simpa using this
  · simp only at hp; split at hp <;> cases hp

theorem heapPop_some {h h' : Array (Float × Nat)} {top : Float × Nat} (hp : heapPop h = some (top, h')) :
    h.toList.Perm (top :: h'.toList) := by
  unfold heapPop at hp
  split at hp
  · cases hp
  · rename_i h0
    have hpos : 0 < h.size := Nat.pos_of_ne_zero fun e => h0 (by rw [e]; rfl)
    have hys := toList_eq_pop_append_last h hpos
    have htop : h.toList.head? = some h[0]! := by
      rw [List.head?_eq_getElem?, Array.getElem?_toList, get!_eq, Array.getElem?_eq_getElem hpos]
      rfl
    simp only at hp
    split at hp
    · -- one entry: it is the top
      rename_i hz
      obtain ⟨rfl, rfl⟩ := Prod.mk.inj (Option.some.inj hp)
      have hnil : h.pop.toList = [] :=
        List.eq_nil_of_length_eq_zero (by rw [Array.length_toList]; simpa using hz)
      rw [hys, hnil] at htop ⊢
      rw [← Option.some.inj htop]
      exact List.Perm.refl _
    · -- the last entry replaces the top and sinks
      rename_i hz
      obtain ⟨rfl, rfl⟩ := Prod.mk.inj (Option.some.inj hp)
      refine List.Perm.trans ?_ (List.Perm.cons _ (siftDown_perm _ _ _).symm)
      rw [Array.set!_eq_setIfInBounds, Array.toList_setIfInBounds]
      cases hpl : h.pop.toList with
      | nil => exact absurd (by rw [← Array.length_toList, hpl]; rfl) hz
      | cons a t =>
        rw [hys, hpl] at htop ⊢
        rw [← Option.some.inj htop]
        exact List.Perm.cons _ (List.perm_append_singleton _ _)

end Solvor.Sat.Cdcl
