import Solvor.Sat.Lemmas
import Solvor.Sat.Luby
import Solvor.Sat.CdclInit
/-!
Sat: the property theorems of C01 and C02.

Stretch items [S] of the design, about the executable CDCL mirror `Sat.Cdcl.solve`
(Solvor/Sat/Cdcl.lean), which is tied to `solve_sat` by R_trace (same status, same assignments in
the same order, same decision/propagation counters on every explored input):

* proved: `cdcl_returns_models_partial` (its docstring says what and how).
-- FULL STATEMENT (not proved): cdcl_returns_models
--   theorem cdcl_returns_models (f : Cnf) (as : List Int) (P : Cdcl.Params)
--       (hf : WF f) (ha : ∀ a ∈ as, a ≠ 0) (hne : ∀ c ∈ f, c ≠ []) :
--       let o := Cdcl.solve f as P
--       (∀ m, o.solution = some m → evalCnf f as m = true) ∧
--       (∀ ms, o.solutions = some ms →
--          (∀ m ∈ ms, evalCnf f as m = true) ∧ pairwiseDistinct ms = true)
--   (`hne` excludes the recorded finding: a formula of empty clauses only is answered `{}`.)
--   Missing relative to `cdcl_returns_models_partial`: (a) clauses with a repeated literal (`[1, 1, -2]`: the clause is then entered twice
--   in one watch list and the invariant "each input clause occurs once per watch list" fails; the
--   correspondence check covers such inputs by running them); (b) that the mirror's give-up exit
--   `GUARD` never fires.  `GUARD` = one of the mirror's own checks fails: a post-condition of the
--   imperative `analyze` (the asserted literal of the learned clause is on the conflict level, the
--   backjump level is below it, no literal 0 in the learned clause, no variable 0 among the bumped
--   ones), the resolution-chain certificate of a learned clause, the unit-propagation refutation
--   before INFEASIBLE, or the distinctness check on an enumeration (proving that one away needs the
--   watch invariant for blocking clauses too, including the re-indexing done by `reduceDb`).  These
--   exits return no assignment, so they do not affect the statement, but they are where the mirror
--   could part from `solve_sat`.  (The other give-up exit, `FUEL`, is proved dead: `cdcl_fuel_suffices_partial`.)
* proved: `cdcl_infeasible_sound_partial` (its docstring says what and how).
-- FULL STATEMENT (not proved): cdcl_infeasible_sound
--   theorem cdcl_infeasible_sound (f as P) (hf : WF f) (ha : ∀ a ∈ as, a ≠ 0) :
--       (Cdcl.solve f as P).status = .INFEASIBLE → ¬ ∃ σ, Models σ f as
--   Missing relative to `cdcl_infeasible_sound_partial`: clauses with a repeated literal; and that the
--   certificate checks never fail (then the mirror's INFEASIBLE coincides with `solve_sat`'s).
* proved: `cdcl_verdicts_partial` (what OPTIMAL and MAX_ITER come with, and OPTIMAL for a satisfiable input within the
  budgets; its docstring says it).
* proved: `cdcl_fuel_suffices_partial` (its docstring says what; the counting is in the fields `c_*` of
  `Cdcl.LoopPre`, CdclMain.lean, and for `propagate` in `Cdcl.propagate_spec`, CdclProp.lean).
-- FULL STATEMENT (not proved): cdcl_fuel_suffices
--   theorem cdcl_fuel_suffices (f as P) : (Cdcl.solve f as P).status ≠ .UNBOUNDED
--   (`UNBOUNDED` is how the mirror reports "fuel exhausted" / "sanity check failed".)  Missing relative to
--   `cdcl_fuel_suffices_partial`: clauses with a repeated literal or no literal at all; and that the
--   mirror's other give-up exit `GUARD` (a failed certificate / post-condition check, see above) never fires.
-/
namespace Solvor.Sat

/-- T-spec (C01): what the checker run on every returned assignment `m` (a `dict[int,bool]`, as its item list)
accepts. -/
theorem evalCnf_iff (f : Cnf) (as : List Int) (m : AList) :
    evalCnf f as m = true ↔
      (∀ c ∈ f, ∀ l ∈ c, ∃ b, m.lookup l.natAbs = some b) ∧
      (∀ a ∈ as, ∃ b, m.lookup a.natAbs = some b) ∧
      (∀ c ∈ f, ∃ l ∈ c, m.lookup l.natAbs = some (decide (0 < l))) ∧
      (∀ a ∈ as, m.lookup a.natAbs = some (decide (0 < a))) := by
  unfold evalCnf totalOn
  simp only [Bool.and_eq_true, List.all_eq_true, List.any_eq_true, litHolds_iff,
    Option.isSome_iff_exists]
  constructor
  · rintro ⟨⟨⟨h1, h2⟩, h3⟩, h4⟩; exact ⟨h1, h2, h3, h4⟩
  · rintro ⟨h1, h2, h3, h4⟩; exact ⟨⟨⟨h1, h2⟩, h3⟩, h4⟩

example : evalCnf [[1, -2], [2, 3], [-1, -3]] [-3] [(1, true), (2, true), (3, false)] = true := by decide
example : evalCnf [[1], [2, 3]] [] [(1, false), (2, true), (3, true)] = false := by decide

/-- T-spec (C01), semantic form (`asgOf m`: the item list read as a total assignment). -/
theorem evalCnf_models (f : Cnf) (as : List Int) (m : AList) :
    evalCnf f as m = true ↔ totalOn m f as = true ∧ Models (asgOf m) f as := by
  unfold evalCnf
  simp only [Bool.and_eq_true, List.all_eq_true, List.any_eq_true]
  constructor
  · rintro ⟨⟨ht, h1⟩, h2⟩
    refine ⟨ht, fun c hc => ?_, fun a ha => litTrue_asgOf_of_holds (h2 a ha)⟩
    obtain ⟨l, hl, hh⟩ := h1 c hc
    exact ⟨l, hl, litTrue_asgOf_of_holds hh⟩
  · rintro ⟨ht, h1, h2⟩
    have ht' := ht
    unfold totalOn at ht'
    simp only [Bool.and_eq_true, List.all_eq_true] at ht'
    refine ⟨⟨ht, fun c hc => ?_⟩, fun a ha => holds_of_litTrue_asgOf (ht'.2 a ha) (h2 a ha)⟩
    obtain ⟨l, hl, hh⟩ := h1 c hc
    exact ⟨l, hl, holds_of_litTrue_asgOf (ht'.1 c hc l hl) hh⟩

example : totalOn [(1, true), (2, false)] [[1, 2]] [-2] = true ∧ Models (asgOf [(1, true), (2, false)]) [[1, 2]] [-2] :=
  (evalCnf_models _ _ _).1 (by decide)

/-- T-spec (C01): the distinctness checker (`pairwiseDistinct_iff'` of Lemmas.lean under the audited name). -/
theorem pairwiseDistinct_iff (ms : List AList) :
    pairwiseDistinct ms = true ↔ ms.Pairwise (fun a b => ∃ v, a.lookup v ≠ b.lookup v) :=
  pairwiseDistinct_iff' ms

example : pairwiseDistinct [[(1, true), (2, true)], [(1, true), (2, false)], [(1, false), (2, true)]] = true := by decide
example : pairwiseDistinct [[(1, true), (2, true)], [(1, false), (2, true)], [(1, true), (2, true)]] = false := by decide

/-- T-spec (C01): the checker the driver actually runs on `Result.solutions` (base-3 codes over the
variables `vs` first, the exact quadratic check as fallback) decides the same relation, for any `vs`. -/
theorem distinctB_iff (vs : List Nat) (ms : List AList) :
    distinctB vs ms = true ↔ ms.Pairwise (fun a b => ∃ v, a.lookup v ≠ b.lookup v) := by
  unfold distinctB
  rw [Bool.or_eq_true, pairwiseDistinct_iff]
  exact ⟨fun h => h.elim fastDistinct_sound id, Or.inr⟩

example : distinctB [1, 2] [[(1, true), (2, true)], [(1, true), (2, false)]] = true ∧
    fastDistinct [1, 2] [[(1, true), (2, true)], [(1, true), (2, false)]] = true := by decide

/-- T-model (C01/C02): the reference DPLL is sound and complete, for every CNF without the literal 0 (its fuel
suffices). -/
theorem dpll_sat_iff (f : Cnf) (as : List Int) (hf : WF f) (ha : ∀ a ∈ as, a ≠ 0) :
    solve (withAssumptions f as) = true ↔ ∃ σ, Models σ f as := by
  rw [solve_correct _ (WF_withAssumptions hf ha)]
  exact ⟨fun ⟨σ, h⟩ => ⟨σ, cnfTrue_withAssumptions.1 h⟩, fun ⟨σ, h⟩ => ⟨σ, cnfTrue_withAssumptions.2 h⟩⟩

example : WF [[1, 2], [-1, 3], [-2, -3]] ∧ solve (withAssumptions [[1, 2], [-1, 3], [-2, -3]] [-1]) = true :=
  ⟨wfB_iff.1 (by decide), by decide⟩

/-- T-model (C02): the reference DPLL answers "unsatisfiable" exactly when formula and assumptions
have no common model; `solve_sat`'s INFEASIBLE is compared against this verdict on every input. -/
theorem dpll_unsat_iff (f : Cnf) (as : List Int) (hf : WF f) (ha : ∀ a ∈ as, a ≠ 0) :
    solve (withAssumptions f as) = false ↔ ¬ ∃ σ, Models σ f as := by
  rw [← dpll_sat_iff f as hf ha]; simp

example : solve (withAssumptions [[1, 2]] [-1, -2]) = false := by decide

/-- T-model (C01): the enumerator lists the models of `f` projected to the distinct variables `vs`, each exactly
once. -/
theorem dpll_models_complete (vs : List Nat) (f : Cnf) (hvs : vs.Nodup) (h0 : ∀ v ∈ vs, v ≠ 0) (hf : WF f) :
    (∀ m ∈ enumModels vs f, m.map Prod.fst = vs ∧ ∃ σ, cnfTrue σ f = true ∧ ∀ p ∈ m, σ p.1 = p.2) ∧
    (∀ σ, cnfTrue σ f = true → vs.map (fun v => (v, σ v)) ∈ enumModels vs f) ∧
    (enumModels vs f).Nodup :=
  ⟨fun m hm => ⟨enum_keys vs f m hm, enum_sound vs f hvs h0 hf m hm⟩, enum_complete vs f h0 hf, enum_nodup vs f⟩

example : enumModels [1, 2] [[1, 2], [-1, 3]] =
    [[(1, true), (2, true)], [(1, true), (2, false)], [(1, false), (2, true)]] := by decide

/-- C01 (blocking clauses): an assignment that satisfies the blocking clause built from an earlier
assignment differs from it on one of the blocked variables. -/
theorem distinct_of_blocked (σ τ : Asg) (vs : List Nat) (h0 : ∀ v ∈ vs, v ≠ 0)
    (h : clauseTrue τ (blocking σ vs) = true) : ∃ v ∈ vs, σ v ≠ τ v := by
  rw [clauseTrue_iff] at h
  obtain ⟨l, hl, ht⟩ := h
  obtain ⟨v, hv, rfl⟩ := List.mem_map.1 hl
  refine ⟨v, hv, ?_⟩
  cases hb : σ v with
  | true => simp only [hb, if_true, litTrue_neg_natCast (h0 v hv)] at ht; simpa using ht
  | false =>
    simp only [hb, Bool.false_eq_true, if_false, litTrue_natCast (h0 v hv)] at ht
    simp [ht]

example : clauseTrue (fun v => v == 2) (blocking (fun v => v == 1) [1, 2]) = true := by decide

/-- C01/C02 (clause learning): one resolution step is sound (`resolve_true` of Lemmas.lean under the audited name). -/
theorem resolve_sound (σ : Asg) (c d : Clause) (p : Int) (hp : p ≠ 0)
    (hc : clauseTrue σ c = true) (hd : clauseTrue σ d = true) : clauseTrue σ (resolve c d p) = true :=
  resolve_true hp hc hd

example : resolve [1, 2] [-1, 3] 1 = [2, 3] := by decide

/-- C01/C02 (clause learning, per-input check): the Boolean test the driver applies to every clause
the CDCL mirror learns – "formula ∧ ¬clause is unsatisfiable" by the reference DPLL – decides
entailment. -/
theorem entailsB_iff (f : Cnf) (c : Clause) (hf : WF f) (hc : ∀ l ∈ c, l ≠ 0) :
    entailsB f c = true ↔ Entails f c := by
  -- the negated literals of `c` are the assumptions
  have e : entailsB f c = !solve (withAssumptions f (c.map fun l => -l)) := by
    unfold entailsB withAssumptions
    rw [List.map_map]
    rfl
  have hn : ∀ a ∈ c.map (fun l => -l), a ≠ 0 := by
    intro a ha
    obtain ⟨l, hl, rfl⟩ := List.mem_map.1 ha
    exact Int.neg_ne_zero.2 (hc l hl)
  rw [e, Bool.not_eq_true', dpll_unsat_iff f _ hf hn]
  constructor
  · intro h σ hσ
    rw [clauseTrue_iff]
    apply Classical.byContradiction
    intro hno
    refine h ⟨σ, cnfTrue_iff.1 hσ, fun a ha => ?_⟩
    obtain ⟨l, hl, rfl⟩ := List.mem_map.1 ha
    rw [litTrue_neg (hc l hl)]
    cases hb : litTrue σ l with
    | false => rfl
    | true => exact absurd ⟨l, hl, hb⟩ hno
  · rintro h ⟨σ, h1, h2⟩
    obtain ⟨l, hl, ht⟩ := clauseTrue_iff.1 (h σ (cnfTrue_iff.2 h1))
    have := h2 (-l) (List.mem_map.2 ⟨l, hl, rfl⟩)
    rw [litTrue_neg (hc l hl), ht] at this
    cases this

example : entailsB [[1, 2], [-1, 3], [-2, 3]] [3] = true ∧ entailsB [[1, 2], [-1, 3]] [3] = false := by decide

/-- what the loop invariant says of a returned assignment (`Cdcl.GoodSol`) is what the checker tests -/
theorem Cdcl.GoodSol.evalCnf {f : Cnf} {as : List Int} {m : AList} (hf : WF f) (ha : ∀ a ∈ as, a ≠ 0)
    (h : Cdcl.GoodSol f as m) : evalCnf f as m = true := by
  obtain ⟨g1, g2, g3⟩ := h
  have tot : ∀ l : Int, l ≠ 0 → l.natAbs ≤ Cdcl.countVars f as → ∃ b, m.lookup l.natAbs = some b :=
    fun l h0 hr => Option.isSome_iff_exists.1 (g3 l.natAbs (Int.natAbs_pos.2 h0) hr)
  refine (evalCnf_iff f as m).2 ⟨fun c hc l hl => tot l (hf c hc l hl) (Cdcl.countVars_clause f as c hc l hl),
    fun a ha' => tot a (ha a ha') (Cdcl.countVars_asm f as a ha'), fun c hc => ?_, g2⟩
  obtain ⟨l, hl, hne'⟩ := g1 c hc
  refine ⟨l, hl, ?_⟩
  obtain ⟨b, hb⟩ := tot l (hf c hc l hl) (Cdcl.countVars_clause f as c hc l hl)
  rw [hb] at hne' ⊢
  exact (by decide : ∀ b d : Bool, some b ≠ some (!d) → some b = some d) b _ hne'

/-- [S], partial (C01): whatever the parameters, every assignment returned by the CDCL mirror is
accepted by the checker `evalCnf`, for every input whose clauses are non-empty, free
of the literal 0 and of repeated literals, with non-zero assumptions; and the assignments of an
enumeration are pairwise different.  The proof carries two invariants through every operation of the
mirror: the two-watched-literal / trail invariant `Cdcl.Inv` and the heap / learned-clause invariant
`Cdcl.HInvX`.  (Distinctness holds because the mirror is certifying here too: it
runs the verified checker `distinctB` on its enumeration before returning it – `Cdcl.guardDistinct` – and
gives up with `GUARD` otherwise.) -/
theorem cdcl_returns_models_partial (f : Cnf) (as : List Int) (P : Cdcl.Params)
    (hf : WF f) (hnd : ∀ c ∈ f, c.Nodup) (hne : ∀ c ∈ f, c ≠ []) (ha : ∀ a ∈ as, a ≠ 0) :
    (∀ m, (Cdcl.solve f as P).solution = some m → evalCnf f as m = true) ∧
    (∀ ms, (Cdcl.solve f as P).solutions = some ms →
      (∀ m ∈ ms, evalCnf f as m = true) ∧ pairwiseDistinct ms = true) := by
  obtain ⟨hg, hd⟩ := Cdcl.solve_good f as P hnd hf hne ha
  suffices key : ∀ m, ((Cdcl.solve f as P).solution = some m ∨ ∃ ms, (Cdcl.solve f as P).solutions = some ms ∧ m ∈ ms) →
      evalCnf f as m = true from
    ⟨fun m hm => key m (Or.inl hm), fun ms hms => ⟨fun m hm => key m (Or.inr ⟨ms, hms, hm⟩),
      (pairwiseDistinct_iff ms).2 ((distinctB_iff _ ms).1 (hd ms hms))⟩⟩
  intro m hm
  refine Cdcl.GoodSol.evalCnf hf ha ?_
  rcases hm with h | ⟨ms, h1, h2⟩
  · exact hg.sol m h
  · exact hg.sols ms h1 m h2

/- the hypotheses are met by ordinary inputs (the mirror itself cannot be evaluated by `decide`: VSIDS
activities are `Float`s, opaque to the kernel; on this input the compiled driver prints the two
assignments `{1:F,2:F,3:T}`, `{1:T,2:F,3:F}` for `solution_limit = 10`, as `solve_sat` does) -/
example : WF [[1, 2, 3], [-1, -2], [-1, -3], [-2, -3], [1, -2, 3]] ∧
    (∀ c ∈ [[1, 2, 3], [-1, -2], [-1, -3], [-2, -3], [1, -2, 3]], c.Nodup) ∧
    (∀ c ∈ [[1, 2, 3], [-1, -2], [-1, -3], [-2, -3], [1, -2, 3]], c ≠ ([] : List Int)) ∧ (∀ a ∈ [(-2 : Int)], a ≠ 0) :=
  ⟨wfB_iff.1 (by decide), by decide, by decide, by decide⟩

/-- T-spec (C02): the refutation checker the CDCL mirror runs before it answers INFEASIBLE – unit
propagation from scratch, to a fixpoint – only accepts clause sets without a model (`upRefutes_unsat` of Certify.lean
under the audited name). -/
theorem upRefutes_sound (n : Nat) (cs : List Clause) (h : upRefutes n cs = true) : ¬ ∃ σ, cnfTrue σ cs = true :=
  upRefutes_unsat n cs h

example : upRefutes 3 [[1, 2], [-1, 2], [-2, 3], [-3]] = true ∧ upRefutes 3 [[1, 2], [-1, -2]] = false := by decide

/-- [S], partial (C02): whatever the parameters, the CDCL mirror answers INFEASIBLE only when clauses
and assumptions have no common model – for every input free of the literal 0 and of repeated literals
inside a clause, with non-zero assumptions.  (The mirror certifies the answer: each learned clause is
checked to come out of the logged resolution chain – `Cdcl.chainOk_sound`, by `learn_chain_sound` – and before INFEASIBLE is
reported unit propagation from scratch must refute input + assumptions + pure literals + learned
clauses – `Cdcl.certify_unsat`, by `upRefutes_unsat` and the pure-literal rule; if a check failed the mirror would give up
with status `UNBOUNDED`, which the correspondence check treats as a failure of the mirror.) -/
theorem cdcl_infeasible_sound_partial (f : Cnf) (as : List Int) (P : Cdcl.Params)
    (hf : WF f) (hnd : ∀ c ∈ f, c.Nodup) (ha : ∀ a ∈ as, a ≠ 0) :
    (Cdcl.solve f as P).status = .INFEASIBLE → ¬ ∃ σ, Models σ f as := by
  intro hs
  by_cases hne : ∀ c ∈ f, c ≠ []
  · exact (Cdcl.solve_good f as P hnd hf hne ha).1.infeasible hs
  · rintro ⟨σ, hσ⟩
    apply hne
    intro c hc he
    subst he
    obtain ⟨l, hl, _⟩ := hσ.1 [] hc
    cases hl

example : WF [[1, 2], [-1, 2], [1, -2], [-1, -2]] ∧ (∀ c ∈ [[1, 2], [-1, 2], [1, -2], [-1, -2]], c.Nodup) :=
  ⟨wfB_iff.1 (by decide), by decide⟩

/-- [S], partial (C02): the mirror's verdicts, for the same inputs and every parameter setting: what OPTIMAL and
MAX_ITER come with, and hence, for a satisfiable input, unless a budget is exhausted (or the mirror
gives up) the answer is OPTIMAL with a model – the clause "answers with a model whenever one exists and
the budgets are not exhausted". -/
theorem cdcl_verdicts_partial (f : Cnf) (as : List Int) (P : Cdcl.Params)
    (hf : WF f) (hnd : ∀ c ∈ f, c.Nodup) (hne : ∀ c ∈ f, c ≠ []) (ha : ∀ a ∈ as, a ≠ 0) :
    ((Cdcl.solve f as P).status = .OPTIMAL →
        ∃ m, (Cdcl.solve f as P).solution = some m ∧ evalCnf f as m = true) ∧
    ((Cdcl.solve f as P).status = .MAX_ITER →
        P.maxConflicts ≤ (Cdcl.solve f as P).conflicts ∨ P.maxRestarts ≤ (Cdcl.solve f as P).restarts) ∧
    ((∃ σ, Models σ f as) → (Cdcl.solve f as P).status ≠ .UNBOUNDED →
        (Cdcl.solve f as P).conflicts < P.maxConflicts → (Cdcl.solve f as P).restarts < P.maxRestarts →
        ∃ m, (Cdcl.solve f as P).status = .OPTIMAL ∧ (Cdcl.solve f as P).solution = some m ∧ evalCnf f as m = true) := by
  have hg := (Cdcl.solve_good f as P hnd hf hne ha).1
  have hopt : (Cdcl.solve f as P).status = .OPTIMAL →
      ∃ m, (Cdcl.solve f as P).solution = some m ∧ evalCnf f as m = true := by
    intro ho
    obtain ⟨m, hm⟩ := Option.isSome_iff_exists.1 (hg.optimal ho)
    exact ⟨m, hm, (cdcl_returns_models_partial f as P hf hnd hne ha).1 m hm⟩
  refine ⟨hopt, hg.maxIter, ?_⟩
  intro hsat hnu hc hr
  rcases hg.status with h | h | h | h
  · obtain ⟨m, a, b⟩ := hopt h; exact ⟨m, h, a, b⟩
  · exact absurd hsat (hg.infeasible h)
  · rcases hg.maxIter h with h' | h'
    · exact absurd hc (Nat.not_lt.2 h')
    · exact absurd hr (Nat.not_lt.2 h')
  · exact absurd h hnu


/-- [S], partial (C02, "the call comes back"): whatever the parameters, the mirror does not run out of
fuel – its give-up exit `FUEL` (main loop: `Cdcl.loopFuel max_conflicts solution_limit n_vars` iterations;
propagation: one step per trail position and per watch-list entry) is never taken – for every input whose
clauses are non-empty, free of the literal 0 and of repeated literals, with non-zero assumptions.  So the
loop of `solve_sat`, as mirrored, ends after at most `loopFuel` iterations by one of its own exits.  The proof
counts: iterations = decisions + learned clauses + solutions; a conflict pays for each learned clause; a decision
is only survived while `conflicts < max_conflicts`, and afterwards every conflict lowers the decision level. -/
theorem cdcl_fuel_suffices_partial (f : Cnf) (as : List Int) (P : Cdcl.Params)
    (hf : WF f) (hnd : ∀ c ∈ f, c.Nodup) (hne : ∀ c ∈ f, c ≠ []) (ha : ∀ a ∈ as, a ≠ 0) :
    (Cdcl.solve f as P).note ≠ "FUEL" :=
  (Cdcl.solve_good f as P hnd hf hne ha).1.note

/- the hypotheses are met by ordinary inputs, and the bound is an ordinary number: 3 variables, the default
budgets `max_conflicts = 100000`, `solution_limit = 1` -/
example : (WF [[1, 2, 3], [-1, -2], [-1, -3]] ∧ (∀ c ∈ [[1, 2, 3], [-1, -2], [-1, -3]], c.Nodup) ∧
    (∀ c ∈ [[1, 2, 3], [-1, -2], [-1, -3]], c ≠ ([] : List Int)) ∧ (∀ a ∈ [(2 : Int)], a ≠ 0)) ∧
    Cdcl.loopFuel 100000 1 3 = 3600065 :=
  ⟨⟨wfB_iff.1 (by decide), by decide, by decide, by decide⟩, by decide⟩

/-- C02: every value of the schedule is a power of two. -/
theorem luby_pow2 (i : Nat) (hi : 1 ≤ i) : ∃ j, luby i = 2 ^ j :=
  (lubyLoop_spec (2 * i + 2) i 1 (Nat.le_refl 1) hi (Nat.le_add_right _ 1)).1

/-- C02 (Luby schedule, regenerated from `solvor/sat.py`): `luby(i) ≥ 1` for `i ≥ 1`; as the loop
returns 0 only when the fuel `2*i+2` runs out, this also says the source loop terminates. -/
theorem luby_pos (i : Nat) (hi : 1 ≤ i) : 1 ≤ luby i := by
  obtain ⟨j, hj⟩ := luby_pow2 i hi
  rw [hj]; exact Nat.one_le_two_pow

/-- C02: fuel sufficiency – more fuel than `2*i+2` never changes the value (the Python `while True`
loop makes at most `2*i+2` iterations). -/
theorem luby_fuel (i : Nat) (hi : 1 ≤ i) (n : Nat) (hn : 2 * i + 2 ≤ n) :
    Solvor.Gen.lubyLoop n i Solvor.Gen.lubyK0 = luby i :=
  lubyLoop_fuel (Nat.le_refl 1) hi (Nat.le_add_right _ 1) hn

example : (List.range 16).map luby = [0, 1, 1, 2, 1, 1, 2, 4, 1, 1, 2, 1, 1, 2, 4, 8] := by decide

/-- C02: the regenerated loop computes *the* Luby sequence (these two equations define it). -/
theorem luby_is_luby :
    (∀ k, 1 ≤ k → luby (2 ^ k - 1) = 2 ^ (k - 1)) ∧
    (∀ i k, 1 ≤ k → 2 ^ (k - 1) ≤ i → i < 2 ^ k - 1 → luby i = luby (i - (2 ^ (k - 1) - 1))) :=
  ⟨luby_at_pow, luby_rec⟩

example : luby (2 ^ 3 - 1) = 4 ∧ luby 5 = luby (5 - (2 ^ (3 - 1) - 1)) := by decide

end Solvor.Sat
