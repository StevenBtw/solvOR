import Solvor.Sat.CdclLoop
/-! Sat.CdclMain: the loop invariant through `step` / `run`: what every exit of the main loop returns, and that
`loopFuel` iterations are enough. -/
namespace Solvor.Sat.Cdcl

theorem pend_le_one (r : PRes) : pend r ≤ 1 := by cases r <;> simp [pend]

/-- the arithmetic behind `loopFuel`: with `it` iterations = `d` decisions + `LT` learned clauses + `a` solutions,
the bounds of `LoopPre.c_*` keep `it` below the fuel -/
theorem loopFuel_bound {mc sl n LT a d D0 T it lvl c p : Nat} (hit : it + D0 = d + LT + a) (hlt : LT + p ≤ c) (ha : a ≤ sl)
    (hd : d ≤ D0 + (LT + a) * (n + 2) + T) (hT : T ≤ n + 1) (hreg : c < mc ∨ LT + lvl ≤ mc + loopDmax mc sl n) :
    it < loopFuel mc sl n := by
  have hLT : LT + a ≤ mc + loopDmax mc sl n + sl := by rcases hreg with h | h <;> omega
  have h1 := Nat.mul_le_mul_right (n + 3) hLT
  have h2 : (LT + a) * (n + 3) = (LT + a) * (n + 2) + (LT + a) := Nat.mul_succ _ _
  unfold loopFuel
  omega

/-- The loop invariant less what the outcome of the last `propagate` adds; it holds of the state an iteration starts
from and of the state it hands to `propagate`.  `all`, `ever`, `LT`, `it` = the loop's `all`, `ever`, `learnedTotal`,
`iters`; `p` = conflicts not yet turned into a learned clause; `x` = the variable `pick_var` popped and has not yet
assigned (0 = none).  The fields `c_*` count: iterations = decisions + learned clauses + solutions (`D0` = the decision
counter before the loop), a conflict pays for each learned clause, and the bounds that make `loopFuel` enough. -/
structure LoopPre (F : List (List Int)) (as : List Int) (P : Params) (D0 : Nat) (st : St)
    (all : Array (List (Nat × Bool))) (ever : Array (Array Int)) (LT it p x : Nat) : Prop where
  good : ∀ m ∈ all.toList, GoodSol F as m
  asm : st.assumptions = as
  aok : ∀ a ∈ as, a ≠ 0 ∧ a.natAbs ≤ st.nVars
  ne : ∀ c ∈ F, c ≠ []
  nv : st.nVars = countVars F as
  hinv : HInvX st x
  einv : EInv F st ever
  noblk : all.size = 0 → st.nBlocking = 0
  c_it : it + D0 = st.decisions + LT + all.size
  c_lt : LT + p ≤ st.conflicts
  c_a : all.size ≤ P.solutionLimit
  c_d : st.decisions ≤ D0 + (LT + all.size) * (st.nVars + 2) + st.trail.size
  c_lvl : st.trailLim.size + D0 ≤ st.decisions
  -- while the conflict budget lasts, decisions are paid for by clauses (`c_d`); once it is used up no decision is
  -- survived, every conflict lowers the level, and `learned clauses + level` stays below what was reached by then
  c_reg : st.conflicts < P.maxConflicts ∨
    LT + st.trailLim.size ≤ P.maxConflicts + loopDmax P.maxConflicts P.solutionLimit st.nVars

/-- the invariant of the main loop: `LoopPre` with the pending conflict of `L.conflict`, and what the last
`propagate` left (`After`; it never is a fuel exit) -/
structure LoopInv (F : List (List Int)) (as : List Int) (P : Params) (D0 : Nat) (L : Loop) : Prop where
  pre : LoopPre F as P D0 L.st L.all L.ever L.learnedTotal L.iters (pend L.conflict) 0
  after : After F L.st L.conflict

/-- what the theorems of C01 and C02 need of an answer of the mirror -/
structure OutGood (F : List (List Int)) (as : List Int) (P : Params) (o : Out) : Prop where
  sol : ∀ m, o.solution = some m → GoodSol F as m
  sols : ∀ ms, o.solutions = some ms → ∀ m ∈ ms, GoodSol F as m
  infeasible : o.status = .INFEASIBLE → ¬ ∃ σ, Solvor.Sat.Models σ F as
  optimal : o.status = .OPTIMAL → o.solution.isSome = true
  maxIter : o.status = .MAX_ITER → P.maxConflicts ≤ o.conflicts ∨ P.maxRestarts ≤ o.restarts
  status : o.status = .OPTIMAL ∨ o.status = .INFEASIBLE ∨ o.status = .MAX_ITER ∨ o.status = .UNBOUNDED
  note : o.note ≠ "FUEL"

/-- what one iteration must deliver (`it` = the iteration count after it) -/
def StepOK (F : List (List Int)) (as : List Int) (P : Params) (D0 it : Nat) : Out ⊕ Loop → Prop
  | .inl o => OutGood F as P o
  | .inr L' => LoopInv F as P D0 L' ∧ L'.iters = it

theorem LoopPre.vsids {F as P D0 st st1 all ever LT it p x x'} (h : LoopPre F as P D0 st all ever LT it p x)
    (v : Vsids st st1) (hH : HInvX st1 x') : LoopPre F as P D0 st1 all ever LT it p x' := by
  obtain ⟨_, _, _, _, rfl⟩ := v
  exact { h with hinv := hH, einv := ⟨h.einv.learned, h.einv.ever⟩ }

/-- `st2` is `st` with one clause more – learned (`LT2 = LT + 1`) or blocking (`all2` one longer than `all`) –
and the search back on a lower decision level; decisions and conflicts are as they were -/
structure Added (F : List (List Int)) (as : List Int) (P : Params) (st : St) (all : Array (List (Nat × Bool)))
    (LT : Nat) (st2 : St) (all2 : Array (List (Nat × Bool))) (ever2 : Array (Array Int)) (LT2 : Nat) : Prop where
  one : LT2 + all2.size = LT + all.size + 1
  good : ∀ m ∈ all2.toList, GoodSol F as m
  c_a : all2.size ≤ P.solutionLimit
  mid : Mid F st2 st2.propHead 0 ever2
  asm : st2.assumptions = st.assumptions
  nv : st2.nVars = st.nVars
  noblk : all2.size = 0 → st2.nBlocking = 0
  dec : st2.decisions = st.decisions
  con : st2.conflicts = st.conflicts
  lvl : LT2 + st2.trailLim.size ≤ LT + st.trailLim.size

theorem Added.restart {F as P st all LT st2 all2 ever2 LT2} (h : Added F as P st all LT st2 all2 ever2 LT2) :
    Added F as P st all LT (restartSt st2) all2 ever2 LT2 := by
  obtain ⟨m, s, l⟩ := h.mid.restarted
  have hl := h.lvl
  -- (by position: the record form of this instance runs into the recursion limit)
  exact ⟨h.one, h.good, h.c_a, m, s.asm.trans h.asm, s.nV.trans h.nv, fun hz => s.nb.trans (h.noblk hz),
    s.dec.trans h.dec, s.con.trans h.con, by omega⟩

/-- the clause just added pays for `n + 2` more decisions, whatever is left of the trail; the sum
`learned + decision level` has not grown -/
theorem LoopPre.added {F as P D0 st all ever LT it p x st2 all2 ever2 LT2} (h : LoopPre F as P D0 st all ever LT it p x)
    (hT : st.trail.size ≤ st.nVars + 1) (hLT : LT2 = LT + p) (a : Added F as P st all LT st2 all2 ever2 LT2) :
    LoopPre F as P D0 st2 all2 ever2 LT2 (it + 1) 0 0 := by
  have c1 := h.c_it; have c2 := h.c_lt; have c3 := h.c_d; have c4 := h.c_lvl; have c5 := h.c_reg
  have a1 := a.one; have a2 := a.lvl
  have hmul : (LT + all.size + 1) * (st.nVars + 2) = (LT + all.size) * (st.nVars + 2) + (st.nVars + 2) := Nat.succ_mul _ _
  exact { good := a.good, asm := a.asm.trans h.asm, aok := by rw [a.nv]; exact h.aok, ne := h.ne
          nv := a.nv.trans h.nv, hinv := a.mid.hinv, einv := a.mid.einv, noblk := a.noblk, c_a := a.c_a
          c_it := by rw [a.dec]; omega
          c_lt := by rw [a.con]; omega
          c_d := by rw [a.dec, a.nv, a1, hmul]; omega
          c_lvl := by rw [a.dec]; omega
          c_reg := by rw [a.con, a.nv]; omega }

/-- a decision is survived only while the conflict budget lasts (`c_reg`): hence the implication -/
theorem LoopPre.decided {F as P D0 st all ever LT it var} (h : LoopPre F as P D0 st all ever LT it 0 var)
    (hI : Inv F st st.trail.size) (hz : Z F st) (hp : st.propHead = st.trail.size) (hvar : var ≠ 0)
    (hu : valAt st var = UNDEF) :
    Mid F (decideSt st var) (decideSt st var).propHead 0 ever ∧ ((decideSt st var).conflicts < P.maxConflicts →
      LoopPre F as P D0 (decideSt st var) all ever LT (it + 1) 0 0) := by
  obtain ⟨m2, hasm, hnv, hnb, hd, hc, hl, ht⟩ := Mid.decided ⟨hI, hz, h.hinv, h.einv⟩ hp hvar hu
  have c1 := h.c_it; have c2 := h.c_lt; have c3 := h.c_d; have c4 := h.c_lvl
  exact ⟨m2, fun hlt =>
    { good := h.good, asm := hasm.trans h.asm, aok := by rw [hnv]; exact h.aok, ne := h.ne
      nv := hnv.trans h.nv, hinv := m2.hinv, einv := m2.einv, noblk := fun hz => hnb.trans (h.noblk hz)
      c_a := h.c_a
      c_it := by rw [hd]; omega
      c_lt := by rw [hc]; exact c2
      c_d := by rw [hd, hnv, ht]; omega
      c_lvl := by rw [hl, hd]; omega
      c_reg := Or.inl hlt }⟩

/-- the conflict budget is used up only after `propagate`: until then the number of decisions is bounded by
what the clauses added so far pay for -/
theorem reg_step {mc sl n LT a d D0 T lvl c2 c4 : Nat} (hlt : LT ≤ c2) (hc4 : c4 ≤ c2 + 1)
    (ha : a ≤ sl) (hd : d ≤ D0 + (LT + a) * (n + 2) + T) (hT : T ≤ n + 1) (hlvl : lvl + D0 ≤ d)
    (hreg : c2 < mc ∨ LT + lvl ≤ mc + loopDmax mc sl n) :
    c4 < mc ∨ LT + lvl ≤ mc + loopDmax mc sl n := by
  by_cases h4 : c4 < mc
  · exact Or.inl h4
  · refine Or.inr ?_
    rcases hreg with h2 | h2
    · have hLT : LT + a ≤ mc + sl := by omega
      have := Nat.mul_le_mul_right (n + 2) hLT
      unfold loopDmax
      omega
    · exact h2

theorem LoopPre.propagate {F as P D0 st all ever LT it st' c} (h : LoopPre F as P D0 st all ever LT it 0 0)
    (hI : Inv F st st.propHead) (hz : Z F st) (hp : propagate st = (st', c)) :
    LoopPre F as P D0 st' all ever LT it (pend c) 0 ∧ After F st' c := by
  obtain ⟨pr, _⟩ := propagate_spec hI h.hinv hp
  have ext := pr.ext
  have q3 := pr.con
  have hp1 := pend_le_one c
  have hts := ext.tsize
  have c1 := h.c_it; have c2 := h.c_lt; have c3 := h.c_d; have c4 := h.c_lvl
  refine ⟨?_, pr.after hz⟩
  exact { good := h.good, asm := ext.asm.trans h.asm, aok := by rw [ext.nV]; exact h.aok, ne := h.ne, nv := ext.nV.trans h.nv
          hinv := pr.hinv, einv := h.einv.lperm ext.lp, noblk := fun hz => ext.lp.nb.trans (h.noblk hz), c_a := h.c_a
          c_it := by rw [ext.dec]; exact c1
          c_lt := by rw [q3]; omega
          c_d := by rw [ext.dec, ext.nV]; omega
          c_lvl := by rw [ext.lim, ext.dec]; exact c4
          c_reg := by
            rw [ext.lim, ext.nV]
            exact reg_step (by omega) (by rw [q3]; omega) h.c_a c3 hI.trailLe c4 h.c_reg }

theorem mkOut_good {F as P} (L : Loop) (status : Gen.Status) (sol : Option (List (Nat × Bool)))
    (sols : Option (List (List (Nat × Bool)))) (fuel : Nat) (note : String)
    (hsol : ∀ m, sol = some m → GoodSol F as m) (hsols : ∀ ms, sols = some ms → ∀ m ∈ ms, GoodSol F as m)
    (hinf : status = .INFEASIBLE → ¬ ∃ σ, Solvor.Sat.Models σ F as) (hopt : status = .OPTIMAL → sol.isSome = true)
    (hmax : status = .MAX_ITER → P.maxConflicts ≤ L.st.conflicts ∨ P.maxRestarts ≤ L.st.restarts)
    (hstatus : status = .OPTIMAL ∨ status = .INFEASIBLE ∨ status = .MAX_ITER ∨ status = .UNBOUNDED)
    (hnote : note ≠ "FUEL") : OutGood F as P (mkOut L status sol sols fuel note) :=
  { sol := hsol, sols := hsols, infeasible := hinf, optimal := hopt, maxIter := hmax, status := hstatus, note := hnote }

theorem optimal_good {F as P} (L : Loop) (m : List (Nat × Bool)) (sols : Option (List (List (Nat × Bool))))
    (fuel : Nat) (hm : GoodSol F as m) (hs : ∀ ms, sols = some ms → ∀ m ∈ ms, GoodSol F as m) :
    OutGood F as P (mkOut L .OPTIMAL (some m) sols fuel) :=
  mkOut_good L .OPTIMAL (some m) sols fuel "" (hsol := fun _ e => by cases e; exact hm) (hsols := hs)
    (hinf := fun e => nomatch e) (hopt := fun _ => rfl) (hmax := fun e => nomatch e) (hstatus := .inl rfl)
    (hnote := by decide)

theorem all_good {F as P} (L : Loop) (fuel : Nat) (hpos : L.all.size > 0) (h : ∀ m ∈ L.all.toList, GoodSol F as m) :
    OutGood F as P (mkOut L .OPTIMAL (some L.all[0]!) (some L.all.toList) fuel) :=
  optimal_good L _ _ fuel (h _ (get!_mem hpos)) (fun _ e m hm => by cases e; exact h m hm)

theorem giveUp_good {F as P} (L : Loop) (fuel : Nat) (note : String) (hnote : note ≠ "FUEL") :
    OutGood F as P (giveUp L fuel note) :=
  mkOut_good L .UNBOUNDED none none fuel note (hsol := fun _ e => nomatch e) (hsols := fun _ e => nomatch e)
    (hinf := fun e => nomatch e) (hopt := fun e => nomatch e) (hmax := fun e => nomatch e)
    (hstatus := .inr (.inr (.inr rfl))) (hnote := hnote)

theorem finish_good {F as P} (L : Loop) (status : Gen.Status) (fuel : Nat)
    (hst : (status = .OPTIMAL ∧ L.all.size > 0) ∨
      (status = .MAX_ITER ∧ (P.maxConflicts ≤ L.st.conflicts ∨ P.maxRestarts ≤ L.st.restarts)))
    (h : ∀ m ∈ L.all.toList, GoodSol F as m) : OutGood F as P (finish L status fuel) := by
  unfold finish
  split
  · rename_i hpos
    rcases hst with ⟨rfl, _⟩ | ⟨rfl, h2⟩
    · exact all_good L fuel hpos h
    · exact mkOut_good L .MAX_ITER _ _ fuel "" (hsol := fun _ e => by cases e; exact h _ (get!_mem hpos))
        (hsols := fun _ e m hm => by cases e; exact h m hm) (hinf := fun e => nomatch e) (hopt := fun e => nomatch e)
        (hmax := fun _ => h2) (hstatus := .inr (.inr (.inl rfl))) (hnote := by decide)
  · rename_i hz
    rcases hst with ⟨_, h2⟩ | ⟨rfl, h2⟩
    · exact absurd h2 hz
    · exact mkOut_good L .MAX_ITER none none fuel "" (hsol := fun _ e => nomatch e) (hsols := fun _ e => nomatch e)
        (hinf := fun e => nomatch e) (hopt := fun e => nomatch e) (hmax := fun _ => h2)
        (hstatus := .inr (.inr (.inl rfl))) (hnote := by decide)

theorem finishInf_good {F as P} (usePure : Bool) (L : Loop) (fuel : Nat)
    (h : ∀ m ∈ L.all.toList, GoodSol F as m) (hcnf : ∀ σ, Solvor.Sat.cnfTrue σ (stored L.st) = Solvor.Sat.cnfTrue σ F)
    (hE : EInv F L.st L.ever) (hnb : L.all.size = 0 → L.st.nBlocking = 0) (hasm : L.st.assumptions = as) :
    OutGood F as P (finishInf usePure L fuel) := by
  unfold finishInf
  split
  · rename_i hpos
    exact all_good L fuel hpos h
  · split
    · rename_i hcert
      exact mkOut_good L .INFEASIBLE none none fuel "" (hsol := fun _ e => nomatch e) (hsols := fun _ e => nomatch e)
        (hinf := fun _ => certify_unsat hcnf hE (hnb (by omega)) hasm hcert) (hopt := fun e => nomatch e)
        (hmax := fun e => nomatch e) (hstatus := .inr (.inl rfl)) (hnote := by decide)
    · exact giveUp_good _ _ _ (by decide)

theorem learnedStep_spec {F as P D0 fuel st all ever LT it p x} {L : Loop}
    (h : LoopPre F as P D0 st all ever LT it p x) (hT : st.trail.size ≤ st.nVars + 1)
    (hLT : L.learnedTotal = LT + p) (hit : L.iters = it + 1)
    (a : Added F as P st all LT L.st L.all L.ever L.learnedTotal) :
    StepOK F as P D0 L.iters (learnedStep P fuel L) := by
  unfold learnedStep
  split
  · split
    · rename_i hrst
      show OutGood F as P (finish L .MAX_ITER fuel)
      exact finish_good L .MAX_ITER fuel (Or.inr ⟨rfl, Or.inr hrst⟩) a.good
    · have h3 := h.added hT hLT a.restart
      cases hp : propagate (restartSt L.st) with
      | mk st4 c =>
        obtain ⟨h4, haft⟩ := h3.propagate a.restart.mid.inv a.restart.mid.z hp
        exact ⟨⟨hit ▸ h4, haft⟩, rfl⟩
  · have h2 := h.added hT hLT a
    cases hp : propagate L.st with
    | mk st4 c =>
      obtain ⟨h4, haft⟩ := h2.propagate a.mid.inv a.mid.z hp
      exact ⟨⟨hit ▸ h4, haft⟩, rfl⟩

theorem analyzedStep_spec {F as P D0 fuel it k} {L : Loop}
    (h : LoopPre F as P D0 L.st L.all L.ever L.learnedTotal it 1 0) (hit : L.iters = it + 1)
    (hinv : Inv F L.st k) (hz : Z F L.st) (cidx0 : Nat) (A : Analysis) :
    StepOK F as P D0 L.iters (analyzedStep P fuel L cidx0 A) := by
  unfold analyzedStep
  split
  · exact giveUp_good _ _ _ (by decide)
  rename_i hok
  have hAok : analysisOk A = true := by simpa using hok
  unfold analysisOk at hAok
  simp only [Bool.and_eq_true, List.all_eq_true, decide_eq_true_eq] at hAok
  simp only
  generalize hst1 : (if (L.st.trailLim.size == 0) = true then L.st else applyBumps L.st A.bumps.toList) = st1
  have hv : Vsids L.st st1 ∧ HInv st1 := by
    subst hst1
    split
    · exact ⟨Vsids.refl _, h.hinv⟩
    · exact applyBumps_spec _ _ h.hinv hAok.1
  have h1 := h.vsids hv.1 hv.2
  have hinv1 : Inv F st1 k := hv.1.inv hinv
  split
  · exact finishInf_good _ _ _ h.good (cnfTrue_stored hinv1) h1.einv h1.noblk h1.asm
  rename_i lc hlc
  split
  · exact giveUp_good _ _ _ (by decide)
  rename_i hguard
  split
  · exact giveUp_good _ _ _ (by decide)
  rename_i hchain
  have hg : uipOk st1 lc A.btLevel = true := by simpa using hguard
  have hlcnz : ∀ l ∈ lc.toList, l ≠ 0 := by
    have := hAok.2
    rw [hlc] at this
    simpa only [List.all_eq_true, bne_iff_ne] using this
  obtain ⟨m2, s2, l2⟩ := Mid.learnt ⟨hinv1, hv.1.Z hz, hv.2, h1.einv⟩ hg hlcnz
    (fun hb => chainOk_sound hinv1 h1.einv hb (by simpa using hchain)) A.lbd
  refine learnedStep_spec h1 hinv1.trailLe rfl hit ?_
  exact { one := by show L.learnedTotal + 1 + L.all.size = _; omega
          good := h.good, c_a := h.c_a, mid := m2, asm := s2.asm, nv := s2.nV
          noblk := fun hz' => s2.nb.trans (h1.noblk hz'), dec := s2.dec, con := s2.con
          lvl := by show L.learnedTotal + 1 + (learnAndJump st1 lc A.btLevel A.lbd).trailLim.size ≤ _; omega }

theorem solutionStep_spec {F as P D0 fuel it} {L : Loop}
    (h : LoopPre F as P D0 L.st L.all L.ever L.learnedTotal it 0 0) (hit : L.iters = it + 1)
    (hinv : Inv F L.st L.st.trail.size) (hph : L.st.propHead = L.st.trail.size) (hz : Z F L.st)
    (htot : ∀ v, 1 ≤ v → v ≤ L.st.nVars → valAt L.st v ≠ UNDEF) :
    StepOK F as P D0 L.iters (solutionStep P fuel L) := by
  have hsol : GoodSol F as (readSol L.st) := good_readSol hinv hz h.ne h.asm h.aok h.nv htot
  have hgood : ∀ m ∈ (L.all.push (readSol L.st)).toList, GoodSol F as m := by
    intro m hm
    rw [Array.toList_push, List.mem_append, List.mem_singleton] at hm
    rcases hm with hm | hm
    · exact h.good m hm
    · exact hm ▸ hsol
  unfold solutionStep
  simp only
  split
  · split
    · exact optimal_good _ _ none fuel hsol (fun _ e => nomatch e)
    · exact optimal_good _ _ _ fuel hsol (fun _ e m hm => by cases e; exact hgood m hm)
  · rename_i hlimit
    have hsz : (L.all.push (readSol L.st)).size = L.all.size + 1 := Array.size_push _
    split
    · exact finish_good _ _ _ (Or.inl ⟨rfl, by show 0 < (L.all.push _).size; omega⟩) hgood
    · obtain ⟨m2, ha2, hn2, d2, c2, l2⟩ := Mid.blocked ⟨by rw [hph]; exact hinv, hz, h.hinv, h.einv⟩ (blockingOf L.st)
        (blockingOf_mem L.st)
      have hadd : Added F as P L.st L.all L.learnedTotal (blockSt L.st (blockingOf L.st))
          (L.all.push (readSol L.st)) L.ever L.learnedTotal :=
        { one := by omega, good := hgood, c_a := by simp only [ge_iff_le, Nat.not_le] at hlimit; omega
          mid := m2, asm := ha2, nv := hn2, noblk := fun hz' => by omega
          dec := d2, con := c2, lvl := by omega }
      have h2 := h.added hinv.trailLe rfl hadd
      cases hp : propagate (blockSt L.st (blockingOf L.st)) with
      | mk st4 c =>
        obtain ⟨h4, haft⟩ := h2.propagate m2.inv m2.z hp
        exact ⟨⟨hit ▸ h4, haft⟩, rfl⟩

theorem decisionStep_spec {F as P D0 fuel it var} {L : Loop}
    (h : LoopPre F as P D0 L.st L.all L.ever L.learnedTotal it 0 var) (hit : L.iters = it + 1)
    (hinv : Inv F L.st L.st.trail.size) (hph : L.st.propHead = L.st.trail.size) (hz : Z F L.st)
    (hvar : var ≠ 0) (hu : valAt L.st var = UNDEF) :
    StepOK F as P D0 L.iters (decisionStep P fuel L var) := by
  obtain ⟨m2, h2⟩ := h.decided hinv hz hph hvar hu
  unfold decisionStep
  cases hp : propagate (decideSt L.st var) with
  | mk st4 c =>
    simp only
    split
    · rename_i hcf
      exact finish_good _ _ _ (Or.inr ⟨rfl, Or.inl hcf⟩) h.good
    · rename_i hcf
      have q3 := (propagate_spec m2.inv m2.hinv hp).1.con
      obtain ⟨h4, haft⟩ := (h2 (by simp only [ge_iff_le, Nat.not_le] at hcf; omega)).propagate m2.inv m2.z hp
      exact ⟨⟨hit ▸ h4, haft⟩, rfl⟩

theorem step_spec {F as} (P : Params) (D0 : Nat) (fuel : Nat) (L : Loop) (h : LoopInv F as P D0 L) :
    StepOK F as P D0 (L.iters + 1) (step P fuel L) := by
  obtain ⟨hpre, haft⟩ := h
  rw [step_eq_ref]
  unfold stepRef
  simp only
  cases hc : L.conflict with
  | fuel => exact absurd hc haft.nf
  | assumption =>
    obtain ⟨k, hinv⟩ := haft.inv
    exact finishInf_good _ _ _ hpre.good (cnfTrue_stored hinv) hpre.einv hpre.noblk hpre.asm
  | conflict cidx0 =>
    rw [hc] at hpre
    obtain ⟨k, hinv⟩ := haft.inv
    have hz := haft.z (by rw [hc]; nofun)
    simp only
    split
    · show OutGood F as P (finishInf _ _ fuel)
      exact finishInf_good _ _ _ hpre.good (cnfTrue_stored hinv) hpre.einv hpre.noblk hpre.asm
    · exact analyzedStep_spec (L := { L with iters := L.iters + 1, conflict := .conflict cidx0 }) hpre rfl hinv hz cidx0 _
  | ok =>
    rw [hc] at hpre
    obtain ⟨hinv, hph⟩ := haft.ok hc
    have hz := haft.z (by rw [hc]; nofun)
    simp only
    cases hpk : pickVar L.st with
    | mk st1 var =>
      unfold pickVar at hpk
      obtain ⟨v1, hHx, hv, htot⟩ := pickLoop_spec hpre.hinv (Nat.lt_succ_self _) hpk
      have h1 := hpre.vsids v1 hHx
      have hz1 := v1.Z hz
      have hinv1 : Inv F st1 st1.trail.size ∧ st1.propHead = st1.trail.size := by
        obtain ⟨_, _, _, _, rfl⟩ := v1
        exact ⟨inv_frame hinv, hph⟩
      simp only
      split
      · rename_i hvar0
        have hvar0' : var = 0 := by simpa using hvar0
        subst hvar0'
        exact solutionStep_spec (L := { L with iters := L.iters + 1, conflict := .ok, st := st1 })
          h1 rfl hinv1.1 hinv1.2 hz1 (htot rfl)
      · rename_i hvar
        have hvar' : var ≠ 0 := fun e => hvar (by simpa using e)
        exact decisionStep_spec (L := { L with iters := L.iters + 1, conflict := .ok, st := st1 }) h1 rfl
          hinv1.1 hinv1.2 hz1 hvar' (hv hvar')

theorem LoopInv.iters_lt {F as P D0 L} (h : LoopInv F as P D0 L) :
    L.iters < loopFuel P.maxConflicts P.solutionLimit L.st.nVars := by
  obtain ⟨k, hk⟩ := h.after.inv
  exact loopFuel_bound h.pre.c_it h.pre.c_lt h.pre.c_a h.pre.c_d hk.trailLe h.pre.c_reg

/-- (the second hypothesis: enough fuel for the iterations still to come, so the `FUEL` exit is never taken) -/
theorem run_spec {F as} (P : Params) (D0 : Nat) (fuel0 : Nat) : ∀ (fuel : Nat) (L : Loop), LoopInv F as P D0 L →
    loopFuel P.maxConflicts P.solutionLimit L.st.nVars ≤ L.iters + fuel →
    OutGood F as P (run P fuel0 fuel L) := by
  intro fuel
  induction fuel with
  | zero => intro L h hf; have := h.iters_lt; omega
  | succ fuel ih =>
    intro L h hf
    unfold run
    have := step_spec P D0 fuel0 L h
    split
    · rename_i o ho; rw [ho] at this; exact this
    · rename_i L' hL
      rw [hL] at this
      obtain ⟨h', hit⟩ := this
      refine ih L' h' ?_
      rw [h'.pre.nv, ← h.pre.nv]; omega

end Solvor.Sat.Cdcl
