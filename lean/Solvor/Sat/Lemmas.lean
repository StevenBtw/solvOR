import Solvor.Sat.Model
/-! Sat.Lemmas: CNF semantics, the reference DPLL and the model enumerator, the Boolean checkers, resolution chains.
Core Lean only. -/
namespace Solvor.Sat

theorem litTrue_neg {σ : Asg} {l : Int} (h : l ≠ 0) : litTrue σ (-l) = !litTrue σ l := by
  unfold litTrue
  rw [Int.natAbs_neg]
  by_cases hp : 0 < l
  · rw [if_pos hp, if_neg (by omega)]
  · rw [if_neg hp, if_pos (by omega), Bool.not_not]

def setLit (σ : Asg) (l : Int) : Asg :=
  fun v => if v = l.natAbs then decide (0 < l) else σ v

theorem litTrue_setLit_self {σ : Asg} {l : Int} : litTrue (setLit σ l) l = true := by
  unfold litTrue setLit
  by_cases hp : 0 < l <;> simp [hp]

theorem litTrue_setLit_other {σ : Asg} {l m : Int} (h1 : m ≠ l) (h2 : m ≠ -l) :
    litTrue (setLit σ l) m = litTrue σ m := by
  have : m.natAbs ≠ l.natAbs := fun h => (Int.natAbs_eq_natAbs_iff.1 h).elim h1 h2
  simp only [litTrue, setLit, if_neg this]

theorem setLit_other {σ : Asg} {l : Int} {v : Nat} (h : v ≠ l.natAbs) : setLit σ l v = σ v := by
  simp [setLit, h]

theorem clauseTrue_iff {σ : Asg} {c : Clause} : clauseTrue σ c = true ↔ ∃ l ∈ c, litTrue σ l = true := by
  simp [clauseTrue, List.any_eq_true]

theorem cnfTrue_iff {σ : Asg} {f : Cnf} : cnfTrue σ f = true ↔ ∀ c ∈ f, ∃ l ∈ c, litTrue σ l = true := by
  simp [cnfTrue, clauseTrue, List.all_eq_true, List.any_eq_true]

theorem cnfTrue_units_append {σ : Asg} {us : List Int} {f : Cnf} :
    cnfTrue σ (us.map (fun a => [a]) ++ f) = true ↔
      (∀ a ∈ us, litTrue σ a = true) ∧ ∀ c ∈ f, ∃ l ∈ c, litTrue σ l = true := by
  rw [cnfTrue_iff]
  constructor
  · intro h
    refine ⟨fun a ha => ?_, fun c hc => h c (List.mem_append_right _ hc)⟩
    obtain ⟨l, hl, ht⟩ := h [a] (List.mem_append_left _ (List.mem_map.2 ⟨a, ha, rfl⟩))
    exact List.mem_singleton.1 hl ▸ ht
  · rintro ⟨h2, h1⟩ c hc
    rcases List.mem_append.1 hc with hc | hc
    · obtain ⟨a, ha, rfl⟩ := List.mem_map.1 hc
      exact ⟨a, List.mem_singleton.2 rfl, h2 a ha⟩
    · exact h1 c hc

theorem WF_units_append {us : List Int} {f : Cnf} (hu : ∀ a ∈ us, a ≠ 0) (hf : WF f) :
    WF (us.map (fun a => [a]) ++ f) := by
  intro c hc l hl
  rcases List.mem_append.1 hc with hc | hc
  · obtain ⟨a, ha, rfl⟩ := List.mem_map.1 hc
    exact List.mem_singleton.1 hl ▸ hu a ha
  · exact hf c hc l hl

theorem cnfTrue_withAssumptions {σ : Asg} {f : Cnf} {as : List Int} :
    cnfTrue σ (withAssumptions f as) = true ↔ Models σ f as :=
  cnfTrue_units_append.trans And.comm

theorem WF_withAssumptions {f : Cnf} {as : List Int} (hf : WF f) (ha : ∀ a ∈ as, a ≠ 0) :
    WF (withAssumptions f as) :=
  WF_units_append ha hf

theorem wfB_iff {f : Cnf} : wfB f = true ↔ WF f := by
  simp only [wfB, WF, List.all_eq_true, bne_iff_ne, ne_eq]

theorem mem_assign {l : Int} {f : Cnf} {d : Clause} :
    d ∈ assign l f ↔ ∃ c ∈ f, l ∉ c ∧ d = c.filter (· != -l) := by
  unfold assign
  simp only [List.mem_map, List.mem_filter]
  constructor
  · rintro ⟨c, ⟨hc, hl⟩, rfl⟩; exact ⟨c, hc, by simpa using hl, rfl⟩
  · rintro ⟨c, hc, hl, rfl⟩; exact ⟨c, ⟨hc, by simpa using hl⟩, rfl⟩

theorem cnfTrue_assign {σ : Asg} {l : Int} {f : Cnf} (hl0 : l ≠ 0)
    (hl : litTrue σ l = true) : cnfTrue σ (assign l f) = cnfTrue σ f := by
  have hneg : litTrue σ (-l) = false := by rw [litTrue_neg hl0, hl]; rfl
  apply Bool.eq_iff_iff.2
  simp only [cnfTrue, List.all_eq_true]
  constructor
  · intro h c hc
    by_cases hlc : l ∈ c
    · simp only [clauseTrue, List.any_eq_true]; exact ⟨l, hlc, hl⟩
    · have := h _ ((mem_assign).2 ⟨c, hc, hlc, rfl⟩)
      simp only [clauseTrue, List.any_eq_true, List.mem_filter] at this ⊢
      obtain ⟨m, ⟨hm, _⟩, hmt⟩ := this
      exact ⟨m, hm, hmt⟩
  · intro h d hd
    obtain ⟨c, hc, hlc, rfl⟩ := (mem_assign).1 hd
    have := h c hc
    simp only [clauseTrue, List.any_eq_true, List.mem_filter] at this ⊢
    obtain ⟨m, hm, hmt⟩ := this
    refine ⟨m, ⟨hm, ?_⟩, hmt⟩
    have : m ≠ -l := by rintro rfl; rw [hneg] at hmt; cases hmt
    simpa using this

theorem assign_free {l : Int} {f : Cnf} : ∀ d ∈ assign l f, ∀ m ∈ d, m ≠ l ∧ m ≠ -l := by
  intro d hd m hm
  obtain ⟨c, _, hlc, rfl⟩ := (mem_assign).1 hd
  simp only [List.mem_filter] at hm
  refine ⟨?_, by simpa using hm.2⟩
  rintro rfl; exact hlc hm.1

theorem cnfTrue_setLit_assign {σ : Asg} {l : Int} {f : Cnf} :
    cnfTrue (setLit σ l) (assign l f) = cnfTrue σ (assign l f) := by
  have key : ∀ d ∈ assign l f, clauseTrue (setLit σ l) d = clauseTrue σ d := by
    intro d hd
    unfold clauseTrue
    apply Bool.eq_iff_iff.2
    simp only [List.any_eq_true]
    constructor
    · rintro ⟨m, hm, ht⟩
      have := assign_free d hd m hm
      exact ⟨m, hm, by rw [← litTrue_setLit_other this.1 this.2]; exact ht⟩
    · rintro ⟨m, hm, ht⟩
      have := assign_free d hd m hm
      exact ⟨m, hm, by rw [litTrue_setLit_other this.1 this.2]; exact ht⟩
  unfold cnfTrue
  apply Bool.eq_iff_iff.2
  simp only [List.all_eq_true]
  constructor
  · intro h d hd; rw [← key d hd]; exact h d hd
  · intro h d hd; rw [key d hd]; exact h d hd

theorem cnfTrue_setLit_of_assign {σ : Asg} {l : Int} {f : Cnf} (hl0 : l ≠ 0)
    (h : cnfTrue σ (assign l f) = true) : cnfTrue (setLit σ l) f = true := by
  rw [← cnfTrue_assign hl0 litTrue_setLit_self, cnfTrue_setLit_assign]
  exact h

theorem WF_assign {l : Int} {f : Cnf} (h : WF f) : WF (assign l f) := by
  intro d hd m hm
  obtain ⟨c, hc, _, rfl⟩ := (mem_assign).1 hd
  exact h c hc m (List.mem_filter.1 hm).1

theorem size_cons (c : Clause) (f : Cnf) : size (c :: f) = c.length + size f := by
  simp [size]

theorem size_filter_le (p : Clause → Bool) (f : Cnf) : size (f.filter p) ≤ size f := by
  induction f with
  | nil => simp
  | cons c f ih =>
    simp only [List.filter_cons]; split
    · simp only [size_cons]; omega
    · simp only [size_cons]; omega

theorem size_map_filter_le (q : Int → Bool) (f : Cnf) :
    size (f.map fun c => c.filter q) ≤ size f := by
  induction f with
  | nil => simp
  | cons c f ih =>
    simp only [List.map_cons, size_cons]
    have := List.length_filter_le q c; omega

def meas (f : Cnf) : Nat := size f + f.length

theorem assign_cons (l : Int) (c : Clause) (f : Cnf) :
    assign l (c :: f) = if c.contains l then assign l f else c.filter (· != -l) :: assign l f := by
  unfold assign
  rw [List.filter_cons]
  by_cases h : c.contains l = true
  · simp only [h, Bool.not_true, Bool.false_eq_true, if_false, if_true]
  · have h' : c.contains l = false := by simpa using h
    simp only [h', Bool.not_false, if_true, Bool.false_eq_true, if_false, List.map_cons]

theorem length_filter_ne_lt {l : Int} {c : Clause} (hl : l ∈ c) :
    (c.filter (· != l)).length < c.length :=
  List.length_filter_lt_length_iff_exists.2 ⟨l, hl, by simp⟩

theorem meas_cons (c : Clause) (f : Cnf) : meas (c :: f) = c.length + 1 + meas f := by
  simp only [meas, size_cons, List.length_cons]
  omega

theorem meas_assign_le (l : Int) (f : Cnf) : meas (assign l f) ≤ meas f := by
  have h1 := size_map_filter_le (· != -l) (f.filter (!·.contains l))
  have h2 := size_filter_le (!·.contains l) f
  have h3 := List.length_filter_le (!·.contains l) f
  unfold meas assign
  rw [List.length_map]
  omega

/-- the clause `c` disappears or loses a literal -/
theorem meas_assign_lt {l : Int} {c : Clause} {f : Cnf} (hc : c ∈ f) (hl : l ∈ c ∨ -l ∈ c) :
    meas (assign l f) < meas f := by
  induction f with
  | nil => cases hc
  | cons d f ih =>
    have hle := meas_assign_le l f
    have hfl := List.length_filter_le (· != -l) d
    rw [assign_cons, meas_cons]
    split
    · rcases List.mem_cons.1 hc with rfl | hc
      · omega
      · have := ih hc; omega
    · rename_i hnc
      rw [meas_cons]
      rcases List.mem_cons.1 hc with rfl | hc
      · have := length_filter_ne_lt (hl.resolve_left fun h => hnc (by simpa using h)); omega
      · have := ih hc; omega

theorem pick_mem {f : Cnf} {c : Clause} (h : pick f = some c) : c ∈ f := by
  induction f generalizing c with
  | nil => simp [pick] at h
  | cons d f ih =>
    unfold pick at h
    split at h
    · cases h; exact List.mem_cons_self
    · rename_i e he
      split at h
      · cases h; exact List.mem_cons_self
      · cases h; exact List.mem_cons_of_mem _ (ih he)

theorem pick_none {f : Cnf} (h : pick f = none) : f = [] := by
  cases f with
  | nil => rfl
  | cons d f =>
    unfold pick at h
    split at h
    · cases h
    · split at h <;> cases h

theorem dpll_correct : ∀ (fuel : Nat) (f : Cnf), WF f → meas f < fuel →
    (dpll fuel f = true ↔ ∃ σ, cnfTrue σ f = true) := by
  intro fuel
  induction fuel with
  | zero => intro f _ h; omega
  | succ fuel ih =>
    intro f hwf hm
    unfold dpll
    split
    · rename_i hp
      rw [pick_none hp]; simp [cnfTrue]
    · rename_i hp
      have hmem := pick_mem hp
      simp only [Bool.false_eq_true, false_iff]
      rintro ⟨σ, hσ⟩
      have := (cnfTrue_iff.1 hσ) [] hmem
      simp at this
    · rename_i l c hp
      have hmem := pick_mem hp
      have hl0 : l ≠ 0 := hwf (l :: c) hmem l List.mem_cons_self
      have hnl0 : -l ≠ 0 := by omega
      have m1 := meas_assign_lt hmem (Or.inl (List.mem_cons_self (a := l) (l := c)))
      have m2 := meas_assign_lt (l := -l) hmem (Or.inr (by rw [Int.neg_neg]; exact List.mem_cons_self))
      have i1 := ih (assign l f) (WF_assign hwf) (by omega)
      have i2 := ih (assign (-l) f) (WF_assign hwf) (by omega)
      simp only [Bool.or_eq_true, i1, i2]
      constructor
      · rintro (⟨σ, hσ⟩ | ⟨σ, hσ⟩)
        · exact ⟨setLit σ l, cnfTrue_setLit_of_assign hl0 hσ⟩
        · exact ⟨setLit σ (-l), cnfTrue_setLit_of_assign hnl0 hσ⟩
      · rintro ⟨σ, hσ⟩
        by_cases ht : litTrue σ l = true
        · left; exact ⟨σ, by rw [cnfTrue_assign hl0 ht]; exact hσ⟩
        · right
          have : litTrue σ (-l) = true := by
            rw [litTrue_neg hl0]; simpa using ht
          exact ⟨σ, by rw [cnfTrue_assign hnl0 this]; exact hσ⟩

theorem solve_correct (f : Cnf) (h : WF f) : solve f = true ↔ ∃ σ, cnfTrue σ f = true :=
  dpll_correct _ f h (by unfold meas; omega)

theorem lookup_none_of_not_mem {m : AList} {v : Nat} (h : v ∉ m.map Prod.fst) : m.lookup v = none :=
  List.lookup_eq_none_iff.2 fun p hp => bne_iff_ne.2 fun e => h (List.mem_map.2 ⟨p, hp, e.symm⟩)

theorem lookup_mem {m : AList} {v : Nat} {b : Bool} (h : m.lookup v = some b) : (v, b) ∈ m := by
  obtain ⟨_, _, rfl, _⟩ := List.lookup_eq_some_iff.1 h
  exact List.mem_append_right _ List.mem_cons_self

theorem litHolds_iff {m : AList} {l : Int} : litHolds m l = true ↔ m.lookup l.natAbs = some (decide (0 < l)) := by
  simp [litHolds]

theorem litTrue_asgOf_of_holds {m : AList} {l : Int} (h : litHolds m l = true) : litTrue (asgOf m) l = true := by
  rw [litHolds_iff] at h
  unfold litTrue asgOf
  rw [h]
  by_cases hp : 0 < l <;> simp [hp]

theorem holds_of_litTrue_asgOf {m : AList} {l : Int} (ht : (m.lookup l.natAbs).isSome = true)
    (h : litTrue (asgOf m) l = true) : litHolds m l = true := by
  rw [litHolds_iff]
  obtain ⟨b, hb⟩ := Option.isSome_iff_exists.1 ht
  unfold litTrue asgOf at h
  rw [hb] at h ⊢
  by_cases hp : 0 < l <;> simp [hp] at h ⊢ <;> exact h

theorem differ_iff {a b : AList} : differ a b = true ↔ ∃ v, a.lookup v ≠ b.lookup v := by
  unfold differ
  simp only [List.any_eq_true, bne_iff_ne]
  constructor
  · rintro ⟨v, _, h⟩; exact ⟨v, h⟩
  · rintro ⟨v, h⟩
    refine ⟨v, ?_, h⟩
    apply Classical.byContradiction
    intro hn
    simp only [List.mem_append, not_or] at hn
    exact h (by rw [lookup_none_of_not_mem hn.1, lookup_none_of_not_mem hn.2])

theorem pairwiseDistinct_iff' (ms : List AList) :
    pairwiseDistinct ms = true ↔ ms.Pairwise (fun a b => ∃ v, a.lookup v ≠ b.lookup v) := by
  induction ms with
  | nil => simp [pairwiseDistinct]
  | cons a ms ih =>
    simp only [pairwiseDistinct, Bool.and_eq_true, List.all_eq_true, differ_iff, ih, List.pairwise_cons]

theorem nodupNat_iff (xs : List Nat) : nodupNat xs = true ↔ xs.Pairwise (· ≠ ·) := by
  induction xs with
  | nil => simp [nodupNat]
  | cons a r ih =>
    simp only [nodupNat, Bool.and_eq_true, List.all_eq_true, bne_iff_ne, ih, List.pairwise_cons]
    constructor
    · rintro ⟨h1, h2⟩; exact ⟨fun b hb => (h1 b hb).symm, h2⟩
    · rintro ⟨h1, h2⟩; exact ⟨fun b hb => (h1 b hb).symm, h2⟩

theorem fastDistinct_sound {vs : List Nat} {ms : List AList} (h : fastDistinct vs ms = true) :
    ms.Pairwise (fun a b => ∃ v, a.lookup v ≠ b.lookup v) := by
  unfold fastDistinct at h
  rw [nodupNat_iff, List.pairwise_map] at h
  refine h.imp ?_
  intro a b hne
  apply Classical.byContradiction
  intro hall
  apply hne
  have : (fun v => a.lookup v) = (fun v => b.lookup v) := by
    funext v
    apply Classical.byContradiction
    intro hv; exact hall ⟨v, hv⟩
  rw [this]

theorem litTrue_natCast {σ : Asg} {v : Nat} (hv : v ≠ 0) : litTrue σ (v : Int) = σ v := by
  unfold litTrue
  have : (0 : Int) < v := by omega
  rw [if_pos this]; simp

theorem litTrue_neg_natCast {σ : Asg} {v : Nat} (hv : v ≠ 0) : litTrue σ (-(v : Int)) = !σ v := by
  rw [litTrue_neg (by omega), litTrue_natCast hv]

theorem mem_enumModels_nil {f : Cnf} {m : AList} : m ∈ enumModels [] f ↔ solve f = true ∧ m = [] := by
  rw [enumModels]
  split
  · rename_i hs; simp [hs]
  · rename_i hs; simp [hs]

theorem mem_enumModels_cons {v : Nat} {vs : List Nat} {f : Cnf} {m : AList} :
    m ∈ enumModels (v :: vs) f ↔ solve f = true ∧
      ((∃ m' ∈ enumModels vs (assign (v : Int) f), (v, true) :: m' = m) ∨
       (∃ m' ∈ enumModels vs (assign (-(v : Int)) f), (v, false) :: m' = m)) := by
  rw [enumModels]
  split
  · rename_i hs; simp only [hs, true_and, List.mem_append, List.mem_map]
  · rename_i hs; simp [hs]

theorem enum_keys : ∀ (vs : List Nat) (f : Cnf), ∀ m ∈ enumModels vs f, m.map Prod.fst = vs := by
  intro vs
  induction vs with
  | nil => intro f m hm; rw [(mem_enumModels_nil.1 hm).2]; rfl
  | cons v vs ih =>
    intro f m hm
    rcases (mem_enumModels_cons.1 hm).2 with ⟨m', hm', rfl⟩ | ⟨m', hm', rfl⟩
    · rw [List.map_cons, ih _ _ hm']
    · rw [List.map_cons, ih _ _ hm']

theorem enum_sound : ∀ (vs : List Nat) (f : Cnf), vs.Nodup → (∀ v ∈ vs, v ≠ 0) → WF f →
    ∀ m ∈ enumModels vs f, ∃ σ, cnfTrue σ f = true ∧ ∀ p ∈ m, σ p.1 = p.2 := by
  intro vs
  induction vs with
  | nil =>
    intro f _ _ hf m hm
    obtain ⟨hs, rfl⟩ := mem_enumModels_nil.1 hm
    obtain ⟨σ, hσ⟩ := (solve_correct f hf).1 hs
    exact ⟨σ, hσ, fun _ hp => nomatch hp⟩
  | cons v vs ih =>
    intro f hnd h0 hf m hm
    have hv0 : v ≠ 0 := h0 v List.mem_cons_self
    have hnd' := (List.nodup_cons.1 hnd)
    have h0' : ∀ w ∈ vs, w ≠ 0 := fun w hw => h0 w (List.mem_cons_of_mem _ hw)
    -- a model of the branch on `l`, changed to make `l` true, and still right on the other variables
    have key : ∀ (l : Int) (b : Bool), l.natAbs = v → l ≠ 0 → b = decide (0 < l) →
        ∀ m' ∈ enumModels vs (assign l f), ∃ σ, cnfTrue σ f = true ∧ ∀ p ∈ (v, b) :: m', σ p.1 = p.2 := by
      intro l b hlv hl0 hb m' hm'
      obtain ⟨σ, hσ, hag⟩ := ih (assign l f) hnd'.2 h0' (WF_assign hf) m' hm'
      refine ⟨setLit σ l, cnfTrue_setLit_of_assign hl0 hσ, ?_⟩
      intro p hp
      rcases List.mem_cons.1 hp with rfl | hp
      · simp [setLit, hlv, hb]
      · have hk : p.1 ∈ vs := by
          rw [← enum_keys vs _ m' hm']; exact List.mem_map.2 ⟨p, hp, rfl⟩
        have : p.1 ≠ l.natAbs := by rw [hlv]; rintro h; exact hnd'.1 (h ▸ hk)
        rw [setLit_other this]; exact hag p hp
    rcases (mem_enumModels_cons.1 hm).2 with ⟨m', hm', rfl⟩ | ⟨m', hm', rfl⟩
    · exact key (v : Int) true (by simp) (by omega) (by simp; omega) m' hm'
    · exact key (-(v : Int)) false (by simp) (by omega) (by simp) m' hm'

theorem enum_complete : ∀ (vs : List Nat) (f : Cnf), (∀ v ∈ vs, v ≠ 0) → WF f →
    ∀ σ, cnfTrue σ f = true → vs.map (fun v => (v, σ v)) ∈ enumModels vs f := by
  intro vs
  induction vs with
  | nil => intro f _ hf σ hσ; exact mem_enumModels_nil.2 ⟨(solve_correct f hf).2 ⟨σ, hσ⟩, rfl⟩
  | cons v vs ih =>
    intro f h0 hf σ hσ
    have hv0 : v ≠ 0 := h0 v List.mem_cons_self
    have h0' : ∀ w ∈ vs, w ≠ 0 := fun w hw => h0 w (List.mem_cons_of_mem _ hw)
    refine mem_enumModels_cons.2 ⟨(solve_correct f hf).2 ⟨σ, hσ⟩, ?_⟩
    rw [List.map_cons]
    cases hb : σ v with
    | true =>
      have ht : litTrue σ (v : Int) = true := by rw [litTrue_natCast hv0]; exact hb
      exact Or.inl ⟨_, ih (assign (v : Int) f) h0' (WF_assign hf) σ
        (by rw [cnfTrue_assign (by omega) ht]; exact hσ), rfl⟩
    | false =>
      have ht : litTrue σ (-(v : Int)) = true := by rw [litTrue_neg_natCast hv0, hb]; rfl
      exact Or.inr ⟨_, ih (assign (-(v : Int)) f) h0' (WF_assign hf) σ
        (by rw [cnfTrue_assign (by omega) ht]; exact hσ), rfl⟩

theorem enum_nodup : ∀ (vs : List Nat) (f : Cnf), (enumModels vs f).Nodup := by
  intro vs
  induction vs with
  | nil => intro f; unfold enumModels; split <;> simp
  | cons v vs ih =>
    intro f
    unfold enumModels
    split
    · apply List.nodup_append.2
      refine ⟨?_, ?_, ?_⟩
      · exact List.Pairwise.map _ (fun a b h => by simpa using h) (ih _)
      · exact List.Pairwise.map _ (fun a b h => by simpa using h) (ih _)
      · intro a ha b hb
        obtain ⟨a', _, rfl⟩ := List.mem_map.1 ha
        obtain ⟨b', _, rfl⟩ := List.mem_map.1 hb
        simp
    · simp

theorem resolve_true {σ : Asg} {c d : Clause} {p : Int} (hp : p ≠ 0)
    (hc : clauseTrue σ c = true) (hd : clauseTrue σ d = true) : clauseTrue σ (resolve c d p) = true := by
  rw [clauseTrue_iff] at hc hd ⊢
  obtain ⟨l, hl, hlt⟩ := hc
  obtain ⟨k, hk, hkt⟩ := hd
  unfold resolve
  by_cases h : litTrue σ p = true
  · -- `-p` is false, so the true literal of `d` survives
    have hneg : litTrue σ (-p) = false := by rw [litTrue_neg hp, h]; rfl
    refine ⟨k, List.mem_append_right _ (List.mem_filter.2 ⟨hk, ?_⟩), hkt⟩
    have : k ≠ -p := by rintro rfl; rw [hneg] at hkt; cases hkt
    simpa using this
  · refine ⟨l, List.mem_append_left _ (List.mem_filter.2 ⟨hl, ?_⟩), hlt⟩
    have : l ≠ p := by rintro rfl; exact h hlt
    simpa using this

theorem entails_chain {f : Cnf} : ∀ (steps : List (Clause × Int)) (c0 : Clause), Entails f c0 →
    (∀ s ∈ steps, Entails f s.1 ∧ s.2 ≠ 0) → Entails f (chain c0 steps) := by
  intro steps
  induction steps with
  | nil => intro c0 h _; exact h
  | cons s steps ih =>
    intro c0 h0 hs
    unfold chain
    simp only [List.foldl_cons]
    apply ih
    · intro σ hσ
      exact resolve_true (hs s List.mem_cons_self).2 ((hs s List.mem_cons_self).1 σ hσ) (h0 σ hσ)
    · intro t ht; exact hs t (List.mem_cons_of_mem _ ht)

theorem entails_mono {F : Cnf} {c d : List Int} (h : ∀ l ∈ c, l ∈ d) (he : Entails F c) : Entails F d :=
  fun σ hσ => let ⟨l, hl, ht⟩ := clauseTrue_iff.1 (he σ hσ); clauseTrue_iff.2 ⟨l, h l hl, ht⟩

/-- C01/C02 (clause learning): a clause obtained from an entailed conflict clause by the 1-UIP chain
of resolutions with entailed antecedents – and any clause containing all its literals, e.g. the
de-duplicated one `analyze()` stores – is entailed by the formula. -/
theorem learn_chain_sound (f : Cnf) (c0 : Clause) (steps : List (Clause × Int)) (c' : Clause)
    (h0 : Entails f c0) (hs : ∀ s ∈ steps, Entails f s.1 ∧ s.2 ≠ 0)
    (hsub : ∀ l ∈ chain c0 steps, l ∈ c') : Entails f c' :=
  entails_mono hsub (entails_chain steps c0 h0 hs)

example : chain [-1, -2] [([2, -3], 2), ([3, -1], 3)] = [-1, -1] := by decide

theorem entails_mem {F : Cnf} {c : List Int} (h : c ∈ F) : Entails F c :=
  fun _ hσ => clauseTrue_iff.2 ((cnfTrue_iff.1 hσ) c h)

end Solvor.Sat
