import Solvor.Sat.CdclProp
import Solvor.Sat.CdclBack
import Solvor.Sat.CdclH2
import Solvor.Sat.CdclE
/-! Sat.CdclLoop: the operations of the main loop other than `propagate`, one lemma per operation.  `Mid` bundles
what holds between two calls of `propagate`, `Sub` what the sub-steps leave alone; the named sub-steps are compositions
of the primitive operations.  At the end the assignment `readSol` reads off at a solution. -/
namespace Solvor.Sat.Cdcl

/-- "zero": unit input clauses and assumptions are true at decision level 0 (`True0`), where no backjump undoes them –
what `Inv`, which constrains clauses of two or more literals, leaves to say for `good_readSol` -/
def Z (F : List (List Int)) (st : St) : Prop :=
  (∀ c, c < F.length → (cl st c).size = 1 → True0 st (cl st c)[0]!) ∧ (∀ a ∈ st.assumptions, True0 st a)

theorem Z.mono {F st st'} (hz : Z F st) (hT : ∀ l, True0 st l → True0 st' l) (e3 : st'.clauses = st.clauses)
    (e4 : st'.assumptions = st.assumptions) : Z F st' := by
  have hcl : ∀ c, cl st' c = cl st c := fun c => by unfold cl; rw [e3]
  exact ⟨fun c hc h1 => by rw [hcl] at h1 ⊢; exact hT _ (hz.1 c hc h1), fun a ha => hT _ (hz.2 a (e4 ▸ ha))⟩

theorem Z_of_eq {F st st'} (hz : Z F st) (e1 : st'.vals = st.vals) (e2 : st'.levels = st.levels)
    (e3 : st'.clauses = st.clauses) (e4 : st'.assumptions = st.assumptions) : Z F st' :=
  hz.mono (fun _ ⟨a, b⟩ => ⟨a.congr (by unfold valAt; rw [e1]), by unfold lvlAt; rw [e2]; exact b⟩) e3 e4

theorem Z_ext {F st st'} (hz : Z F st) (e : Ext st st') : Z F st' := by
  have hT : ∀ l, True0 st l → True0 st' l := fun l ⟨a, b⟩ => ⟨e.isTrue a, by rw [e.lvl a.assigned]; exact b⟩
  refine ⟨fun c hc h1 => ?_, fun a ha => hT _ (hz.2 a (e.asm ▸ ha))⟩
  have := perm_unit (e.cperm c) h1
  rw [← this] at h1 ⊢
  exact hT _ (hz.1 c hc h1)

theorem Z_back {F st st' level} (hz : Z F st) (b : Back st st' level) : Z F st' :=
  hz.mono (fun l ⟨a, c⟩ => ⟨a.congr (b.keep l.natAbs (by omega)), by unfold lvlAt; rw [b.levels]; exact c⟩) b.clauses b.asm

theorem inv_setBig {F st k} (h : Inv F st k) (B : Array (Array (Int × Nat)))
    (hb : ∀ c, c < F.length → (cl st c).size = 2 →
      ((cl st c)[1]!, c) ∈ il { st with big := B } (cl st c)[0]! ∧ ((cl st c)[0]!, c) ∈ il { st with big := B } (cl st c)[1]!) :
    Inv F { st with big := B } k :=
  { h with battach := hb }

theorem inv_bigAdd {F st k} (h : Inv F st k) (a b : Int) (idx : Nat) : Inv F (bigAdd st a b idx) k := by
  refine inv_setBig h _ ?_
  intro c hc h2
  exact ⟨il_bigAdd_mono st a b idx _ _ (h.battach c hc h2).1, il_bigAdd_mono st a b idx _ _ (h.battach c hc h2).2⟩

theorem inv_attach {F st k} (h : Inv F st k) (c : Array Int) {idx : Nat} (hidx : F.length ≤ idx) :
    Inv F (attach st c idx) k := by
  unfold attach
  split
  · exact inv_bigAdd h _ _ _
  · split
    · exact inv_addWatch_learned (inv_addWatch_learned h _ hidx) _ hidx
    · exact h

theorem inv_decide {F st} (h : Inv F st st.trail.size) :
    Inv F { st with trailLim := st.trailLim.push st.trail.size } st.trail.size := by
  have hlimget : ∀ j, j < st.trailLim.size → (st.trailLim.push st.trail.size)[j]! = st.trailLim[j]! := by
    intro j hj; rw [get!_push]; simp [Nat.ne_of_lt hj]
  -- the new mark lies above every position, so no level changes; the old marks are at most it (`limLe` at the end)
  have hlast : (st.trailLim.push st.trail.size)[st.trailLim.size]! = st.trail.size := by rw [get!_push]; simp
  refine { h with limSorted := ?_, limLe := ?_, kLe := Nat.le_refl _, tl := ?_, lvlLe := ?_ }
  · intro j1 j2 hj hj2
    show (st.trailLim.push st.trail.size)[j1]! ≤ (st.trailLim.push st.trail.size)[j2]!
    have hsz : (st.trailLim.push st.trail.size).size = st.trailLim.size + 1 := by simp
    have hj2' : j2 < st.trailLim.size + 1 := by
      have : j2 < (st.trailLim.push st.trail.size).size := hj2
      omega
    by_cases h2 : j2 < st.trailLim.size
    · rw [hlimget j1 (by omega), hlimget j2 h2]; exact h.limSorted j1 j2 hj h2
    · have : j2 = st.trailLim.size := by omega
      subst this
      rw [hlast]
      by_cases h1 : j1 < st.trailLim.size
      · rw [hlimget j1 h1]; exact h.limLe j1 h1
      · have : j1 = st.trailLim.size := by omega
        rw [this, hlast]; exact Nat.le_refl _
  · intro j hj
    show (st.trailLim.push st.trail.size)[j]! ≤ st.trail.size
    have hj' : j < st.trailLim.size + 1 := by
      have : j < (st.trailLim.push st.trail.size).size := hj
      simpa using this
    by_cases h2 : j < st.trailLim.size
    · rw [hlimget j h2]; exact h.limLe j h2
    · have : j = st.trailLim.size := by omega
      rw [this, hlast]; exact Nat.le_refl _
  · intro i j hi hj
    show (st.trailLim.push st.trail.size)[j]! ≤ i ↔ j < lvlAt st (st.trail[i]!)
    have hj' : j < st.trailLim.size + 1 := by
      have : j < (st.trailLim.push st.trail.size).size := hj
      simpa using this
    by_cases h2 : j < st.trailLim.size
    · rw [hlimget j h2]; exact h.tl i j hi h2
    · have : j = st.trailLim.size := by omega
      rw [this, hlast]
      have := h.lvlLe i hi
      have hi' : i < st.trail.size := hi
      constructor
      · intro hh; omega
      · intro hh; omega
  · intro i hi
    show lvlAt st (st.trail[i]!) ≤ (st.trailLim.push st.trail.size).size
    have := h.lvlLe i hi
    simp; omega

/-- fields of the state that `reduceDb`, `attach`, `pickVar` and the counters leave alone (no lemma is stated with it:
the frame of these steps is `Sub`, the `…_only` equations and `LPerm`) -/
structure CoreEq (st st' : St) : Prop where
  nVars : st'.nVars = st.nVars
  nOrig : st'.nOrig = st.nOrig
  asm : st'.assumptions = st.assumptions
  clauses : st'.clauses = st.clauses
  vals : st'.vals = st.vals
  levels : st'.levels = st.levels
  trail : st'.trail = st.trail
  trailLim : st'.trailLim = st.trailLim
  propHead : st'.propHead = st.propHead

theorem reattach_spec {F k} (no : Nat) (hno : F.length ≤ no) (keep : Array (Array Int)) :
    ∀ (fuel j : Nat) (st : St), Inv F st k → Inv F (reattach no keep fuel j st) k := by
  intro fuel
  induction fuel with
  | zero => intro j st h; exact h
  | succ fuel ih =>
    intro j st h
    rw [reattach_succ]
    exact ih (j + 1) _ (inv_attach h _ (by omega))

theorem inv_reduceDb {F st k} (h : Inv F st k) : Inv F (reduceDb st) k := by
  unfold reduceDb
  split
  · exact h
  · simp only
    have hwl : ∀ l, wl { st with watch := st.watch.map (·.filter (· < st.nOrig)) } l = (wl st l).filter (· < st.nOrig) := by
      intro l; unfold wl watchOf; exact get!_map_filter _ _ _
    have h1 : Inv F { st with watch := st.watch.map (·.filter (· < st.nOrig)) } k := by
      refine inv_setWatch_filter h _ (by rw [Array.size_map]; exact h.wsize) (fun l => ?_)
      rw [hwl, h.nOrig, List.filter_filter]
      simp only [Bool.and_self]; exact List.Perm.refl _
    have h2 : Inv F { st with watch := st.watch.map (·.filter (· < st.nOrig)),
                              big := st.big.map (·.filter (·.2 < st.nOrig)) } k := by
      refine inv_setBig h1 _ ?_
      intro c hc h2
      obtain ⟨b0, b1⟩ := h.battach c hc h2
      have hlt : decide (c < st.nOrig) = true := by rw [h.nOrig]; simpa using hc
      have hil : ∀ (s : St) (l : Int) (e : Int × Nat), s.big = st.big.map (·.filter (·.2 < st.nOrig)) →
          e ∈ il st l → decide (e.2 < st.nOrig) = true → e ∈ il s l := by
        intro s l e hs he hlt'
        unfold il implications; rw [hs, get!_map_filter]; exact List.mem_filter.2 ⟨he, hlt'⟩
      exact ⟨hil _ _ _ rfl b0 hlt, hil _ _ _ rfl b1 hlt⟩
    exact reattach_spec st.nOrig (by rw [h.nOrig]; exact Nat.le_refl _) _ _ 0 _
      (inv_frame h2)

/-- `st'` is `st` up to the VSIDS fields (activities, their increment, the heap and its membership flags), which
neither `Inv` nor `Z` reads -/
def Vsids (st st' : St) : Prop :=
  ∃ act inc hp ih, st' = { st with activity := act, activityInc := inc, heap := hp, inHeap := ih }

theorem Vsids.refl (st : St) : Vsids st st := ⟨_, _, _, _, rfl⟩

theorem Vsids.trans {a b c : St} (h1 : Vsids a b) (h2 : Vsids b c) : Vsids a c := by
  obtain ⟨_, _, _, _, rfl⟩ := h1
  obtain ⟨_, _, _, _, rfl⟩ := h2
  exact ⟨_, _, _, _, rfl⟩

theorem Vsids.inv {F st st' k} (v : Vsids st st') (h : Inv F st k) : Inv F st' k := by
  obtain ⟨_, _, _, _, rfl⟩ := v
  exact inv_frame h

theorem Vsids.Z {F st st'} (v : Vsids st st') (hz : Z F st) : Z F st' := by
  obtain ⟨_, _, _, _, rfl⟩ := v
  exact Z_of_eq hz rfl rfl rfl rfl

theorem applyBumps_spec {x} (bs : List Nat) (st : St) (h : HInvX st x) (hb : ∀ v ∈ bs, 1 ≤ v) :
    Vsids st (applyBumps st bs) ∧ HInvX (applyBumps st bs) x := by
  have key : ∀ (bs : List Nat) (st : St), HInvX st x → (∀ v ∈ bs, 1 ≤ v) →
      Vsids st (bs.foldl bumpOne st) ∧ HInvX (bs.foldl bumpOne st) x := by
    intro bs
    induction bs with
    | nil => intro st h _; exact ⟨Vsids.refl _, h⟩
    | cons v t ih =>
      intro st h hb
      obtain ⟨a, b⟩ := ih (bumpOne st v) (hinv_bumpOne h (hb v List.mem_cons_self)) (fun u hu => hb u (List.mem_cons_of_mem _ hu))
      refine ⟨Vsids.trans ?_ a, b⟩
      unfold bumpOne; simp only; split <;> exact ⟨_, _, _, _, rfl⟩
  obtain ⟨a, b⟩ := key bs st h hb
  unfold applyBumps
  exact ⟨a.trans ⟨_, _, _, _, rfl⟩, hinv_frame b⟩

theorem pickLoop_spec : ∀ {fuel : Nat} {st st' : St} {var : Nat}, HInv st → st.heap.size < fuel →
    pickLoop fuel st = (st', var) →
    Vsids st st' ∧ HInvX st' var ∧ (var ≠ 0 → valAt st' var = UNDEF) ∧
    (var = 0 → ∀ v, 1 ≤ v → v ≤ st'.nVars → valAt st' v ≠ UNDEF) := by
  intro fuel
  induction fuel with
  | zero => intro st st' var _ hf; omega
  | succ fuel ih =>
    intro st st' var h hfuel hs
    unfold pickLoop at hs
    split at hs
    · rename_i hz
      simp only [Prod.mk.injEq] at hs
      obtain ⟨rfl, rfl⟩ := hs
      have hnil : st.heap.toList = [] := List.eq_nil_of_length_eq_zero (Array.length_toList.trans (beq_iff_eq.1 hz))
      refine ⟨Vsids.refl _, h, fun h0 => absurd rfl h0, fun _ v hv1 hv2 hu => ?_⟩
      obtain ⟨e, he, _⟩ := h.entry v hv1 (h.flag v hv1 hv2 (by omega) hu)
      rw [hnil] at he; cases he
    rename_i hz
    simp only at hs
    split at hs
    · rename_i hpop
      exact absurd (beq_iff_eq.2 (Array.length_toList.symm.trans (congrArg List.length (heapPop_none hpop)))) hz
    · rename_i f v hp hpop
      have hperm := heapPop_some hpop
      have hv1 : 1 ≤ v := h.he (f, v) ((hperm.mem_iff).2 List.mem_cons_self)
      have hsz : hp.size < fuel := by
        have := hperm.length_eq
        simp only [Array.length_toList, List.length_cons] at this
        omega
      have h1 : HInvX { st with heap := hp, inHeap := st.inHeap.set! v false } v := by
        refine { h with isz := (Array.size_set! _ _ _).trans h.isz, he := ?_, entry := ?_, flag := ?_ }
        · intro e he; exact h.he e ((hperm.mem_iff).2 (List.mem_cons_of_mem _ he))
        · intro u hu1 hu2
          have hu2' : (st.inHeap.set! v false)[u]! = true := hu2
          by_cases huv : v = u
          · -- the flag of `v` itself was just cleared (or `v` lies outside the table)
            rw [get!_set!] at hu2'
            split at hu2'
            · cases hu2'
            · rename_i hne
              rw [get!_of_ge _ _ (Nat.le_of_not_lt fun hlt => hne ⟨huv, huv ▸ hlt⟩)] at hu2'
              cases hu2'
          · rw [get!_set!_ne _ _ _ _ huv] at hu2'
            obtain ⟨e, he, hev⟩ := h.entry u hu1 hu2'
            exact ⟨e, (List.mem_cons.1 ((hperm.mem_iff).1 he)).resolve_left fun ee => huv (by rw [← hev, ee]), hev⟩
        · intro u hu1 hu2 hux huu
          show (st.inHeap.set! v false)[u]! = true
          rw [get!_set!]
          have : ¬ (v = u ∧ v < st.inHeap.size) := fun hh => hux hh.1.symm
          simp only [this, if_false]
          exact h.flag u hu1 hu2 (by omega) huu
      split at hs
      · rename_i hu
        simp only [Prod.mk.injEq] at hs
        obtain ⟨rfl, rfl⟩ := hs
        exact ⟨⟨_, _, _, _, rfl⟩, h1, fun _ => by simpa [valAt] using hu, fun h0 => by omega⟩
      · rename_i hasg
        -- `v` is assigned: the full invariant holds again
        obtain ⟨a, b⟩ := ih (h1.full fun huu => hasg (by simpa [valAt] using huu)) hsz hs
        exact ⟨Vsids.trans ⟨_, _, _, _, rfl⟩ a, b⟩

/-- the part of the loop invariant that depends on the outcome `c` of the last `propagate`: `Propagated.inv/ok/nf`,
and the level-0 facts unless an assumption failed -/
structure After (F : List (List Int)) (st : St) (c : PRes) : Prop where
  inv : ∃ k, Inv F st k
  ok : c = .ok → Inv F st st.trail.size ∧ st.propHead = st.trail.size
  z : c ≠ .assumption → Z F st
  nf : c ≠ .fuel

theorem Propagated.after {F x st st' c} (pr : Propagated F x st st' c) (hz : Z F st) : After F st' c :=
  ⟨pr.inv, pr.ok, fun _ => Z_ext hz pr.ext, pr.nf⟩

theorem unassignTo_noop (st : St) (level : Nat) (h : st.trailLim.size ≤ level) : unassignTo st level = st := by
  unfold unassignTo; simp [h]

/-- what holds of the state between two calls of `propagate` (`k`: the watch invariant holds up to this position; `x`:
the variable `pick_var` has popped and not yet assigned) -/
structure Mid (F : List (List Int)) (st : St) (k x : Nat) (ever : Array (Array Int)) : Prop where
  inv : Inv F st k
  z : Z F st
  hinv : HInvX st x
  einv : EInv F st ever

/-- what the sub-steps of the main loop leave as it is (`blockSt` and `decideSt` move `nBlocking`, `decisions` and the
level by one, so `Mid.blocked` and `Mid.decided` state their equations one by one instead) -/
structure Sub (st s : St) : Prop where
  asm : s.assumptions = st.assumptions
  nV : s.nVars = st.nVars
  nb : s.nBlocking = st.nBlocking
  dec : s.decisions = st.decisions
  con : s.conflicts = st.conflicts
  lim : s.trailLim.size ≤ st.trailLim.size

theorem Sub.trans {a b c : St} (h1 : Sub a b) (h2 : Sub b c) : Sub a c :=
  ⟨h2.asm.trans h1.asm, h2.nV.trans h1.nV, h2.nb.trans h1.nb, h2.dec.trans h1.dec, h2.con.trans h1.con,
    Nat.le_trans h2.lim h1.lim⟩

theorem Sub.frame {st s : St} (e1 : s.assumptions = st.assumptions := by rfl) (e2 : s.nVars = st.nVars := by rfl)
    (e3 : s.nBlocking = st.nBlocking := by rfl) (e4 : s.decisions = st.decisions := by rfl)
    (e5 : s.conflicts = st.conflicts := by rfl) (e6 : s.trailLim = st.trailLim := by rfl) : Sub st s :=
  ⟨e1, e2, e3, e4, e5, Nat.le_of_eq (congrArg Array.size e6)⟩

/-- (`hk`: when there is nothing to undo the state stays as it is, so the invariant must already hold up to the head) -/
theorem Mid.backTo {F st k x ever} (m : Mid F st k x ever) (level : Nat) (hk : st.trailLim.size ≤ level → k = st.propHead) :
    Mid F (unassignTo st level) (unassignTo st level).propHead x ever ∧ Sub st (unassignTo st level) ∧
    (unassignTo st level).trailLim.size ≤ level ∧
    ∀ v, v ≤ st.nVars → level < lvlAt st v → valAt (unassignTo st level) v = UNDEF := by
  have fr : Sub st (unassignTo st level) ∧ (unassignTo st level).trailLim.size ≤ level := by
    obtain ⟨_, _, _, _, _, _, _, e, h1, h2⟩ := unassignTo_only st level
    rw [e]; exact ⟨{ asm := rfl, nV := rfl, nb := rfl, dec := rfl, con := rfl, lim := h2 }, h1⟩
  have hH := hinv_unassignTo m.hinv level
  have hE := m.einv.lperm (lperm_unassignTo st level)
  by_cases h0 : st.trailLim.size ≤ level
  · rw [unassignTo_noop st level h0] at hH hE fr ⊢
    refine ⟨⟨hk h0 ▸ m.inv, m.z, hH, hE⟩, fr.1, fr.2, fun v hv hl => ?_⟩
    apply Classical.byContradiction
    intro hn
    exact Nat.not_le.2 (Nat.lt_of_le_of_lt h0 hl) (m.inv.lvlLeOf hv hn)
  · obtain ⟨a, d⟩ := unassignTo_spec m.inv (Nat.not_le.1 h0)
    refine ⟨⟨a, Z_back m.z d, hH, hE⟩, fr.1, fr.2, fun v hv hl => ?_⟩
    by_cases hu : valAt st v = UNDEF
    · exact d.undef v hu
    · exact d.gone v hv hu hl

/-- storing a further clause (`hE`: by `einv_push` for a learned clause, `einv_of_blocked` for a blocking clause) -/
theorem Mid.push {F st k x ever} (m : Mid F st k x ever) (X : Array Int) (hX : ∀ l ∈ X.toList, l ≠ 0) (LB : Array Nat)
    (nb : Nat) {ever' : Array (Array Int)}
    (hE : EInv F { st with learned := st.learned.push X, lbd := LB, nBlocking := nb } ever') :
    Mid F { st with learned := st.learned.push X, lbd := LB, nBlocking := nb } k x ever' :=
  ⟨inv_frame m.inv, Z_of_eq m.z rfl rfl rfl rfl, hinv_pushLearned m.hinv X hX LB nb, hE⟩

theorem Mid.attachNew {F st k x ever} (m : Mid F st k x ever) (L : Array (Array Int)) (X : Array Int)
    (hL : st.learned = L.push X) :
    Mid F (attach st X (st.nOrig + L.size)) k x ever ∧ Sub st (attach st X (st.nOrig + L.size)) ∧
    (attach st X (st.nOrig + L.size)).propHead = st.propHead ∧
    ∀ v, valAt (attach st X (st.nOrig + L.size)) v = valAt st v := by
  have hI := inv_attach m.inv X (idx := st.nOrig + L.size) (by rw [m.inv.nOrig]; exact Nat.le_add_right _ _)
  have hH := hinv_attach m.hinv X (st.nOrig + L.size) (by rw [hL, Nat.add_sub_cancel_left]; simp)
    (by rw [hL, Nat.add_sub_cancel_left, get!_push, if_pos rfl])
  obtain ⟨_, _, e⟩ := attach_only st X (st.nOrig + L.size)
  rw [e] at hI hH ⊢
  exact ⟨⟨hI, Z_of_eq m.z rfl rfl rfl rfl, hH, ⟨m.einv.learned, m.einv.ever⟩⟩, Sub.frame, rfl,
    fun _ => rfl⟩

/-- asserting a literal (`hx`: the variable `pick_var` popped, if any, is the one asserted) -/
theorem Mid.asserted {F st k x ever} (m : Mid F st k x ever) {v : Nat} (hu : valAt st v = UNDEF) (hv : v ≠ 0)
    (hx : x = 0 ∨ x = v) (b : Bool) (r : Int) :
    Mid F (assign st v b r) k 0 ever ∧ Sub st (assign st v b r) ∧ (assign st v b r).propHead = st.propHead := by
  have hvn := le_nVars_of_undef m.hinv hu
  refine ⟨⟨inv_assign m.inv hu b r, Z_ext m.z (ext_assign hu b r).toExt, ?_, m.einv.lperm (lperm_assign st v b r)⟩,
    Sub.frame, rfl⟩
  rcases hx with rfl | rfl
  · exact hinv_assign m.hinv hv hvn b r
  · exact hinv_assign_restore m.hinv hv hvn b r

theorem Mid.reduced {F st k x ever} (m : Mid F st k x ever) :
    Mid F (reduceDb st) k x ever ∧ Sub st (reduceDb st) ∧ (reduceDb st).propHead = st.propHead := by
  have hI := inv_reduceDb m.inv
  have hH := hinv_reduceDb m.hinv
  have hE := einv_reduceDb m.einv
  obtain ⟨_, _, _, _, e⟩ := reduceDb_only st
  rw [e] at hI hH hE ⊢
  exact ⟨⟨hI, Z_of_eq m.z rfl rfl rfl rfl, hH, hE⟩, Sub.frame, rfl⟩

theorem uipOk_spec {st lc bt} (hg : uipOk st lc bt = true) (hls : st.levels.size = st.nVars + 1) :
    0 < lc.size ∧ (lc[0]!).natAbs ≤ st.nVars ∧ bt < st.trailLim.size ∧
    lvlAt st (lc[0]!).natAbs = st.trailLim.size := by
  unfold uipOk at hg
  simp only [Bool.and_eq_true, decide_eq_true_eq, bne_iff_ne, beq_iff_eq] at hg
  obtain ⟨⟨⟨hsz, _⟩, hlvl⟩, hbt⟩ := hg
  refine ⟨hsz, ?_, hbt, hlvl⟩
  apply Classical.byContradiction
  intro hn
  rw [get!_of_ge _ _ (by rw [hls]; omega)] at hlvl
  have : (default : Nat) = 0 := rfl
  omega

theorem Mid.learnt {F st k ever} (m : Mid F st k 0 ever) {lc : Array Int} {bt : Nat} (hg : uipOk st lc bt = true)
    (hnz : ∀ l ∈ lc.toList, l ≠ 0) (hent : st.nBlocking = 0 → Solvor.Sat.Entails F lc.toList) (lbd : Nat) :
    Mid F (learnAndJump st lc bt lbd) (learnAndJump st lc bt lbd).propHead 0 (ever.push lc) ∧
    Sub st (learnAndJump st lc bt lbd) ∧ (learnAndJump st lc bt lbd).trailLim.size < st.trailLim.size := by
  obtain ⟨hsz, hvn, hbt, hlvl⟩ := uipOk_spec hg m.inv.lsize
  obtain ⟨m1, s1, l1, g1⟩ := m.backTo bt (fun h => absurd hbt (Nat.not_lt.2 h))
  have hu1 := g1 _ hvn (hlvl ▸ hbt)
  unfold learnAndJump
  simp only
  generalize unassignTo st bt = s at m1 s1 l1 hu1
  have m2 := m1.push lc hnz (s.lbd.push lbd) s.nBlocking (einv_push m1.einv lc (fun hb => hent (s1.nb ▸ hb)) _)
  obtain ⟨m3, s3, p3, v3⟩ := m2.attachNew s.learned lc rfl
  obtain ⟨m4, s4, p4⟩ := m3.asserted ((v3 _).trans hu1)
    (Int.natAbs_ne_zero.2 (hnz _ (get!_mem hsz))) (.inl rfl) (decide (0 < lc[0]!))
    ((s.nOrig + s.learned.size : Nat) : Int)
  refine ⟨?_, s1.trans ((Sub.trans Sub.frame s3).trans s4),
    Nat.lt_of_le_of_lt (Nat.le_trans (Nat.le_trans s4.lim s3.lim) l1) hbt⟩
  rw [p4.trans p3]; exact m4

theorem Mid.restarted {F st x ever} (m : Mid F st st.propHead x ever) :
    Mid F (restartSt st) (restartSt st).propHead x ever ∧ Sub st (restartSt st) ∧ (restartSt st).trailLim.size = 0 := by
  unfold restartSt
  have m0 : Mid F { st with restarts := st.restarts + 1 } st.propHead x ever :=
    ⟨inv_frame m.inv, Z_of_eq m.z rfl rfl rfl rfl, { m.hinv with }, ⟨m.einv.learned, m.einv.ever⟩⟩
  obtain ⟨m1, s1, l1, _⟩ := m0.backTo 0 (fun _ => rfl)
  generalize unassignTo { st with restarts := st.restarts + 1 } 0 = s at m1 s1 l1
  obtain ⟨m2, s2, p2⟩ := m1.reduced
  refine ⟨?_, (Sub.trans Sub.frame s1).trans s2, Nat.le_zero.1 (Nat.le_trans s2.lim l1)⟩
  rw [p2]; exact m2

theorem blockingOf_mem (st : St) (b : Int) (hb : b ∈ (blockingOf st).toList) :
    b ≠ 0 ∧ b.natAbs ≤ st.nVars ∧ 0 < lvlAt st b.natAbs := by
  unfold blockingOf at hb
  simp only [List.mem_filterMap, List.mem_range'_1] at hb
  obtain ⟨v, ⟨hv1, hv2⟩, hf⟩ := hb
  split at hf
  · rename_i hl
    simp only [Option.some.injEq] at hf
    have hn : b.natAbs = v := by
      rw [← hf]; split <;> simp
    rw [hn]
    exact ⟨fun e => by rw [e] at hn; simp at hn; omega, by omega, hl⟩
  · cases hf

theorem Mid.blocked {F st ever} (m : Mid F st st.propHead 0 ever) (B : Array Int)
    (hB : ∀ b ∈ B.toList, b ≠ 0 ∧ b.natAbs ≤ st.nVars ∧ 0 < lvlAt st b.natAbs) :
    Mid F (blockSt st B) (blockSt st B).propHead 0 ever ∧ (blockSt st B).assumptions = st.assumptions ∧
    (blockSt st B).nVars = st.nVars ∧
    (blockSt st B).decisions = st.decisions ∧ (blockSt st B).conflicts = st.conflicts ∧
    (blockSt st B).trailLim.size = 0 := by
  unfold blockSt
  simp only
  have m0 := m.push B (fun b hb => (hB b hb).1) (st.lbd.push 0) (st.nBlocking + 1) (ever' := ever)
    (einv_of_blocked (Nat.succ_ne_zero _))
  obtain ⟨m1, s1, l1, g1⟩ := m0.backTo 0 (fun _ => rfl)
  have e1 : ∃ s, unassignTo { st with learned := st.learned.push B, lbd := st.lbd.push 0, nBlocking := st.nBlocking + 1 } 0 = s ∧
      s.nOrig = st.nOrig ∧ s.learned = st.learned.push B := by
    obtain ⟨_, _, _, _, _, _, _, e, _⟩ := unassignTo_only
      { st with learned := st.learned.push B, lbd := st.lbd.push 0, nBlocking := st.nBlocking + 1 } 0
    rw [e]; exact ⟨_, rfl, rfl, rfl⟩
  obtain ⟨s, es, eo, el⟩ := e1
  rw [es] at m1 s1 l1 g1 ⊢
  have fin : ∀ {s'}, Mid F s' s.propHead 0 ever → Sub s s' → s'.propHead = s.propHead →
      Mid F s' s'.propHead 0 ever ∧ s'.assumptions = st.assumptions ∧ s'.nVars = st.nVars ∧
        s'.decisions = st.decisions ∧ s'.conflicts = st.conflicts ∧
        s'.trailLim.size = 0 := fun m' s' p' =>
    ⟨p' ▸ m', s'.asm.trans s1.asm, s'.nV.trans s1.nV, s'.dec.trans s1.dec, s'.con.trans s1.con,
      Nat.le_zero.1 (Nat.le_trans s'.lim l1)⟩
  split
  · rename_i hsz
    obtain ⟨b0, b1, b2⟩ := hB _ (get!_mem (Nat.lt_of_lt_of_eq Nat.one_pos (beq_iff_eq.1 hsz).symm))
    obtain ⟨m2, s2, p2⟩ := m1.asserted (g1 _ b1 b2) (Int.natAbs_ne_zero.2 b0) (.inl rfl) (decide (0 < B[0]!))
      ((st.nOrig + st.learned.size : Nat) : Int)
    exact fin m2 s2 p2
  · obtain ⟨m2, s2, p2, _⟩ := m1.attachNew st.learned B el
    rw [eo] at m2 s2 p2
    exact fin m2 s2 p2

theorem Mid.decided {F st var ever} (m : Mid F st st.trail.size var ever) (hp : st.propHead = st.trail.size)
    (hvar : var ≠ 0) (hu : valAt st var = UNDEF) :
    Mid F (decideSt st var) (decideSt st var).propHead 0 ever ∧ (decideSt st var).assumptions = st.assumptions ∧
    (decideSt st var).nVars = st.nVars ∧ (decideSt st var).nBlocking = st.nBlocking ∧
    (decideSt st var).decisions = st.decisions + 1 ∧ (decideSt st var).conflicts = st.conflicts ∧
    (decideSt st var).trailLim.size = st.trailLim.size + 1 ∧ (decideSt st var).trail.size = st.trail.size + 1 := by
  unfold decideSt
  simp only
  have m1 : Mid F { st with decisions := st.decisions + 1, trailLim := st.trailLim.push st.trail.size } st.propHead var ever :=
    ⟨by rw [hp]; exact inv_frame (inv_decide m.inv), Z_of_eq m.z rfl rfl rfl rfl, { m.hinv with },
      ⟨m.einv.learned, m.einv.ever⟩⟩
  obtain ⟨m2, _, p2⟩ := m1.asserted hu hvar (.inr rfl) (st.phase[var]!) (-1)
  exact ⟨p2 ▸ m2, rfl, rfl, rfl, rfl, rfl, Array.size_push _, Array.size_push _⟩

/-- what C01 asks of a returned assignment: no input clause is false under it, every assumption
literal is assigned its sign, and every variable `1..n_vars` has a value -/
def GoodSol (F : List (List Int)) (as : List Int) (m : List (Nat × Bool)) : Prop :=
  (∀ c ∈ F, ∃ l ∈ c, m.lookup l.natAbs ≠ some (!decide (0 < l))) ∧
  (∀ a ∈ as, m.lookup a.natAbs = some (decide (0 < a))) ∧
  (∀ v, 1 ≤ v → v ≤ countVars F as → (m.lookup v).isSome = true)

theorem readSol_lookup (st : St) (v : Nat) :
    (readSol st).lookup v = if 1 ≤ v ∧ v ≤ st.nVars ∧ valAt st v ≠ UNDEF then some (valAt st v == 1) else none := by
  unfold readSol
  rw [lookup_filterMap _ _ _ v (List.nodup_range' (step := 1) (by omega))]
  · simp only [List.mem_range'_1]
    by_cases h1 : 1 ≤ v ∧ v < 1 + st.nVars
    · have h1' : 1 ≤ v ∧ v ≤ st.nVars := by omega
      by_cases h2 : valAt st v = UNDEF
      · have : (st.vals[v]! != UNDEF) = false := by simpa [valAt] using h2
        simp [h1, h1', h2, this]
      · have : (st.vals[v]! != UNDEF) = true := by simpa [valAt] using h2
        have h2' : ¬ st.vals[v]! = UNDEF := h2
        simp [h1, h1', h2', this, valAt]
    · have h1' : ¬ (1 ≤ v ∧ v ≤ st.nVars ∧ valAt st v ≠ UNDEF) := by omega
      simp [h1, h1']
  · intro w p hp
    split at hp
    · cases hp; rfl
    · cases hp

theorem lookup_of_not_false {st : St} {l : Int} (h0 : l ≠ 0) (hr : l.natAbs ≤ st.nVars) (hnf : ¬ IsFalse st l) :
    (readSol st).lookup l.natAbs ≠ some (!decide (0 < l)) := by
  rw [readSol_lookup]
  have h1 : 1 ≤ l.natAbs := by omega
  by_cases hu : valAt st l.natAbs = UNDEF
  · simp [hu]
  · simp only [h1, hr, hu, ne_eq, not_false_eq_true, and_self, if_true, Option.some.injEq]
    unfold IsFalse at hnf; rw [litValue_def] at hnf
    simp only [hu, if_false, Option.some.injEq] at hnf
    cases hb : (valAt st l.natAbs == 1) <;> cases hd : decide (0 < l) <;> simp_all

theorem lookup_of_true {st : St} {l : Int} (h0 : l ≠ 0) (hr : l.natAbs ≤ st.nVars) (ht : IsTrue st l) :
    (readSol st).lookup l.natAbs = some (decide (0 < l)) := by
  rw [readSol_lookup]
  have h1 : 1 ≤ l.natAbs := by omega
  have hu := ht.assigned
  simp only [h1, hr, hu, ne_eq, not_false_eq_true, and_self, if_true, Option.some.injEq]
  unfold IsTrue at ht; rw [litValue_def] at ht
  simp only [hu, if_false, Option.some.injEq] at ht
  cases hb : (valAt st l.natAbs == 1) <;> cases hd : decide (0 < l) <;> simp_all

theorem good_readSol {F st as} (h : Inv F st st.trail.size) (hz : Z F st) (hne : ∀ c ∈ F, c ≠ [])
    (hasm : st.assumptions = as) (haok : ∀ a ∈ as, a ≠ 0 ∧ a.natAbs ≤ st.nVars)
    (hnv : st.nVars = countVars F as) (htot : ∀ v, 1 ≤ v → v ≤ st.nVars → valAt st v ≠ UNDEF) :
    GoodSol F as (readSol st) := by
  refine ⟨?_, ?_, ?_⟩
  · intro c hc
    obtain ⟨i, hi, rfl⟩ := List.getElem_of_mem hc
    have hsz := h.clSize hi
    have hpos : 0 < F[i].length := List.length_pos_iff.2 (hne _ hc)
    have lit : ∀ a, a < (cl st i).size → (cl st i)[a]! ∈ F[i] ∧ (cl st i)[a]! ≠ 0 ∧ (cl st i)[a]!.natAbs ≤ st.nVars := by
      intro a ha
      have hm := h.clGet hi ha
      exact ⟨hm, h.fok.nz _ hc _ hm, h.fok.rng _ hc _ hm⟩
    -- a false first watch forces a true second one
    have two : ∀ (s : Sem2 st st.trail.size (cl st i)[0]! (cl st i)[1]!), 2 ≤ (cl st i).size →
        ∃ l ∈ F[i], (readSol st).lookup l.natAbs ≠ some (!decide (0 < l)) := by
      intro s h2
      obtain ⟨m0, z0, r0⟩ := lit 0 (by omega)
      obtain ⟨m1, z1, r1⟩ := lit 1 (by omega)
      by_cases hf : IsFalse st (cl st i)[0]!
      · have hp : Proc st st.trail.size (cl st i)[0]! := by
          obtain ⟨j, hj, hjv⟩ := (mem_toList_iff_get! _ _).1 ((h.tmem _).2 ⟨r0, hf.assigned⟩)
          exact ⟨j, hj, hj, hjv⟩
        have ht := (s hf hp).1
        refine ⟨_, m1, lookup_of_not_false z1 r1 (fun hh => not_true_and_false ht hh)⟩
      · exact ⟨_, m0, lookup_of_not_false z0 r0 hf⟩
    by_cases h3 : 3 ≤ (cl st i).size
    · exact two (h.wsem i hi h3).1 (by omega)
    · by_cases h2 : (cl st i).size = 2
      · exact two (h.bsem i hi h2).1 (by omega)
      · have h1 : (cl st i).size = 1 := by omega
        obtain ⟨m0, z0, r0⟩ := lit 0 (by omega)
        have ht := (hz.1 i hi h1).1
        exact ⟨_, m0, lookup_of_not_false z0 r0 (fun hh => not_true_and_false ht hh)⟩
  · intro a ha
    obtain ⟨a0, ar⟩ := haok a ha
    exact lookup_of_true a0 ar (hz.2 a (hasm ▸ ha)).1
  · intro v hv1 hv2
    rw [readSol_lookup]
    have hv2' : v ≤ st.nVars := by rw [hnv]; exact hv2
    simp [hv1, hv2', htot v hv1 hv2']

end Solvor.Sat.Cdcl
