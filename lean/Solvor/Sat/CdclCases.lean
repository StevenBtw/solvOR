import Solvor.Sat.CdclKit
/-! Sat.CdclCases: the model functions taken apart once, for every proof that walks through them: `loadClauses`,
`watchStep`, `propStep`, `propagate` case by case, and which fields the database and backjump operations change. -/
namespace Solvor.Sat.Cdcl

/-- induction rule for `loadClauses`: `R` relates the index reached, the state and the units collected (`acc` =
the units in reverse input order) -/
theorem loadClauses_ind {F : List (List Int)} {R : Nat → St → List (Int × Nat) → Prop}
    (unit : ∀ i (hi : i < F.length) st us a, F[i] = [a] → R i st us → R (i + 1) st ((a, i) :: us))
    (bin : ∀ i (hi : i < F.length) st us a b, F[i] = [a, b] → R i st us → R (i + 1) (bigAdd st a b i) us)
    (long : ∀ i (hi : i < F.length) st us a b d t, F[i] = a :: b :: d :: t → R i st us →
      R (i + 1) (addWatch (addWatch st a i) b i) us) :
    ∀ (rest done : List (List Int)) (st : St) (us : List (Int × Nat)) (st' : St) (us' : List (Int × Nat)),
      F = done ++ rest → R done.length st us → loadClauses rest done.length st us = some (st', us') →
      ∃ acc, us' = acc.reverse ∧ R F.length st' acc := by
  intro rest
  induction rest with
  | nil =>
    intro done st us st' us' hF h hs
    simp only [loadClauses, Option.some.injEq, Prod.mk.injEq] at hs
    obtain ⟨rfl, rfl⟩ := hs
    have hlen : F.length = done.length := by rw [hF, List.append_nil]
    exact ⟨us, rfl, hlen ▸ h⟩
  | cons c rest ih =>
    intro done st us st' us' hF h hs
    have hi : done.length < F.length := by rw [hF, List.length_append, List.length_cons]; omega
    have hFi : F[done.length] = c := by simp only [hF, List.getElem_append_right (Nat.le_refl _), Nat.sub_self, List.getElem_cons_zero]
    have hF' : F = (done ++ [c]) ++ rest := by rw [hF, List.append_assoc]; rfl
    have hlen' : (done ++ [c]).length = done.length + 1 := by rw [List.length_append]; rfl
    have next : ∀ st1 us1, R (done.length + 1) st1 us1 → loadClauses rest (done.length + 1) st1 us1 = some (st', us') →
        ∃ acc, us' = acc.reverse ∧ R F.length st' acc := by
      intro st1 us1 h1 hs1
      rw [← hlen'] at h1 hs1
      exact ih _ _ _ _ _ hF' h1 hs1
    unfold loadClauses at hs
    match c, hs, hFi with
    | [], hs, _ => cases hs
    | [a], hs, hFi => exact next _ _ (unit _ hi _ _ a hFi h) hs
    | [a, b], hs, hFi => exact next _ _ (bin _ hi _ _ a b hFi h) hs
    | a :: b :: d :: t, hs, hFi => exact next _ _ (long _ hi _ _ a b d t hFi h) hs

/-- `watchStep`, case by case: `c` = the clause index at position `i` of the watch list of `fl`, `C` = that
clause with `fl` moved to place 1 -/
inductive WStep (fl : Int) (st : St) (i : Nat) : (St × Nat) ⊕ (St × PRes) → Prop
  | stop (hi : ¬ i < (watchOf st fl).size) : WStep fl st i (.inr (st, .ok))
  | unit {c : Nat} (hi : i < (watchOf st fl).size) (hc : (watchOf st fl)[i]! = c) (h1 : (getClause st c).size = 1) :
      WStep fl st i (.inr (st, .conflict c))
  | sat {c : Nat} {C : Array Int} (hi : i < (watchOf st fl).size) (hc : (watchOf st fl)[i]! = c)
      (h1 : (getClause st c).size ≠ 1) (hC : orient fl (getClause st c) = C) (ht : litValue st C[0]! = some true) :
      WStep fl st i (.inl (setClause st c C, i + 1))
  | move {c : Nat} {C : Array Int} {k : Nat} (hi : i < (watchOf st fl).size) (hc : (watchOf st fl)[i]! = c)
      (h1 : (getClause st c).size ≠ 1) (hC : orient fl (getClause st c) = C) (ht : litValue st C[0]! ≠ some true)
      (hk : findNonFalse st C (C.size - 2) 2 = some k) : WStep fl st i (.inl (moveWatch st fl i c (swap1k C k), i))
  | confl {c : Nat} {C : Array Int} (hi : i < (watchOf st fl).size) (hc : (watchOf st fl)[i]! = c)
      (h1 : (getClause st c).size ≠ 1) (hC : orient fl (getClause st c) = C)
      (hk : findNonFalse st C (C.size - 2) 2 = none) (hf : litValue st C[0]! = some false) :
      WStep fl st i (.inr (setClause st c C, .conflict c))
  | imply {c : Nat} {C : Array Int} (hi : i < (watchOf st fl).size) (hc : (watchOf st fl)[i]! = c)
      (h1 : (getClause st c).size ≠ 1) (hC : orient fl (getClause st c) = C)
      (hk : findNonFalse st C (C.size - 2) 2 = none) (hu : litValue st C[0]! = none) :
      WStep fl st i (.inl (assign (setClause st c C) (C[0]!).natAbs (decide (0 < C[0]!)) c, i + 1))

theorem watchStep_wstep (fl : Int) (st : St) (i : Nat) : WStep fl st i (watchStep fl st i) := by
  unfold watchStep
  simp only
  split
  case isFalse hi => exact .stop hi
  case isTrue hi =>
  generalize hc : (watchOf st fl)[i]! = c
  split
  · rename_i h1; exact .unit hi hc (by simpa using h1)
  · rename_i h1
    have h1' : (getClause st c).size ≠ 1 := by simpa using h1
    generalize hC : orient fl (getClause st c) = C
    split
    · rename_i ht; exact .sat hi hc h1' hC (by simpa using ht)
    · rename_i ht
      have ht' : litValue st C[0]! ≠ some true := by simpa using ht
      split
      · rename_i k hk; exact .move hi hc h1' hC ht' hk
      · rename_i hk
        split
        · rename_i hf; exact .confl hi hc h1' hC hk (by simpa using hf)
        · rename_i hf
          refine .imply hi hc h1' hC hk ?_
          cases h : litValue st C[0]! with
          | none => rfl
          | some b => cases b <;> simp [h] at ht' hf

def stepSt : (St × Nat) ⊕ (St × PRes) → St
  | .inl (s, _) => s
  | .inr (s, _) => s

theorem WStep.lt_of_inl {fl st i x} (h : WStep fl st i (.inl x)) : i < (watchOf st fl).size := by
  cases h <;> assumption

theorem WStep.res_of_inr {fl st i s r} (h : WStep fl st i (.inr (s, r))) : r = .ok ∨ ∃ c, r = .conflict c := by
  cases h with
  | stop => exact .inl rfl
  | unit => exact .inr ⟨_, rfl⟩
  | confl => exact .inr ⟨_, rfl⟩

theorem WStep.of_eq {fl st i r} (h : watchStep fl st i = r) : WStep fl st i r := h ▸ watchStep_wstep fl st i

def headSt (st : St) : St := { st with propHead := st.propHead + 1 }

/-- the negation of the literal at the propagation head (a false literal) -/
def headLit (st : St) : Int :=
  if st.vals[st.trail[st.propHead]!]! == 0 then (st.trail[st.propHead]! : Int) else -(st.trail[st.propHead]! : Int)

/-- number of conflicts a `propagate` outcome adds -/
def pend : PRes → Nat
  | .conflict _ => 1
  | .assumption => 1
  | _ => 0

/-- `propStep`, case by case: the binary implications of `headLit st`, then its watch list -/
inductive PStep (st : St) : St ⊕ (St × PRes) → Prop
  | done (h : st.trail.size ≤ st.propHead) : PStep st (.inr (st, .ok))
  | big {s1 : St} {c : Nat} (hp : st.propHead < st.trail.size)
      (himp : implLoop (implications (headSt st) (headLit st)).toList (headSt st) = (s1, some c)) :
      PStep st (.inr ({ s1 with conflicts := s1.conflicts + 1 }, .conflict c))
  | ok {s1 s2 : St} (hp : st.propHead < st.trail.size)
      (himp : implLoop (implications (headSt st) (headLit st)).toList (headSt st) = (s1, none))
      (hw : watchLoop (headLit st) ((watchOf s1 (headLit st)).size + 1) s1 0 = (s2, .ok)) : PStep st (.inl s2)
  | confl {s1 s2 : St} {c : Nat} (hp : st.propHead < st.trail.size)
      (himp : implLoop (implications (headSt st) (headLit st)).toList (headSt st) = (s1, none))
      (hw : watchLoop (headLit st) ((watchOf s1 (headLit st)).size + 1) s1 0 = (s2, .conflict c)) :
      PStep st (.inr ({ s2 with conflicts := s2.conflicts + 1 }, .conflict c))
  | rest {s1 s2 : St} {r : PRes} (hp : st.propHead < st.trail.size)
      (himp : implLoop (implications (headSt st) (headLit st)).toList (headSt st) = (s1, none))
      (hw : watchLoop (headLit st) ((watchOf s1 (headLit st)).size + 1) s1 0 = (s2, r)) (hnok : r ≠ .ok)
      (hncf : ∀ c, r ≠ .conflict c) : PStep st (.inr (s2, r))

theorem propStep_pstep (st : St) : PStep st (propStep st) := by
  unfold propStep
  simp only
  split
  · rename_i h; exact .done h
  · rename_i h
    have hp : st.propHead < st.trail.size := by omega
    split
    · rename_i s1 c himp; exact .big hp himp
    · rename_i s1 himp
      split
      · rename_i s2 hw; exact .ok hp himp hw
      · rename_i s2 c hw; exact .confl hp himp hw
      · rename_i s2 r hnok hncf hw; exact .rest hp himp hw hnok hncf

theorem PStep.of_eq {st r} (h : propStep st = r) : PStep st r := h ▸ propStep_pstep st

/-- `propagate`: the assumption phase at level 0 (`s1`, `bad` = a conflicting assumption), then the loop -/
theorem propagate_eq (st : St) : ∃ s1 bad,
    (if st.trailLim.size == 0 then assumeLoop st.assumptions st else (st, false)) = (s1, bad) ∧
    propagate st = if bad then ({ s1 with conflicts := s1.conflicts + 1 }, .assumption) else propLoop (s1.nVars + 2) s1 := by
  unfold propagate
  generalize (if st.trailLim.size == 0 then assumeLoop st.assumptions st else (st, false)) = q
  obtain ⟨s1, bad⟩ := q
  exact ⟨s1, bad, rfl, rfl⟩

theorem orient_perm (fl : Int) (C : Array Int) : (orient fl C).toList.Perm C.toList := by
  unfold orient; split
  · exact swapIB_perm _ _ _
  · exact List.Perm.refl _

theorem swap1k_get (C : Array Int) {k : Nat} (hk2 : 2 ≤ k) (hk : k < C.size) :
    (swap1k C k)[0]! = C[0]! ∧ (swap1k C k)[1]! = C[k]! := by
  have h1 : 1 < C.size := Nat.lt_of_lt_of_le (Nat.lt_of_succ_le hk2) (Nat.le_of_lt hk)
  unfold swap1k
  rw [swapIB_get! _ 1 k 0 h1 hk, swapIB_get! _ 1 k 1 h1 hk, if_neg (Nat.ne_of_lt (Nat.lt_of_lt_of_le Nat.zero_lt_two hk2)),
    if_neg Nat.zero_ne_one, if_neg (Nat.ne_of_lt (Nat.lt_of_succ_le hk2)), if_pos rfl]
  exact ⟨rfl, rfl⟩

theorem attach_only (st : St) (c : Array Int) (idx : Nat) : ∃ W B, attach st c idx = { st with watch := W, big := B } := by
  unfold attach bigAdd addWatch
  split
  · exact ⟨_, _, rfl⟩
  · split <;> exact ⟨_, _, rfl⟩

theorem reattach_succ (no : Nat) (keep : Array (Array Int)) (fuel j : Nat) (st : St) :
    reattach no keep (fuel + 1) j st = reattach no keep fuel (j + 1) (attach st keep[j]! (no + j)) := by
  unfold attach; rfl

theorem reattach_only (no : Nat) (keep : Array (Array Int)) : ∀ (fuel j : Nat) (st : St),
    ∃ W B, reattach no keep fuel j st = { st with watch := W, big := B } := by
  intro fuel
  induction fuel with
  | zero => intro j st; exact ⟨_, _, rfl⟩
  | succ fuel ih =>
    intro j st
    obtain ⟨_, _, e⟩ := attach_only st keep[j]! (no + j)
    obtain ⟨_, _, e2⟩ := ih (j + 1) (attach st keep[j]! (no + j))
    rw [reattach_succ, e2, e]; exact ⟨_, _, rfl⟩

theorem reduceDb_only (st : St) :
    ∃ L LB W B, reduceDb st = { st with learned := L, lbd := LB, watch := W, big := B } := by
  unfold reduceDb
  split
  · exact ⟨_, _, _, _, rfl⟩
  · simp only
    obtain ⟨_, _, e⟩ := reattach_only st.nOrig _ _ 0
      { st with learned := _, lbd := _, watch := st.watch.map (·.filter (· < st.nOrig)), big := _ }
    rw [e]; exact ⟨_, _, _, _, rfl⟩

theorem popTrail_only (target : Nat) : ∀ (fuel : Nat) (s : St), ∃ tr ph vs hp ih,
    popTrail target fuel s = { s with trail := tr, phase := ph, vals := vs, heap := hp, inHeap := ih } := by
  intro fuel
  induction fuel with
  | zero => intro s; exact ⟨_, _, _, _, _, rfl⟩
  | succ fuel ih =>
    intro s
    unfold popTrail
    split
    · exact ⟨_, _, _, _, _, rfl⟩
    · obtain ⟨_, _, _, _, _, e⟩ := ih (popOne s)
      rw [e]; unfold popOne; simp only; split <;> exact ⟨_, _, _, _, _, rfl⟩

theorem unassignTo_only (st : St) (level : Nat) : ∃ tl p tr ph vs hp ih,
    unassignTo st level = { st with trailLim := tl, propHead := p, trail := tr, phase := ph, vals := vs, heap := hp,
                                    inHeap := ih } ∧ tl.size ≤ level ∧ tl.size ≤ st.trailLim.size := by
  unfold unassignTo
  split
  · rename_i h; exact ⟨_, _, _, _, _, _, _, rfl, h, Nat.le_refl _⟩
  · obtain ⟨_, _, _, _, _, e⟩ :=
      popTrail_only st.trailLim[level]! st.trail.size { st with trailLim := st.trailLim.extract 0 level }
    simp only; rw [e]
    exact ⟨_, _, _, _, _, _, _, rfl, by rw [Array.size_extract]; omega, by rw [Array.size_extract]; omega⟩

/-- the step of the fold in `pureLits` -/
def pureStep (st : St) (p : Nat × Bool) : St := if st.vals[p.1]! == UNDEF then assign st p.1 p.2 (-1) else st

theorem pureLits_eq (st : St) (cs : List (List Int)) (as : List Int) :
    pureLits st cs as = (pureList st.nVars cs as).foldl pureStep st := rfl

end Solvor.Sat.Cdcl
