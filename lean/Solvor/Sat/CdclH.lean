import Solvor.Sat.CdclOps
/-!
Sat.CdclH: the second invariant of the CDCL mirror – the VSIDS heap holds an entry for every
unassigned variable, variable 0 is never assigned, learned clauses are structurally sound (no literal
0, watched ones are in range with at least two literals), here through `assign` and the clause and watch-list
edits of `propagate`.  What it is for: the assignment is total when `pick_var` finds the heap exhausted
(`pickLoop_spec`), and no literal 0 is ever asserted.
-/
namespace Solvor.Sat.Cdcl

/-- `x` = the variable just popped by `pick_var` and about to be assigned (0 = none) -/
structure HInvX (st : St) (x : Nat) : Prop where
  isz : st.inHeap.size = st.nVars + 1
  vsz : st.vals.size = st.nVars + 1
  tr : ∀ v ∈ st.trail.toList, v ≤ st.nVars
  he : ∀ e ∈ st.heap.toList, 1 ≤ e.2
  entry : ∀ v, 1 ≤ v → st.inHeap[v]! = true → ∃ e ∈ st.heap.toList, e.2 = v
  flag : ∀ v, 1 ≤ v → v ≤ st.nVars → v ≠ x → valAt st v = UNDEF → st.inHeap[v]! = true
  t0 : 0 ∉ st.trail.toList
  anz : ∀ a ∈ st.assumptions, a ≠ 0
  lnz : ∀ j, j < st.learned.size → ∀ l ∈ (st.learned[j]!).toList, l ≠ 0
  wlr : ∀ l idx, idx ∈ wl st l → st.nOrig ≤ idx →
    idx - st.nOrig < st.learned.size ∧ 2 ≤ (st.learned[idx - st.nOrig]!).size
  bnz : ∀ l e, e ∈ il st l → e.1 ≠ 0

abbrev HInv (st : St) : Prop := HInvX st 0

theorem hinv_frame {st st' x} (h : HInvX st x) (e1 : st'.nVars = st.nVars := by rfl) (e2 : st'.nOrig = st.nOrig := by rfl)
    (e3 : st'.assumptions = st.assumptions := by rfl) (e4 : st'.vals = st.vals := by rfl)
    (e5 : st'.trail = st.trail := by rfl) (e6 : st'.learned = st.learned := by rfl) (e7 : st'.watch = st.watch := by rfl)
    (e8 : st'.big = st.big := by rfl) (e9 : st'.heap = st.heap := by rfl) (e10 : st'.inHeap = st.inHeap := by rfl) :
    HInvX st' x := by
  cases st'
  simp only at e1 e2 e3 e4 e5 e6 e7 e8 e9 e10
  subst e1 e2 e3 e4 e5 e6 e7 e8 e9 e10
  exact { h with }

theorem le_nVars_of_undef {st x} (h : HInvX st x) {v : Nat} (hu : valAt st v = UNDEF) : v ≤ st.nVars :=
  Nat.le_of_lt_succ (Nat.lt_of_lt_of_eq (lt_size_of_undef hu) h.vsz)

theorem hinv_assign {st x} (h : HInvX st x) {v : Nat} (hv : v ≠ 0) (hvn : v ≤ st.nVars) (b : Bool) (r : Int) :
    HInvX (assign st v b r) x := by
  have hpush : ∀ u, u ∈ (st.trail.push v).toList → u ∈ st.trail.toList ∨ u = v := fun u hu => by
    rw [Array.toList_push, List.mem_append, List.mem_singleton] at hu; exact hu
  exact { h with
    vsz := (Array.size_set! _ _ _).trans h.vsz
    tr := fun u hu => (hpush u hu).elim (h.tr u) (· ▸ hvn)
    t0 := fun hm => (hpush 0 hm).elim h.t0 fun e => hv e.symm
    flag := fun u hu1 hu2 hux huu => h.flag u hu1 hu2 hux (by
      rw [valAt_assign] at huu
      split at huu
      · cases b <;> simp [UNDEF] at huu
      · exact huu) }

theorem HInvX.full {st x} (h : HInvX st x) (hx : valAt st x ≠ UNDEF) : HInv st :=
  { h with flag := fun u hu1 hu2 _ huu => h.flag u hu1 hu2 (fun e => hx (e ▸ huu)) huu }

theorem hinv_assign_restore {st x} (h : HInvX st x) (hx : x ≠ 0) (hxn : x ≤ st.nVars) (b : Bool) (r : Int) :
    HInv (assign st x b r) := by
  refine (hinv_assign h hx hxn b r).full ?_
  rw [valAt_assign, if_pos ⟨rfl, by rw [h.vsz]; exact Nat.lt_succ_of_le hxn⟩]
  cases b <;> decide

theorem hinv_setClauses {st x} (h : HInvX st x) (C : Array (Array Int)) : HInvX { st with clauses := C } x :=
  { h with }

theorem hinv_learned {st x} (h : HInvX st x) (L : Array (Array Int))
    (hnz : ∀ i, i < L.size → ∀ l ∈ (L[i]!).toList, l ≠ 0)
    (hkeep : ∀ i, i < st.learned.size → i < L.size ∧ (st.learned[i]!).size ≤ (L[i]!).size) :
    HInvX { st with learned := L } x :=
  { h with
    lnz := hnz
    wlr := fun l idx hidx hno =>
      have ⟨a, b⟩ := h.wlr l idx hidx hno
      ⟨(hkeep _ a).1, Nat.le_trans b (hkeep _ a).2⟩ }

theorem hinv_setLearned_perm {st x} (h : HInvX st x) (j : Nat) (X : Array Int)
    (hp : X.toList.Perm (st.learned[j]!).toList) : HInvX { st with learned := st.learned.set! j X } x := by
  have hsz : X.size = (st.learned[j]!).size := by simpa using hp.length_eq
  refine hinv_learned h _ (fun i hi l hl => ?_) (fun i hi => ?_)
  · rw [Array.size_set!] at hi
    rw [get!_set!] at hl
    split at hl
    · rename_i hji; exact h.lnz j (hji.1 ▸ hi) l ((hp.mem_iff).1 hl)
    · exact h.lnz i hi l hl
  · rw [Array.size_set!, get!_set!]
    refine ⟨hi, ?_⟩
    split
    · rename_i hji; rw [← hji.1, hsz]; exact Nat.le_refl _
    · exact Nat.le_refl _

theorem hinv_setWatch {st x} (h : HInvX st x) (W : Array (Array Nat))
    (hw : ∀ l idx, idx ∈ wl { st with watch := W } l → st.nOrig ≤ idx →
      idx - st.nOrig < st.learned.size ∧ 2 ≤ (st.learned[idx - st.nOrig]!).size) : HInvX { st with watch := W } x :=
  { h with wlr := hw }

theorem hinv_addWatch {st x} (h : HInvX st x) (l : Int) (idx : Nat)
    (hok : st.nOrig ≤ idx → idx - st.nOrig < st.learned.size ∧ 2 ≤ (st.learned[idx - st.nOrig]!).size) :
    HInvX (addWatch st l idx) x := by
  have hwl := wl_addWatch st l idx
  unfold addWatch at hwl ⊢
  refine hinv_setWatch h _ (fun l' idx' hm hno => ?_)
  rw [hwl] at hm
  split at hm
  · rcases List.mem_append.1 hm with hm | hm
    · exact h.wlr l' idx' hm hno
    · rw [List.mem_singleton] at hm; subst hm; exact hok hno
  · exact h.wlr l' idx' hm hno

theorem hinv_removeWatchAt {st x} (h : HInvX st x) (fl : Int) (i : Nat) (hi : i < (watchOf st fl).size) :
    HInvX (removeWatchAt st fl i) x := by
  obtain ⟨hperm, _⟩ := removeAt_facts (watchOf st fl) i hi
  have hwl := wl_removeWatchAt st fl i
  unfold removeWatchAt at hwl ⊢
  refine hinv_setWatch h _ (fun l' idx' hm hno => ?_)
  rw [hwl] at hm
  split at hm
  · rename_i hh
    apply h.wlr l' idx' _ hno
    rw [hh.1]
    exact (List.eraseIdx_sublist _ _).subset ((hperm.mem_iff).1 hm)
  · exact h.wlr l' idx' hm hno

theorem hinv_bigAdd {st x} (h : HInvX st x) {a b : Int} (ha : a ≠ 0) (hb : b ≠ 0) (idx : Nat) :
    HInvX (bigAdd st a b idx) x := by
  have hb' : ∀ l e, e ∈ il (bigAdd st a b idx) l → e.1 ≠ 0 := by
    intro l e he
    rcases il_bigAdd_cases he with he | rfl | rfl
    · exact h.bnz l e he
    · exact hb
    · exact ha
  unfold bigAdd at hb' ⊢
  exact { h with bnz := hb' }

theorem hinv_setClause {st x} (h : HInvX st x) (c : Nat) (Y : Array Int)
    (hY : Y.toList.Perm (getClause st c).toList) : HInvX (setClause st c Y) x := by
  by_cases hc : c < st.nOrig
  · rw [setClause_orig st hc]; exact hinv_setClauses h _
  · rw [setClause_learned st (Nat.le_of_not_lt hc)]
    exact hinv_setLearned_perm h _ _ (getClause_learned st (Nat.le_of_not_lt hc) ▸ hY)

theorem hinv_moveWatch {st x} (h : HInvX st x) (fl : Int) (i c : Nat) (X : Array Int)
    (hi : i < (watchOf st fl).size) (hm : c ∈ wl st fl) (hX : X.toList.Perm (getClause st c).toList) :
    HInvX (moveWatch st fl i c X) x := by
  have h1 := hinv_setClause h c X hX
  -- `setClause` leaves the watch lists alone, so `c` is still watched: `h1.wlr` says what the new watch needs
  have hw := watchOf_setClause st c X fl
  have hok := h1.wlr fl c (show c ∈ (watchOf (setClause st c X) fl).toList from hw ▸ hm)
  unfold moveWatch
  exact hinv_addWatch (hinv_removeWatchAt h1 fl i (hw ▸ hi)) _ _ hok

theorem orient_head_nz {F st p x fl c} (hI : Inv F st p) (h : HInvX st x) (hm : c ∈ wl st fl) :
    (orient fl (getClause st c))[0]! ≠ 0 := by
  have hGo : c < st.nOrig → getClause st c = cl st c := fun hc => getClause_orig st hc
  have hGl : st.nOrig ≤ c → getClause st c = st.learned[c - st.nOrig]! := fun hno => getClause_learned st hno
  generalize getClause st c = G at hGo hGl
  have hG : 2 ≤ G.size ∧ ∀ l ∈ G.toList, l ≠ 0 := by
    by_cases hc : c < st.nOrig
    · have hcF : c < F.length := by rw [← hI.nOrig]; exact hc
      have := (hI.wsound fl c hm hcF).1
      exact ⟨by rw [hGo hc]; omega,
        fun l hl => hI.fok.nz _ (List.getElem_mem hcF) _ ((hI.clMem hcF).1 (hGo hc ▸ hl))⟩
    · have hno : st.nOrig ≤ c := by omega
      obtain ⟨a, b⟩ := h.wlr fl c hm hno
      exact ⟨hGl hno ▸ b, fun l hl => h.lnz _ a _ (hGl hno ▸ hl)⟩
  have hsz : (orient fl G).size = G.size := by simpa using (orient_perm fl G).length_eq
  exact hG.2 _ (((orient_perm fl _).mem_iff).1 (get!_mem (by omega)))

end Solvor.Sat.Cdcl
