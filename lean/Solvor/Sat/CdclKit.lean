import Solvor.Sat.Cdcl
/-! Sat.CdclKit: small facts about `Array`s as the mirror uses them: `a[i]!` after `set!`, `push`, `modify`,
`swapIfInBounds`, `replicate`, `map (filter)`; an array as its `pop` and its last entry; the swap-with-last removal
of the watch lists; `List.filter` / `List.lookup` as the invariants use them.  Core Lean only. -/
namespace Solvor.Sat.Cdcl

theorem get!_eq {α} [Inhabited α] (a : Array α) (i : Nat) : a[i]! = a[i]?.getD default := by
  rw [Array.getElem!_eq_getD, Array.getD_eq_getD_getElem?]

theorem get!_of_lt {α} [Inhabited α] (a : Array α) (i : Nat) (h : i < a.size) : a[i]! = a[i] :=
  getElem!_pos a i h

theorem get!_of_ge {α} [Inhabited α] (a : Array α) (i : Nat) (h : a.size ≤ i) : a[i]! = default :=
  getElem!_neg a i (Nat.not_lt.2 h)

theorem set!_set! {α} (a : Array α) (i : Nat) (x y : α) : (a.set! i x).set! i y = a.set! i y := by
  simp only [Array.set!_eq_setIfInBounds, Array.setIfInBounds_setIfInBounds]

theorem get!_set! {α} [Inhabited α] (a : Array α) (i j : Nat) (x : α) :
    (a.set! i x)[j]! = if i = j ∧ i < a.size then x else a[j]! := by
  simp only [get!_eq, Array.set!_eq_setIfInBounds, Array.getElem?_setIfInBounds]
  by_cases h : i = j
  · subst h
    by_cases h2 : i < a.size
    · simp [h2]
    · simp [h2]
  · simp [h]

theorem get!_set!_ne {α} [Inhabited α] (a : Array α) (i j : Nat) (x : α) (h : i ≠ j) :
    (a.set! i x)[j]! = a[j]! := Array.getElem!_set!_ne a i j x h

theorem get!_push {α} [Inhabited α] (a : Array α) (x : α) (j : Nat) :
    (a.push x)[j]! = if j = a.size then x else a[j]! := by
  simp only [get!_eq, Array.getElem?_push]
  by_cases h : j = a.size <;> simp [h]

theorem get!_modify {α} [Inhabited α] (a : Array α) (i j : Nat) (f : α → α) :
    (a.modify i f)[j]! = if i = j ∧ i < a.size then f a[j]! else a[j]! := by
  simp only [get!_eq, Array.getElem?_modify]
  by_cases h : i = j
  · subst h
    by_cases h2 : i < a.size
    · simp [h2]
    · simp [h2]
  · simp [h]

theorem mem_toList_iff_get! {α} [Inhabited α] (a : Array α) (x : α) :
    x ∈ a.toList ↔ ∃ i, i < a.size ∧ a[i]! = x := by
  rw [Array.mem_toList_iff, Array.mem_iff_getElem]
  exact ⟨fun ⟨i, h, e⟩ => ⟨i, h, (get!_of_lt a i h).trans e⟩,
    fun ⟨i, h, e⟩ => ⟨i, h, (get!_of_lt a i h).symm.trans e⟩⟩

theorem get!_mem {α} [Inhabited α] {a : Array α} {i : Nat} (h : i < a.size) : a[i]! ∈ a.toList :=
  (mem_toList_iff_get! a _).2 ⟨i, h, rfl⟩

theorem toList_eq_pop_append_last {α} [Inhabited α] (a : Array α) (h : 0 < a.size) :
    a.toList = a.pop.toList ++ [a[a.size - 1]!] := by
  conv => lhs; rw [Array.eq_push_pop_back!_of_size_ne_zero (Nat.ne_of_gt h)]
  rw [Array.toList_push]; rfl

theorem dropLast_set_getLast_perm {α} : ∀ (l : List α) (i : Nat) (_ : i < l.length) (x : α),
    l.getLast? = some x → ((l.set i x).dropLast).Perm (l.eraseIdx i) := by
  intro l
  induction l with
  | nil => intro i h; simp at h
  | cons a t ih =>
    intro i h x hx
    cases t with
    | nil =>
      have : i = 0 := by simp at h; omega
      subst this; simp
    | cons b t' =>
      have hx' : (b :: t').getLast? = some x := by simpa [List.getLast?_cons_cons] using hx
      cases i with
      | zero =>
        simp only [List.set_cons_zero, List.eraseIdx_cons_zero]
        obtain ⟨ys, hys⟩ := List.getLast?_eq_some_iff.1 hx'
        rw [List.dropLast_cons_of_ne_nil (by simp), hys, List.dropLast_concat]
        exact (List.perm_append_singleton x ys).symm
      | succ i' =>
        have h' : i' < (b :: t').length := by simpa using h
        have := ih i' h' x hx'
        simp only [List.set_cons_succ, List.eraseIdx_cons_succ]
        have hne : ((b :: t').set i' x) ≠ [] := by
          intro hh; have := congrArg List.length hh; simp at this
        rw [List.dropLast_cons_of_ne_nil hne]
        exact List.Perm.cons a this

theorem swapIB_get! {α} [Inhabited α] (a : Array α) (i j m : Nat) (hi : i < a.size) (hj : j < a.size) :
    (a.swapIfInBounds i j)[m]! = if m = j then a[i]! else if m = i then a[j]! else a[m]! := by
  unfold Array.swapIfInBounds
  simp only [hi, hj, dif_pos]
  rw [get!_eq, Array.getElem?_swap]
  by_cases h1 : j = m
  · subst h1; simp [get!_of_lt _ _ hi]
  · have h1' : ¬ m = j := fun e => h1 e.symm
    by_cases h2 : i = m
    · subst h2; simp [h1, h1', get!_of_lt _ _ hj]
    · have h2' : ¬ m = i := fun e => h2 e.symm
      simp [h1, h1', h2, h2', get!_eq]

theorem swapIB_perm {α} (a : Array α) (i j : Nat) : (a.swapIfInBounds i j).toList.Perm a.toList := by
  unfold Array.swapIfInBounds
  split
  · split
    · exact Array.perm_iff_toList_perm.1 (Array.swap_perm _ _)
    · exact List.Perm.refl _
  · exact List.Perm.refl _

theorem filter_eraseIdx_of_not {α} (p : α → Bool) (l : List α) (i : Nat) (a : α) (h : l[i]? = some a)
    (hp : p a = false) : (l.eraseIdx i).filter p = l.filter p := by
  obtain ⟨hi, rfl⟩ := List.getElem?_eq_some_iff.1 h
  conv => rhs; rw [← List.take_append_drop i l, List.drop_eq_getElem_cons hi]
  rw [List.eraseIdx_eq_take_drop_succ, List.filter_append, List.filter_append, List.filter_cons, hp]
  rfl

theorem filter_nodup_idx (l : List Nat) (p : Nat → Bool) (hn : (l.filter p).Nodup) (i j c : Nat)
    (hi : l[i]? = some c) (hj : l[j]? = some c) (hp : p c = true) : i = j := by
  have hpw := List.pairwise_iff_getElem.1 (List.pairwise_filter.1 hn)
  obtain ⟨hi', e1⟩ := List.getElem?_eq_some_iff.1 hi
  obtain ⟨hj', e2⟩ := List.getElem?_eq_some_iff.1 hj
  rcases Nat.lt_trichotomy i j with h | h | h
  · exact absurd (e1.trans e2.symm) (hpw i j hi' hj' h (e1 ▸ hp) (e2 ▸ hp))
  · exact h
  · exact absurd (e2.trans e1.symm) (hpw j i hj' hi' h (e2 ▸ hp) (e1 ▸ hp))

theorem get!_map_filter {α} (a : Array (Array α)) (p : α → Bool) (i : Nat) :
    ((a.map (fun (x : Array α) => x.filter p))[i]!).toList = (a[i]!).toList.filter p := by
  rw [get!_eq, get!_eq, Array.getElem?_map]
  cases h : a[i]? with
  | none => simp; rfl
  | some x => simp

theorem lookup_filterMap (f : Nat → Option (Nat × Bool)) (hf : ∀ v p, f v = some p → p.1 = v) :
    ∀ (l : List Nat) (v : Nat), l.Nodup →
      (l.filterMap f).lookup v = if v ∈ l then (f v).map (·.2) else none := by
  intro l
  induction l with
  | nil => intro v _; rfl
  | cons a t ih =>
    intro v hn
    obtain ⟨hat, hnt⟩ := List.nodup_cons.1 hn
    rw [List.filterMap_cons]
    cases hfa : f a with
    | none =>
      simp only
      rw [ih v hnt]
      by_cases hva : v = a
      · subst hva; simp [hat, hfa]
      · simp [hva]
    | some p =>
      simp only
      have hp := hf a p hfa
      obtain ⟨k, b⟩ := p
      simp only at hp; subst hp
      by_cases hva : v = k
      · subst hva; simp [List.lookup, hfa]
      · have : (v == k) = false := by simpa using hva
        simp only [List.lookup, this]
        rw [ih v hnt]; simp [hva]

theorem get!_toList_take {α} [Inhabited α] (a b : Array α) (n i : Nat) (h : b.toList = a.toList.take n) (hi : i < n) :
    b[i]! = a[i]! := by
  rw [get!_eq, get!_eq, ← Array.getElem?_toList, h, List.getElem?_take, if_pos hi, Array.getElem?_toList]

theorem back!_mem {a : Array Nat} (h : 0 < a.size) : a.back! ∈ a.toList := by
  rw [mem_toList_iff_get!]
  exact ⟨a.size - 1, by omega, by rw [Array.back!_eq_back?, Array.back?_eq_getElem?, get!_eq]⟩

theorem get!_replicate {α} [Inhabited α] (n : Nat) (a : α) (i : Nat) :
    (Array.replicate n a)[i]! = if i < n then a else default := by
  rw [get!_eq, Array.getElem?_replicate]; split <;> rfl

end Solvor.Sat.Cdcl
