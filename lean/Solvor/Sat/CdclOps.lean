import Solvor.Sat.CdclInv
import Solvor.Sat.CdclCases
/-! Sat.CdclOps: the frame of propagation `Ext`, which needs no invariant, and the watch invariant under the
watch-list and clause edits of `propagate`.

What an operation leaves alone is said by one notion per family of operations, because the families keep different
things.  Propagation (`assign`, clause swaps, watch moves) undoes nothing and only permutes clauses: `Ext`, and `LPerm`
alone where only the learned clauses matter.  A backjump unassigns, so it is no `Ext`: `Back` (CdclBack) says which
values survive.  `attach`, `reduceDb`, `unassignTo` rewrite whole tables; which ones is a record equation (`…_only`,
CdclCases).  Activity bumps and `pick_var` touch the four VSIDS fields: `Vsids` (CdclLoop).  The sub-steps of the main
loop, composed of all these, keep the six fields the counting of CdclMain reads: `Sub` (CdclLoop).  A state that
differs only in fields a notion does not read carries it over by that notion's `…_frame` lemma, whose equations
default to `rfl`. -/
namespace Solvor.Sat.Cdcl

theorem setClause_learned (st : St) {idx : Nat} (h : st.nOrig ≤ idx) (c : Array Int) :
    setClause st idx c = { st with learned := st.learned.set! (idx - st.nOrig) c } := by
  unfold setClause; simp [Nat.not_lt.2 h]

theorem setClause_orig (st : St) {idx : Nat} (h : idx < st.nOrig) (c : Array Int) :
    setClause st idx c = { st with clauses := st.clauses.set! idx c } := by
  unfold setClause; simp [h]

theorem moveWatch_orig (st : St) (fl : Int) (i : Nat) {c : Nat} (hc : c < st.nOrig) (X : Array Int) :
    ∃ W : Array (Array Nat), W.size = st.watch.size ∧
      moveWatch st fl i c X = { st with clauses := st.clauses.set! c X, watch := W } := by
  unfold moveWatch addWatch removeWatchAt
  rw [setClause_orig st hc]
  exact ⟨_, by rw [Array.size_modify, Array.size_modify], rfl⟩

theorem getClause_orig (st : St) {c : Nat} (h : c < st.nOrig) : getClause st c = cl st c := by
  unfold getClause cl; simp [h]

theorem getClause_learned (st : St) {c : Nat} (h : st.nOrig ≤ c) : getClause st c = st.learned[c - st.nOrig]! := by
  unfold getClause; simp [Nat.not_lt.2 h]

/-- learned clauses only permuted, none added or removed -/
structure LPerm (st st' : St) : Prop where
  size : st'.learned.size = st.learned.size
  perm : ∀ j : Nat, (Array.toList (st'.learned[j]!)).Perm (Array.toList (st.learned[j]!))
  nb : st'.nBlocking = st.nBlocking

theorem LPerm.refl (st : St) : LPerm st st := ⟨rfl, fun _ => List.Perm.refl _, rfl⟩
theorem LPerm.trans {a b c : St} (h1 : LPerm a b) (h2 : LPerm b c) : LPerm a c :=
  ⟨h2.size.trans h1.size, fun j => (h2.perm j).trans (h1.perm j), h2.nb.trans h1.nb⟩

theorem lperm_of_eq {st st' : St} (e1 : st'.learned = st.learned) (e2 : st'.nBlocking = st.nBlocking) : LPerm st st' :=
  ⟨by rw [e1], fun j => by rw [e1], e2⟩

theorem lperm_assign (st : St) (v : Nat) (b : Bool) (r : Int) : LPerm st (assign st v b r) := lperm_of_eq rfl rfl

/-- `st'` is `st` after some more propagation: nothing assigned is changed, clauses are only permuted, the
decision counter stands -/
structure Ext (st st' : St) : Prop where
  lim : st'.trailLim = st.trailLim
  nV : st'.nVars = st.nVars
  asm : st'.assumptions = st.assumptions
  tsize : st.trail.size ≤ st'.trail.size
  tpre : ∀ i, i < st.trail.size → st'.trail[i]! = st.trail[i]!
  vkeep : ∀ v, valAt st v ≠ UNDEF → valAt st' v = valAt st v ∧ lvlAt st' v = lvlAt st v
  big : st'.big = st.big
  cperm : ∀ c, (cl st' c).toList.Perm (cl st c).toList
  lp : LPerm st st'
  dec : st'.decisions = st.decisions

theorem Ext.trans {a b c : St} (h1 : Ext a b) (h2 : Ext b c) : Ext a c where
  lim := h2.lim.trans h1.lim
  nV := h2.nV.trans h1.nV
  asm := h2.asm.trans h1.asm
  tsize := Nat.le_trans h1.tsize h2.tsize
  tpre := fun i hi => (h2.tpre i (Nat.lt_of_lt_of_le hi h1.tsize)).trans (h1.tpre i hi)
  vkeep := fun v hv => by
    obtain ⟨e1, e2⟩ := h1.vkeep v hv
    obtain ⟨f1, f2⟩ := h2.vkeep v (by rw [e1]; exact hv)
    exact ⟨f1.trans e1, f2.trans e2⟩
  big := h2.big.trans h1.big
  cperm := fun c => (h2.cperm c).trans (h1.cperm c)
  lp := h1.lp.trans h2.lp
  dec := h2.dec.trans h1.dec

/-- (the equations default to `rfl`, for a record update of the other fields) -/
theorem ext_frame {st st'} (nVars : st'.nVars = st.nVars := by rfl) (assumptions : st'.assumptions = st.assumptions := by rfl)
    (clauses : st'.clauses = st.clauses := by rfl) (vals : st'.vals = st.vals := by rfl)
    (levels : st'.levels = st.levels := by rfl) (trail : st'.trail = st.trail := by rfl)
    (trailLim : st'.trailLim = st.trailLim := by rfl) (big : st'.big = st.big := by rfl)
    (learned : st'.learned = st.learned := by rfl) (nBlocking : st'.nBlocking = st.nBlocking := by rfl)
    (decisions : st'.decisions = st.decisions := by rfl) : Ext st st' := by
  cases st'
  simp only at nVars assumptions clauses vals levels trail trailLim big learned nBlocking decisions
  subst nVars assumptions clauses vals levels trail trailLim big learned nBlocking decisions
  exact { lim := rfl, nV := rfl, asm := rfl, tsize := Nat.le_refl _, tpre := fun _ _ => rfl, vkeep := fun _ _ => ⟨rfl, rfl⟩
          big := rfl, cperm := fun _ => .refl _, lp := ⟨rfl, fun _ => .refl _, rfl⟩, dec := rfl }

theorem Ext.refl (st : St) : Ext st st := ext_frame

theorem Ext.isTrue {st st'} (h : Ext st st') {l : Int} (ht : IsTrue st l) : IsTrue st' l := by
  exact ht.congr (h.vkeep _ ht.assigned).1

theorem Ext.isFalse {st st'} (h : Ext st st') {l : Int} (ht : IsFalse st l) : IsFalse st' l := by
  exact ht.congr (h.vkeep _ ht.assigned).1

theorem Ext.lvl {st st'} (h : Ext st st') {v : Nat} (ht : valAt st v ≠ UNDEF) : lvlAt st' v = lvlAt st v :=
  (h.vkeep v ht).2

theorem perm_unit {X Y : Array Int} (h : X.toList.Perm Y.toList) (h1 : X.size = 1) : Y = X := by
  obtain ⟨a, ha⟩ := List.length_eq_one_iff.1 (show X.toList.length = 1 from h1)
  rw [ha] at h
  exact Array.toList_inj.1 ((List.singleton_perm.1 h).symm ▸ ha.symm)

/-- the edits inside one `propStep` also leave the propagation head and the conflict counter alone -/
structure Ext1 (st st' : St) : Prop extends Ext st st' where
  ph : st'.propHead = st.propHead
  con : st'.conflicts = st.conflicts

theorem Ext1.refl (st : St) : Ext1 st st := ⟨.refl _, rfl, rfl⟩

theorem Ext1.trans {a b c : St} (h1 : Ext1 a b) (h2 : Ext1 b c) : Ext1 a c :=
  ⟨h1.toExt.trans h2.toExt, h2.ph.trans h1.ph, h2.con.trans h1.con⟩

theorem ext_watch (st : St) (W : Array (Array Nat)) : Ext1 st { st with watch := W } := ⟨ext_frame, rfl, rfl⟩

theorem ext_assign {st : St} {v : Nat} (hv : valAt st v = UNDEF) (b : Bool) (r : Int) : Ext1 st (assign st v b r) where
  lim := rfl
  nV := rfl
  asm := rfl
  tsize := by show st.trail.size ≤ (st.trail.push v).size; simp
  tpre := fun i hi => by show (st.trail.push v)[i]! = _; rw [get!_push]; simp [Nat.ne_of_lt hi]
  vkeep := fun u hu => by
    have hne : ¬ (v = u ∧ v < st.vals.size) := fun hh => hu (hh.1 ▸ hv)
    have hne' : ¬ (v = u ∧ v < st.levels.size) := fun hh => hu (hh.1 ▸ hv)
    rw [valAt_assign, lvlAt_assign]; simp [hne, hne']
  big := rfl
  cperm := fun _ => .refl _
  lp := lperm_assign st v b r
  dec := rfl
  ph := rfl
  con := rfl

theorem ext_setClause (st : St) (c : Nat) (X : Array Int) (hX : X.toList.Perm (getClause st c).toList) :
    Ext1 st (setClause st c X) := by
  by_cases hc : c < st.nOrig
  · rw [getClause_orig st hc] at hX
    rw [setClause_orig st hc]
    refine ⟨{ ext_frame (st := st) (st' := st) with cperm := fun c' => ?_, lp := lperm_of_eq rfl rfl }, rfl, rfl⟩
    show ((st.clauses.set! c X)[c']!).toList.Perm _
    rw [get!_set!]
    split
    · rename_i hh; rw [← hh.1]; exact hX
    · exact .refl _
  · have hno := Nat.le_of_not_lt hc
    rw [getClause_learned st hno] at hX
    rw [setClause_learned st hno]
    refine ⟨{ ext_frame (st := st) (st' := st) with lp := ⟨Array.size_set! _ _ _, fun j => ?_, rfl⟩ }, rfl, rfl⟩
    show ((st.learned.set! (c - st.nOrig) X)[j]!).toList.Perm _
    rw [get!_set!]
    split
    · rename_i hh; rw [← hh.1]; exact hX
    · exact .refl _

theorem setClause_valAt (st : St) (c : Nat) (X : Array Int) (v : Nat) : valAt (setClause st c X) v = valAt st v := by
  unfold setClause; split <;> rfl

/-- the invariant reads the watch lists through their input-clause entries only -/
theorem inv_setWatch_filter {F st k} (h : Inv F st k) (W : Array (Array Nat)) (hsz : W.size = 2 * (st.nVars + 1))
    (hf : ∀ l, ((wl { st with watch := W } l).filter (· < F.length)).Perm ((wl st l).filter (· < F.length))) :
    Inv F { st with watch := W } k := by
  have old : ∀ {l c}, c ∈ wl { st with watch := W } l → c < F.length → c ∈ wl st l := fun hc hlt =>
    (List.mem_filter.1 ((hf _).mem_iff.1 (List.mem_filter.2 ⟨hc, by simpa using hlt⟩))).1
  have new : ∀ {l c}, c ∈ wl st l → c < F.length → c ∈ wl { st with watch := W } l := fun hc hlt =>
    (List.mem_filter.1 ((hf _).mem_iff.2 (List.mem_filter.2 ⟨hc, by simpa using hlt⟩))).1
  exact { h with wsize := hsz, wsound := (fun l c hc hlt => h.wsound l c (old hc hlt) hlt),
                   wnodup := (fun l => (hf l).nodup_iff.2 (h.wnodup l)),
                   wattach := (fun c hc h3 => ⟨new (h.wattach c hc h3).1 hc, new (h.wattach c hc h3).2 hc⟩) }

theorem inv_addWatch_learned {F st k} (h : Inv F st k) (l : Int) {idx : Nat} (hidx : F.length ≤ idx) :
    Inv F (addWatch st l idx) k := by
  have hwl := wl_addWatch st l idx
  unfold addWatch at hwl ⊢
  refine inv_setWatch_filter h _ (by rw [Array.size_modify]; exact h.wsize) (fun l' => ?_)
  rw [hwl]; split
  · have : ([idx].filter (· < F.length)) = [] := by simp; omega
    rw [List.filter_append, this, List.append_nil]
  · exact List.Perm.refl _

theorem inv_removeWatch_learned {F st k} (h : Inv F st k) (fl : Int) {i c0 : Nat}
    (hi : (wl st fl)[i]? = some c0) (hc0 : F.length ≤ c0) :
    Inv F (removeWatchAt st fl i) k := by
  have hisz := lt_of_wl_getElem? hi
  obtain ⟨hperm, _⟩ := removeAt_facts (watchOf st fl) i hisz
  have hwl := wl_removeWatchAt st fl i
  unfold removeWatchAt at hwl ⊢
  refine inv_setWatch_filter h _ (by rw [Array.size_modify]; exact h.wsize) (fun l' => ?_)
  rw [hwl]; split
  · rename_i hh
    rw [hh.1, ← filter_eraseIdx_of_not (· < F.length) (wl st fl) i c0 hi (by simpa using hc0)]
    exact hperm.filter _
  · exact List.Perm.refl _

theorem inv_setLearned {F st k} (h : Inv F st k) (L : Array (Array Int)) : Inv F { st with learned := L } k :=
  { h with }

theorem cl_edit (st : St) (c0 : Nat) (C' : Array Int) (W : Array (Array Nat)) (h : c0 < st.clauses.size) (c : Nat) :
    cl { st with clauses := st.clauses.set! c0 C', watch := W } c = if c = c0 then C' else cl st c := by
  unfold cl; simp only; rw [get!_set!]
  by_cases hc : c = c0
  · subst hc; simp [h]
  · have : ¬ (c0 = c ∧ c0 < st.clauses.size) := fun hh => hc hh.1.symm
    simp [hc, this]

/-- storing a permutation `C'` of input clause `c0` together with new watch lists `W`; `st'` names the resulting
state.  The lemma does the clause side (`perm`, `wsem`, `battach`, `bsem`); that the new lists watch the right clauses
(`hs`, `hn`, `ha` = `wsound`, `wnodup`, `wattach` of `st'`) and the `Sem2` of the new pair (`hsem`) is the caller's. -/
theorem inv_edit {F st k} (h : Inv F st k) {c0 : Nat} (hc0 : c0 < F.length) (C' : Array Int)
    (hperm : C'.toList.Perm (cl st c0).toList) (h3 : 3 ≤ (cl st c0).size)
    (W : Array (Array Nat)) (hsz : W.size = 2 * (st.nVars + 1))
    {st' : St} (hst : st' = { st with clauses := st.clauses.set! c0 C', watch := W })
    (hs : ∀ l c, c ∈ wl st' l → c < F.length → 3 ≤ (cl st' c).size ∧ ((cl st' c)[0]! = l ∨ (cl st' c)[1]! = l))
    (hn : ∀ l, ((wl st' l).filter (· < F.length)).Nodup)
    (ha : ∀ c, c < F.length → 3 ≤ (cl st' c).size → c ∈ wl st' (cl st' c)[0]! ∧ c ∈ wl st' (cl st' c)[1]!)
    (hsem : Sem2 st k C'[0]! C'[1]! ∧ Sem2 st k C'[1]! C'[0]!) : Inv F st' k := by
  subst hst
  have hcs : c0 < st.clauses.size := by rw [h.csize]; exact hc0
  have hcl := cl_edit st c0 C' W hcs
  have hsize : C'.size = (cl st c0).size := by simpa using hperm.length_eq
  refine { h with csize := (by show (st.clauses.set! c0 C').size = _; rw [Array.size_set!]; exact h.csize),
                    perm := ?_, wsize := hsz, wsound := hs, wnodup := hn, wattach := ha,
                    wsem := ?_, battach := ?_, bsem := ?_ }
  · intro c hc
    rw [hcl c]
    by_cases hcc : c = c0
    · subst hcc; simp only [if_true]; exact hperm.trans (h.perm c hc)
    · simp only [hcc, if_false]; exact h.perm c hc
  · intro c hc hc3
    rw [hcl c] at hc3 ⊢
    by_cases hcc : c = c0
    · subst hcc; simp only [if_true]; exact hsem
    · simp only [hcc, if_false] at hc3 ⊢; exact h.wsem c hc hc3
  · intro c hc hc2
    rw [hcl c] at hc2 ⊢
    by_cases hcc : c = c0
    · subst hcc; simp only [if_true] at hc2; omega
    · simp only [hcc, if_false] at hc2 ⊢; exact h.battach c hc hc2
  · intro c hc hc2
    rw [hcl c] at hc2 ⊢
    by_cases hcc : c = c0
    · subst hcc; simp only [if_true] at hc2; omega
    · simp only [hcc, if_false] at hc2 ⊢; exact h.bsem c hc hc2

/-- (the equations default to `rfl`, for a record update of the other fields) -/
theorem inv_frame {F st st' k} (h : Inv F st k) (e1 : st'.nVars = st.nVars := by rfl)
    (e2 : st'.nOrig = st.nOrig := by rfl) (e3 : st'.clauses = st.clauses := by rfl) (e4 : st'.vals = st.vals := by rfl)
    (e5 : st'.levels = st.levels := by rfl) (e6 : st'.trail = st.trail := by rfl)
    (e7 : st'.trailLim = st.trailLim := by rfl) (e8 : st'.watch = st.watch := by rfl)
    (e9 : st'.big = st.big := by rfl) : Inv F st' k := by
  cases st'
  simp only at e1 e2 e3 e4 e5 e6 e7 e8 e9
  subst e1 e2 e3 e4 e5 e6 e7 e8 e9
  exact { h with }

end Solvor.Sat.Cdcl
