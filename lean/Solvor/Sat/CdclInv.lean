import Solvor.Sat.CdclKit
import Solvor.Common.ListLemmas
/-!
Sat.CdclInv: the watch / trail invariant `Inv` of the CDCL mirror, and what the primitive edits do to the watch and
implication lists.

Only the *input* clauses (index `< nOrig`) are constrained: learned and blocking clauses may be
watched arbitrarily – `solve_sat` itself does not keep the two-watched-literal invariant for them
(the second watch of a learned clause is not its highest-level literal) – and nothing below depends
on what they contain.
-/
namespace Solvor.Sat.Cdcl

/-! The five readers through which every invariant is stated: the arrays of the state read with `[·]!`, the watch and
implication lists as `List`s.  `cl st c` reads the input clauses only (`st.clauses`); the model's `getClause st c` reads
both databases (`getClause_orig`, `getClause_learned`, CdclOps).  `wl`, `il` are the list views of the model's `watchOf`,
`implications` (`lt_of_wl_getElem?`, `wl_getElem?_of_lt` pass between `(wl st l)[i]?` and `(watchOf st l)[i]!`);
`valAt st v` is `st.vals[v]!` by `rfl`.  Invariants are stated with the readers; statements about one step of the model
(`WStep`, `PStep`) keep the model's own terms. -/

def valAt (st : St) (v : Nat) : Nat := st.vals[v]!
def lvlAt (st : St) (v : Nat) : Nat := st.levels[v]!
def wl (st : St) (l : Int) : List Nat := (watchOf st l).toList
def il (st : St) (l : Int) : List (Int × Nat) := (implications st l).toList
def cl (st : St) (c : Nat) : Array Int := st.clauses[c]!

def IsTrue (st : St) (l : Int) : Prop := litValue st l = some true
def IsFalse (st : St) (l : Int) : Prop := litValue st l = some false
def Proc (st : St) (k : Nat) (l : Int) : Prop := ∃ i, i < k ∧ i < st.trail.size ∧ st.trail[i]! = l.natAbs

/-- watched literal `w` false and already processed ⇒ the other watch `o` is true, on a level that
cannot be undone before `w`'s -/
def Sem2 (st : St) (k : Nat) (w o : Int) : Prop :=
  IsFalse st w → Proc st k w → IsTrue st o ∧ lvlAt st o.natAbs ≤ lvlAt st w.natAbs

/-- what is assumed of the input -/
structure FOK (F : List (List Int)) (N : Nat) : Prop where
  nodup : ∀ c ∈ F, c.Nodup
  nz : ∀ c ∈ F, ∀ l ∈ c, l ≠ 0
  rng : ∀ c ∈ F, ∀ l ∈ c, l.natAbs ≤ N

/-- the invariant of the mirror's state for the input `F`, the first `k` trail entries being processed by `propagate`.
`k` is a parameter and not `st.propHead`, because the mirror moves the head before it processes the literal there
(`headSt`) and a conflict leaves it anywhere: `k = propHead` between two literals, `k = trail.size` after a `propagate`
without conflict, some `k` after a conflict. -/
structure Inv (F : List (List Int)) (st : St) (k : Nat) : Prop where
  nOrig : st.nOrig = F.length
  csize : st.clauses.size = F.length
  perm : ∀ c (h : c < F.length), (cl st c).toList.Perm F[c]
  fok : FOK F st.nVars
  vsize : st.vals.size = st.nVars + 1
  vrange : ∀ v, valAt st v ≤ 2
  lsize : st.levels.size = st.nVars + 1
  wsize : st.watch.size = 2 * (st.nVars + 1)
  tnodup : st.trail.toList.Nodup
  tmem : ∀ v, v ∈ st.trail.toList ↔ (v ≤ st.nVars ∧ valAt st v ≠ UNDEF)
  limSorted : ∀ j1 j2, j1 ≤ j2 → j2 < st.trailLim.size → st.trailLim[j1]! ≤ st.trailLim[j2]!
  limLe : ∀ j, j < st.trailLim.size → st.trailLim[j]! ≤ k
  kLe : k ≤ st.trail.size
  -- the level of a trail entry is the number of marks at or below its position
  tl : ∀ i j, i < st.trail.size → j < st.trailLim.size → (st.trailLim[j]! ≤ i ↔ j < lvlAt st (st.trail[i]!))
  lvlLe : ∀ i, i < st.trail.size → lvlAt st (st.trail[i]!) ≤ st.trailLim.size
  -- clauses of ≥ 3 literals sit, once, in the watch lists of their first two literals, and nowhere else
  wsound : ∀ l c, c ∈ wl st l → c < F.length → 3 ≤ (cl st c).size ∧ ((cl st c)[0]! = l ∨ (cl st c)[1]! = l)
  wnodup : ∀ l, ((wl st l).filter (· < F.length)).Nodup
  wattach : ∀ c, c < F.length → 3 ≤ (cl st c).size → c ∈ wl st (cl st c)[0]! ∧ c ∈ wl st (cl st c)[1]!
  wsem : ∀ c, c < F.length → 3 ≤ (cl st c).size →
    Sem2 st k (cl st c)[0]! (cl st c)[1]! ∧ Sem2 st k (cl st c)[1]! (cl st c)[0]!
  battach : ∀ c, c < F.length → (cl st c).size = 2 →
    ((cl st c)[1]!, c) ∈ il st (cl st c)[0]! ∧ ((cl st c)[0]!, c) ∈ il st (cl st c)[1]!
  bsem : ∀ c, c < F.length → (cl st c).size = 2 →
    Sem2 st k (cl st c)[0]! (cl st c)[1]! ∧ Sem2 st k (cl st c)[1]! (cl st c)[0]!

/-- true at decision level 0: never undone -/
def True0 (st : St) (l : Int) : Prop := IsTrue st l ∧ lvlAt st l.natAbs = 0

theorem Inv.clMem {F st k} (h : Inv F st k) {c : Nat} (hc : c < F.length) {l : Int} :
    l ∈ (cl st c).toList ↔ l ∈ F[c] := (h.perm c hc).mem_iff

theorem Inv.clSize {F st k} (h : Inv F st k) {c : Nat} (hc : c < F.length) :
    (cl st c).size = F[c].length := by
  have := (h.perm c hc).length_eq
  simpa using this

theorem Inv.clNodup {F st k} (h : Inv F st k) {c : Nat} (hc : c < F.length) : (cl st c).toList.Nodup :=
  (h.perm c hc).nodup_iff.2 (h.fok.nodup _ (List.getElem_mem hc))

theorem Inv.clGet {F st k} (h : Inv F st k) {c : Nat} (hc : c < F.length) {i : Nat} (hi : i < (cl st c).size) :
    (cl st c)[i]! ∈ F[c] :=
  (h.clMem hc).1 (get!_mem hi)

theorem Inv.clNe {F st k} (h : Inv F st k) {c : Nat} (hc : c < F.length) {i j : Nat}
    (hi : i < (cl st c).size) (hj : j < (cl st c).size) (hij : i ≠ j) : (cl st c)[i]! ≠ (cl st c)[j]! := by
  have hnd := h.clNodup hc
  rw [get!_of_lt _ _ hi, get!_of_lt _ _ hj]
  have hp := List.pairwise_iff_getElem.1 hnd
  intro heq
  rcases Nat.lt_or_gt_of_ne hij with hlt | hlt
  · exact hp i j (by simpa using hi) (by simpa using hj) hlt (by simpa using heq)
  · exact hp j i (by simpa using hj) (by simpa using hi) hlt (by simpa using heq.symm)

theorem Inv.cl01 {F st k} (h : Inv F st k) {c : Nat} (hc : c < F.length) (h2 : 2 ≤ (cl st c).size) :
    (cl st c)[0]! ≠ (cl st c)[1]! :=
  h.clNe hc (Nat.lt_of_lt_of_le Nat.zero_lt_two h2) (Nat.lt_of_lt_of_le Nat.one_lt_two h2) Nat.zero_ne_one

theorem litValue_def (st : St) (l : Int) :
    litValue st l = if valAt st l.natAbs = UNDEF then none else some ((valAt st l.natAbs == 1) == decide (0 < l)) := by
  unfold litValue valAt
  by_cases h : st.vals[l.natAbs]! = UNDEF <;> simp [h]

theorem IsTrue.assigned {st l} (h : IsTrue st l) : valAt st l.natAbs ≠ UNDEF := by
  unfold IsTrue at h; rw [litValue_def] at h
  intro hh; simp [hh] at h

theorem IsFalse.assigned {st l} (h : IsFalse st l) : valAt st l.natAbs ≠ UNDEF := by
  unfold IsFalse at h; rw [litValue_def] at h
  intro hh; simp [hh] at h

theorem not_true_and_false {st l} (h1 : IsTrue st l) (h2 : IsFalse st l) : False := by
  unfold IsTrue at h1; unfold IsFalse at h2; rw [h1] at h2; cases h2

theorem IsFalse.eq_of_natAbs {st} {a b : Int} (ha : IsFalse st a) (hb : IsFalse st b)
    (h : a.natAbs = b.natAbs) : a = b := by
  unfold IsFalse at ha hb
  rw [litValue_def] at ha hb
  rw [h] at ha
  by_cases hu : valAt st b.natAbs = UNDEF
  · simp [hu] at hb
  · simp only [hu, if_false, Option.some.injEq] at ha hb
    have : decide (0 < a) = decide (0 < b) :=
      (by decide : ∀ x y z : Bool, (x == y) = false → (x == z) = false → y = z) _ _ _ ha hb
    have h2 : (0 < a ↔ 0 < b) := by simpa using this
    omega

theorem undef_of_litValue_none {st : St} {l : Int} (h : litValue st l = none) : valAt st l.natAbs = UNDEF := by
  rw [litValue_def] at h
  by_cases hu : valAt st l.natAbs = UNDEF
  · exact hu
  · simp [hu] at h

theorem litValue_congr {st st' : St} {l : Int} (h : valAt st' l.natAbs = valAt st l.natAbs) :
    litValue st' l = litValue st l := by
  rw [litValue_def, litValue_def, h]

theorem IsTrue.congr {st st' : St} {l : Int} (h : valAt st' l.natAbs = valAt st l.natAbs) (ht : IsTrue st l) : IsTrue st' l :=
  (litValue_congr h).trans ht

theorem IsFalse.congr {st st' : St} {l : Int} (h : valAt st' l.natAbs = valAt st l.natAbs) (ht : IsFalse st l) :
    IsFalse st' l :=
  (litValue_congr h).trans ht

/-- the two tests the loops of the mirror make on a literal that has a value and is not false -/
theorem isTrue_of_tests {st : St} {l : Int} (hu : ¬ (st.vals[l.natAbs]! == UNDEF) = true)
    (hne : ¬ ((st.vals[l.natAbs]! == 1) != decide (0 < l)) = true) : IsTrue st l := by
  unfold IsTrue
  rw [litValue_def]
  have hu' : ¬ valAt st l.natAbs = UNDEF := by simpa [valAt] using hu
  simp only [hu', if_false, Option.some.injEq]
  have : ((st.vals[l.natAbs]! == 1) != decide (0 < l)) = false := by simpa using hne
  simpa [valAt] using this

theorem valAt_assign (st : St) (v : Nat) (b : Bool) (r : Int) (u : Nat) :
    valAt (assign st v b r) u = if v = u ∧ v < st.vals.size then (if b then 1 else 0) else valAt st u := by
  unfold valAt assign; simp only; rw [get!_set!]

theorem lvlAt_assign (st : St) (v : Nat) (b : Bool) (r : Int) (u : Nat) :
    lvlAt (assign st v b r) u = if v = u ∧ v < st.levels.size then st.trailLim.size else lvlAt st u := by
  unfold lvlAt assign; simp only; rw [get!_set!]

/-- a read outside `vals` gives 0, not `UNDEF` -/
theorem lt_size_of_undef {st : St} {v : Nat} (hv : valAt st v = UNDEF) : v < st.vals.size :=
  Nat.lt_of_not_le fun hn => by
    unfold valAt at hv
    rw [get!_of_ge _ _ hn] at hv
    cases hv

theorem valAt_lt_of_undef {F st k} (h : Inv F st k) {v : Nat} (hv : valAt st v = UNDEF) : v < st.nVars + 1 :=
  Nat.lt_of_lt_of_eq (lt_size_of_undef hv) h.vsize

theorem Inv.trailGet {F st k} (h : Inv F st k) {i : Nat} (hi : i < st.trail.size) :
    st.trail[i]! ≤ st.nVars ∧ valAt st (st.trail[i]!) ≠ UNDEF :=
  (h.tmem _).1 (get!_mem hi)

theorem inv_assign {F st k} (h : Inv F st k) {v : Nat} (hv : valAt st v = UNDEF) (b : Bool) (r : Int) :
    Inv F (assign st v b r) k := by
  have hvlt := valAt_lt_of_undef h hv
  have hvs : v < st.vals.size := lt_size_of_undef hv
  have hls : v < st.levels.size := by rw [h.lsize]; exact hvlt
  have hnot : v ∉ st.trail.toList := fun hm => ((h.tmem v).1 hm).2 hv
  have hval : ∀ u, u ≠ v → valAt (assign st v b r) u = valAt st u := by
    intro u hu; rw [valAt_assign]; simp [Ne.symm hu]
  have hlvl : ∀ u, u ≠ v → lvlAt (assign st v b r) u = lvlAt st u := by
    intro u hu; rw [lvlAt_assign]; simp [Ne.symm hu]
  have htr : ∀ i, i < st.trail.size → (assign st v b r).trail[i]! = st.trail[i]! := by
    intro i hi; show (st.trail.push v)[i]! = _; rw [get!_push]; simp [Nat.ne_of_lt hi]
  have htrne : ∀ i, i < st.trail.size → st.trail[i]! ≠ v := by
    intro i hi heq; exact hnot (heq ▸ get!_mem hi)
  have hsz : (assign st v b r).trail.size = st.trail.size + 1 := by show (st.trail.push v).size = _; simp
  have hkeepT : ∀ l, IsTrue st l → IsTrue (assign st v b r) l ∧ lvlAt (assign st v b r) l.natAbs = lvlAt st l.natAbs := by
    intro l hl
    have hne : l.natAbs ≠ v := fun he => hl.assigned (he ▸ hv)
    exact ⟨hl.congr (hval _ hne), hlvl _ hne⟩
  have hsem : ∀ w o, Sem2 st k w o → Sem2 (assign st v b r) k w o := by
    intro w o hs hf hp
    obtain ⟨i, hik, hi, hti⟩ := hp
    have hi' : i < st.trail.size := by have := h.kLe; omega
    rw [htr i hi'] at hti
    have hne : w.natAbs ≠ v := by rw [← hti]; exact htrne i hi'
    have hf' : IsFalse st w := hf.congr (hval _ hne).symm
    obtain ⟨ht, hl⟩ := hs hf' ⟨i, hik, hi', hti⟩
    obtain ⟨ht', hl'⟩ := hkeepT o ht
    exact ⟨ht', by rw [hl', hlvl _ hne]; exact hl⟩
  refine { h with
           vsize := (by show (st.vals.set! v _).size = _; rw [Array.size_set!]; exact h.vsize), vrange := ?_,
           lsize := (by show (st.levels.set! v _).size = _; rw [Array.size_set!]; exact h.lsize),
           tnodup := ?_, tmem := ?_, kLe := (by rw [hsz]; have := h.kLe; omega), tl := ?_, lvlLe := ?_,
           wsem := fun c hc h3 => ⟨hsem _ _ (h.wsem c hc h3).1, hsem _ _ (h.wsem c hc h3).2⟩,
           bsem := fun c hc h2 => ⟨hsem _ _ (h.bsem c hc h2).1, hsem _ _ (h.bsem c hc h2).2⟩ }
  · intro u; rw [valAt_assign]; split
    · cases b <;> simp
    · exact h.vrange u
  · show (st.trail.push v).toList.Nodup
    rw [Array.toList_push]
    exact Solvor.nodup_concat h.tnodup hnot
  · intro u
    show u ∈ (st.trail.push v).toList ↔ _
    rw [Array.toList_push, List.mem_append, valAt_assign]
    by_cases hu : u = v
    · subst hu
      simp only [List.mem_singleton, or_true, true_iff, true_and, hvs, if_true]
      exact ⟨Nat.le_of_lt_succ hvlt, by cases b <;> simp [UNDEF]⟩
    · have : ¬ (v = u ∧ v < st.vals.size) := fun hh => hu hh.1.symm
      simp only [List.mem_singleton, hu, or_false, this, if_false]
      exact h.tmem u
  · intro i j hi hj
    rw [hsz] at hi
    show st.trailLim[j]! ≤ i ↔ j < lvlAt (assign st v b r) ((assign st v b r).trail[i]!)
    by_cases hlt : i < st.trail.size
    · rw [htr i hlt, hlvl _ (htrne i hlt)]; exact h.tl i j hlt hj
    · have hie : i = st.trail.size := by omega
      have : (assign st v b r).trail[i]! = v := by show (st.trail.push v)[i]! = v; rw [get!_push]; simp [hie]
      rw [this, lvlAt_assign]; simp only [hls, and_self, if_true]
      have h1 := h.limLe j hj; have h2 := h.kLe
      constructor
      · intro _; exact hj
      · intro _; omega
  · intro i hi
    rw [hsz] at hi
    show lvlAt (assign st v b r) ((assign st v b r).trail[i]!) ≤ st.trailLim.size
    by_cases hlt : i < st.trail.size
    · rw [htr i hlt, hlvl _ (htrne i hlt)]; exact h.lvlLe i hlt
    · have hie : i = st.trail.size := by omega
      have : (assign st v b r).trail[i]! = v := by show (st.trail.push v)[i]! = v; rw [get!_push]; simp [hie]
      rw [this, lvlAt_assign]; simp [hls]

theorem litIdx_inj {a b : Int} (h : litIdx a = litIdx b) : a = b := by
  unfold litIdx at h
  by_cases ha : 0 < a <;> by_cases hb : 0 < b <;> simp only [ha, hb, if_true, if_false] at h <;> omega

theorem litIdx_lt {l : Int} {N : Nat} (h : l.natAbs ≤ N) : litIdx l < 2 * (N + 1) := by
  unfold litIdx; split <;> omega

theorem lt_of_wl_getElem? {st : St} {fl : Int} {i c : Nat} (hi : (wl st fl)[i]? = some c) :
    i < (watchOf st fl).size := by
  have := (List.getElem?_eq_some_iff.1 hi).1; simpa [wl] using this

theorem wl_getElem?_of_lt (st : St) (fl : Int) {i : Nat} (hi : i < (watchOf st fl).size) :
    (wl st fl)[i]? = some (watchOf st fl)[i]! := by
  unfold wl; rw [Array.getElem?_toList, get!_eq]; simp [hi]

theorem wl_addWatch (st : St) (l : Int) (idx : Nat) (l' : Int) :
    wl (addWatch st l idx) l' = if l' = l ∧ litIdx l < st.watch.size then wl st l' ++ [idx] else wl st l' := by
  unfold wl watchOf addWatch
  simp only
  rw [get!_modify]
  by_cases h : l' = l
  · subst h
    by_cases h2 : litIdx l' < st.watch.size
    · simp [h2]
    · simp [h2]
  · have : ¬ (litIdx l = litIdx l' ∧ litIdx l < st.watch.size) := fun hh => h (litIdx_inj hh.1).symm
    simp [h, this]

theorem wl_removeWatchAt (st : St) (l : Int) (i : Nat) (l' : Int) :
    wl (removeWatchAt st l i) l' =
      if l' = l ∧ litIdx l < st.watch.size then ((wl st l).set i (watchOf st l).back!).dropLast else wl st l' := by
  unfold wl watchOf removeWatchAt
  simp only
  rw [get!_modify]
  by_cases h : l' = l
  · subst h
    by_cases h2 : litIdx l' < st.watch.size
    · simp [h2, Array.set!_eq_setIfInBounds]
    · simp [h2]
  · have : ¬ (litIdx l = litIdx l' ∧ litIdx l < st.watch.size) := fun hh => h (litIdx_inj hh.1).symm
    simp [h, this]

theorem watchOf_setClause (st : St) (c : Nat) (X : Array Int) (l : Int) : watchOf (setClause st c X) l = watchOf st l := by
  unfold setClause; split <;> rfl

theorem wl_setClause (st : St) (c : Nat) (X : Array Int) (l : Int) : wl (setClause st c X) l = wl st l :=
  congrArg Array.toList (watchOf_setClause st c X l)

theorem wl_moveWatch (st : St) (fl : Int) (i c : Nat) (X : Array Int) (l : Int) :
    wl (moveWatch st fl i c X) l =
      (if l = fl ∧ litIdx fl < st.watch.size then ((wl st fl).set i (watchOf st fl).back!).dropLast else wl st l) ++
        (if l = X[1]! ∧ litIdx X[1]! < st.watch.size then [c] else []) := by
  have hw := watchOf_setClause st c X fl
  have hs : (setClause st c X).watch.size = st.watch.size := by unfold setClause; split <;> rfl
  have hsz : (removeWatchAt (setClause st c X) fl i).watch.size = st.watch.size := by
    unfold removeWatchAt setClause; split <;> simp only [Array.size_modify]
  unfold moveWatch
  rw [wl_addWatch, wl_removeWatchAt, hsz, hs, hw, wl_setClause, wl_setClause]
  split
  · rfl
  · rw [List.append_nil]

theorem il_bigAdd (st : St) (a b : Int) (idx : Nat) (l : Int) :
    il (bigAdd st a b idx) l = il st l ++ (if l = a ∧ litIdx a < st.big.size then [(b, idx)] else []) ++
      (if l = b ∧ litIdx b < st.big.size then [(a, idx)] else []) := by
  unfold il implications bigAdd
  simp only
  rw [get!_modify, get!_modify, Array.size_modify]
  have ea : litIdx a = litIdx l ↔ l = a := ⟨fun h => (litIdx_inj h).symm, fun h => h ▸ rfl⟩
  have eb : litIdx b = litIdx l ↔ l = b := ⟨fun h => (litIdx_inj h).symm, fun h => h ▸ rfl⟩
  simp only [ea, eb]
  by_cases h1 : l = a ∧ litIdx a < st.big.size <;> by_cases h2 : l = b ∧ litIdx b < st.big.size
  · rw [if_pos h2, if_pos h1, if_pos h1, if_pos h2, Array.toList_push, Array.toList_push]
  · rw [if_neg h2, if_pos h1, if_pos h1, if_neg h2, Array.toList_push, List.append_nil]
  · rw [if_pos h2, if_neg h1, if_neg h1, if_pos h2, Array.toList_push, List.append_nil]
  · rw [if_neg h2, if_neg h1, if_neg h1, if_neg h2, List.append_nil, List.append_nil]

theorem il_bigAdd_mono (st : St) (a b : Int) (idx : Nat) (l : Int) (e : Int × Nat) (he : e ∈ il st l) :
    e ∈ il (bigAdd st a b idx) l := by
  rw [il_bigAdd]; exact List.mem_append_left _ (List.mem_append_left _ he)

theorem il_bigAdd_self (st : St) (a b : Int) (idx : Nat) (ha : litIdx a < st.big.size) (hb : litIdx b < st.big.size) :
    (b, idx) ∈ il (bigAdd st a b idx) a ∧ (a, idx) ∈ il (bigAdd st a b idx) b := by
  rw [il_bigAdd, il_bigAdd]
  exact ⟨List.mem_append_left _ (List.mem_append_right _ (by rw [if_pos ⟨rfl, ha⟩]; exact List.mem_singleton_self _)),
    List.mem_append_right _ (by rw [if_pos ⟨rfl, hb⟩]; exact List.mem_singleton_self _)⟩

theorem il_bigAdd_cases {st : St} {a b : Int} {idx : Nat} {l : Int} {e : Int × Nat} (he : e ∈ il (bigAdd st a b idx) l) :
    e ∈ il st l ∨ e = (b, idx) ∨ e = (a, idx) := by
  rw [il_bigAdd, List.mem_append, List.mem_append] at he
  rcases he with (he | he) | he
  · exact .inl he
  · split at he
    · exact .inr (.inl (List.mem_singleton.1 he))
    · cases he
  · split at he
    · exact .inr (.inr (List.mem_singleton.1 he))
    · cases he

/-- the list left after `watches[i] = watches[-1]; watches.pop()` is the old one without entry `i`, up
to order; entries before `i` keep their place -/
theorem removeAt_facts (w : Array Nat) (i : Nat) (hi : i < w.size) :
    (((w.toList).set i w.back!).dropLast).Perm (w.toList.eraseIdx i) ∧
    ∀ j, j < i → (((w.toList).set i w.back!).dropLast)[j]? = w.toList[j]? := by
  have hlast : w.toList.getLast? = some w.back! := by
    rw [Array.back!_eq_back?, Array.back?_eq_getElem?, List.getLast?_eq_getElem?]
    simp only [Array.length_toList, Array.getElem?_toList]
    have : w.size - 1 < w.size := by omega
    simp [this]
  refine ⟨dropLast_set_getLast_perm _ i (by simpa using hi) _ hlast, ?_⟩
  intro j hj
  rw [List.getElem?_dropLast]
  have hlen : j < (w.toList.set i w.back!).length - 1 := by simp; omega
  simp only [hlen, if_true]
  rw [List.getElem?_set]
  simp [Nat.ne_of_gt hj]

theorem Inv.posUnique {F st k} (h : Inv F st k) {fl : Int} {i j c : Nat}
    (hi : (wl st fl)[i]? = some c) (hj : (wl st fl)[j]? = some c) (hc : c < F.length) : i = j :=
  filter_nodup_idx _ _ (h.wnodup fl) i j c hi hj (by simpa using hc)

theorem Inv.litIdxLt {F st k} (h : Inv F st k) {c : Nat} (hc : c < F.length) {i : Nat} (hi : i < (cl st c).size) :
    litIdx (cl st c)[i]! < st.watch.size := by
  rw [h.wsize]; exact litIdx_lt (h.fok.rng _ (List.getElem_mem hc) _ (h.clGet hc hi))

theorem Inv.lvlLeOf {F st k} (h : Inv F st k) {v : Nat} (hv : v ≤ st.nVars) (ha : valAt st v ≠ UNDEF) :
    lvlAt st v ≤ st.trailLim.size := by
  obtain ⟨i, hi, rfl⟩ := (mem_toList_iff_get! _ _).1 ((h.tmem v).2 ⟨hv, ha⟩)
  exact h.lvlLe i hi

theorem Inv.trailLe {F st k} (h : Inv F st k) : st.trail.size ≤ st.nVars + 1 :=
  Array.length_toList ▸ Solvor.nodup_length_le h.tnodup fun x hx => Nat.lt_succ_of_le ((h.tmem x).1 hx).1

theorem wl_assign (st : St) (v : Nat) (b : Bool) (r : Int) (l : Int) : wl (assign st v b r) l = wl st l := rfl

theorem findNonFalse_some {st : St} {C : Array Int} : ∀ {fuel j k : Nat}, findNonFalse st C fuel j = some k →
    j ≤ k ∧ k < j + fuel ∧ litValue st C[k]! ≠ some false := by
  intro fuel
  induction fuel with
  | zero => intro j k h; simp [findNonFalse] at h
  | succ fuel ih =>
    intro j k h
    unfold findNonFalse at h
    split at h
    · rename_i hb
      cases h
      exact ⟨Nat.le_refl _, by omega, by simpa using hb⟩
    · obtain ⟨a, b, c⟩ := ih h
      exact ⟨by omega, by omega, c⟩

theorem setClause_setClause (st : St) (c : Nat) (X Y : Array Int) :
    setClause (setClause st c X) c Y = setClause st c Y := by
  unfold setClause
  by_cases h : c < st.nOrig
  · simp only [h, if_true, set!_set!]
  · simp only [h, if_false, set!_set!]

end Solvor.Sat.Cdcl
