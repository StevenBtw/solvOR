import Solvor.Sat.Lemmas
/-! Sat.Certify: soundness of the unit-propagation refutation checker `upRefutes` and of the
pure-literal rule – the two ingredients of the certificate the CDCL mirror checks before it answers
INFEASIBLE. -/
namespace Solvor.Sat

def Agree (σ : Asg) (a : Array Nat) : Prop :=
  ∀ v x, a[v]? = some x → (x = 1 → σ v = true) ∧ (x = 0 → σ v = false)

theorem litValA_agree {σ : Asg} {a : Array Nat} (h : Agree σ a) {l : Int} {b : Bool} (hb : litValA a l = some b) :
    litTrue σ l = b := by
  unfold litValA at hb
  unfold litTrue
  split at hb
  · rename_i hx
    cases hb
    have := (h _ _ hx).1 rfl
    by_cases hp : 0 < l <;> simp [hp, this]
  · rename_i hx
    cases hb
    have := (h _ _ hx).2 rfl
    by_cases hp : 0 < l <;> simp [hp, this]
  · cases hb

theorem Agree.set {σ : Asg} {a : Array Nat} (h : Agree σ a) {l : Int} (ht : litTrue σ l = true) :
    Agree σ (a.setIfInBounds l.natAbs (if 0 < l then 1 else 0)) := by
  intro v x hx
  rw [Array.getElem?_setIfInBounds] at hx
  by_cases hv : l.natAbs = v
  · rw [if_pos hv] at hx
    by_cases hlt : l.natAbs < a.size
    · rw [if_pos hlt] at hx
      cases hx
      subst hv
      unfold litTrue at ht
      by_cases hp : 0 < l
      · rw [if_pos hp] at ht ⊢
        exact ⟨fun _ => ht, fun h => by cases h⟩
      · rw [if_neg hp] at ht ⊢
        exact ⟨fun h => (by cases h), fun _ => by simpa using ht⟩
    · rw [if_neg hlt] at hx
      cases hx
  · rw [if_neg hv] at hx
    exact h v x hx

theorem upPass_sound {σ : Asg} : ∀ (cs : List Clause) (a : Array Nat) (ch : Bool),
    (∀ c ∈ cs, clauseTrue σ c = true) → Agree σ a →
    (upPass cs a ch ≠ none) ∧ ∀ a' ch', upPass cs a ch = some (a', ch') → Agree σ a' := by
  intro cs
  induction cs with
  | nil =>
    intro a ch _ ha
    exact ⟨fun h => (by simp [upPass] at h), fun a' ch' h => by
      simp only [upPass, Option.some.injEq, Prod.mk.injEq] at h
      exact h.1 ▸ ha⟩
  | cons c cs ih =>
    intro a ch hc ha
    have hcs : ∀ d ∈ cs, clauseTrue σ d = true := fun d hd => hc d (List.mem_cons_of_mem _ hd)
    obtain ⟨l', hl', ht'⟩ := clauseTrue_iff.1 (hc c List.mem_cons_self)
    unfold upPass
    split
    · exact ih a ch hcs ha
    · rename_i hany
      -- the literal of `c` true under `σ` is unassigned in `a`, so the clause is not falsified;
      -- if it is the only unassigned one it is the literal that gets recorded
      have hnone : litValA a l' = none := by
        cases hv : litValA a l' with
        | none => rfl
        | some b =>
          have := litValA_agree ha hv
          rw [ht'] at this
          subst this
          exact absurd (List.any_eq_true.2 ⟨l', hl', by rw [hv]; rfl⟩) hany
      have hmem : l' ∈ c.filter (fun l => litValA a l == none) :=
        List.mem_filter.2 ⟨hl', by rw [hnone]; rfl⟩
      split
      · rename_i hf
        rw [hf] at hmem
        cases hmem
      · rename_i l hf
        rw [hf] at hmem
        rw [← List.mem_singleton.1 hmem]
        exact ih _ true hcs (ha.set ht')
      · exact ih a ch hcs ha

theorem upLoop_sound {σ : Asg} : ∀ (fuel : Nat) (cs : List Clause) (a : Array Nat),
    (∀ c ∈ cs, clauseTrue σ c = true) → Agree σ a → upLoop fuel cs a = false := by
  intro fuel
  induction fuel with
  | zero => intro cs a _ _; rfl
  | succ fuel ih =>
    intro cs a hc ha
    unfold upLoop
    obtain ⟨h1, h2⟩ := upPass_sound cs a false hc ha
    split
    · rename_i hn; exact absurd hn h1
    · rename_i a' ch' hs
      split
      · exact ih cs a' hc (h2 a' ch' hs)
      · rfl

theorem upRefutes_unsat (n : Nat) (cs : List Clause) (h : upRefutes n cs = true) : ¬ ∃ σ, cnfTrue σ cs = true := by
  rintro ⟨σ, hσ⟩
  have hc : ∀ c ∈ cs, clauseTrue σ c = true := by
    intro c hc; exact clauseTrue_iff.2 ((cnfTrue_iff.1 hσ) c hc)
  have ha : Agree σ (Array.replicate (n + 1) 2) := by
    intro v x hx
    rw [Array.getElem?_replicate] at hx
    split at hx
    · cases hx; exact ⟨fun h => (by cases h), fun h => (by cases h)⟩
    · cases hx
  have := upLoop_sound (n + 2) cs _ hc ha
  unfold upRefutes at h
  rw [this] at h; cases h

def forcePure (σ : Asg) (ps : List Int) : Asg :=
  fun v => if (v : Int) ∈ ps then true else if -(v : Int) ∈ ps then false else σ v

theorem occursB_iff {f : Cnf} {as : List Int} {l : Int} : occursB f as l = true ↔ (∃ c ∈ f, l ∈ c) ∨ l ∈ as := by
  unfold occursB; simp [List.any_eq_true]

theorem mem_pureUnits {f : Cnf} {as : List Int} {n : Nat} {p : Int} (h : p ∈ pureUnits f as n) :
    p ≠ 0 ∧ occursB f as p = true ∧ occursB f as (-p) = false := by
  unfold pureUnits at h
  simp only [List.mem_flatMap, List.mem_range'_1, List.mem_append] at h
  obtain ⟨v, ⟨hv1, _⟩, hp | hp⟩ := h
  · split at hp
    · rename_i hc
      simp at hp; subst hp
      simp only [Bool.and_eq_true, Bool.not_eq_eq_eq_not, Bool.not_true] at hc
      exact ⟨by omega, hc.1, hc.2⟩
    · cases hp
  · split at hp
    · rename_i hc
      simp at hp; subst hp
      simp only [Bool.and_eq_true, Bool.not_eq_eq_eq_not, Bool.not_true] at hc
      exact ⟨by omega, hc.1, by rw [Int.neg_neg]; exact hc.2⟩
    · cases hp

theorem litTrue_forcePure {σ : Asg} {ps : List Int} (hc : ∀ p ∈ ps, -p ∉ ps) (l : Int) :
    litTrue (forcePure σ ps) l = if l ∈ ps then true else if -l ∈ ps then false else litTrue σ l := by
  simp only [litTrue, forcePure]
  by_cases hp : 0 < l
  · rw [if_pos hp, if_pos hp, Int.natAbs_of_nonneg (Int.le_of_lt hp)]
  · rw [if_neg hp, if_neg hp, Int.ofNat_natAbs_of_nonpos (Int.not_lt.1 hp), Int.neg_neg]
    by_cases h1 : l ∈ ps
    · rw [if_pos h1, if_neg (hc l h1), if_pos h1]
      rfl
    · by_cases h2 : -l ∈ ps
      · rw [if_pos h2, if_neg h1, if_pos h2]
        rfl
      · rw [if_neg h2, if_neg h1, if_neg h1, if_neg h2]

theorem pureUnits_consistent {f : Cnf} {as : List Int} {n : Nat} : ∀ p ∈ pureUnits f as n, -p ∉ pureUnits f as n := by
  intro p hp hn
  have := (mem_pureUnits hn).2.1
  rw [(mem_pureUnits hp).2.2] at this
  cases this

theorem litTrue_forcePure_of_occurs {σ : Asg} {f : Cnf} {as : List Int} {n : Nat} {l : Int}
    (hocc : occursB f as l = true) (ht : litTrue σ l = true) : litTrue (forcePure σ (pureUnits f as n)) l = true := by
  have hneg : -l ∉ pureUnits f as n := fun hm => by
    have := (mem_pureUnits hm).2.2
    rw [Int.neg_neg, hocc] at this
    cases this
  rw [litTrue_forcePure pureUnits_consistent, if_neg hneg, ht]
  exact ite_self _

theorem litTrue_forcePure_self {σ : Asg} {f : Cnf} {as : List Int} {n : Nat} {p : Int} (hp : p ∈ pureUnits f as n) :
    litTrue (forcePure σ (pureUnits f as n)) p = true := by
  rw [litTrue_forcePure pureUnits_consistent, if_pos hp]

theorem models_forcePure {σ : Asg} {f : Cnf} {as : List Int} (n : Nat) (h : Models σ f as) :
    Models (forcePure σ (pureUnits f as n)) f as := by
  refine ⟨fun c hc => ?_, fun a ha => ?_⟩
  · obtain ⟨l, hl, ht⟩ := h.1 c hc
    exact ⟨l, hl, litTrue_forcePure_of_occurs (occursB_iff.2 (Or.inl ⟨c, hc, hl⟩)) ht⟩
  · exact litTrue_forcePure_of_occurs (occursB_iff.2 (Or.inr ha)) (h.2 a ha)

/-- the certificate the CDCL mirror checks before it answers INFEASIBLE (`Cdcl.certify`) -/
theorem certify_sound (f : Cnf) (as : List Int) (n : Nat) (usePure : Bool) (ever : List Clause)
    (hever : ∀ C ∈ ever, Entails f C)
    (h : upRefutes n (f ++ as.map (fun a => [a]) ++
        (if usePure then (pureUnits f as n).map (fun p => [p]) else []) ++ ever) = true) :
    ¬ ∃ σ, Models σ f as := by
  rintro ⟨σ, hσ⟩
  apply upRefutes_unsat _ _ h
  -- the witness: `σ` itself, or `σ` with the pure literals forced
  have key : ∀ τ : Asg, Models τ f as → (usePure = true → ∀ p ∈ pureUnits f as n, litTrue τ p = true) →
      cnfTrue τ (f ++ as.map (fun a => [a]) ++
        (if usePure then (pureUnits f as n).map (fun p => [p]) else []) ++ ever) = true := by
    intro τ hτ hp
    have hf : cnfTrue τ f = true := cnfTrue_iff.2 hτ.1
    rw [cnfTrue_iff]
    intro c hc
    rcases List.mem_append.1 hc with hc | hc
    · rcases List.mem_append.1 hc with hc | hc
      · rcases List.mem_append.1 hc with hc | hc
        · exact hτ.1 c hc
        · obtain ⟨a, ha, rfl⟩ := List.mem_map.1 hc
          exact ⟨a, by simp, hτ.2 a ha⟩
      · split at hc
        · rename_i hu
          obtain ⟨p, hp', rfl⟩ := List.mem_map.1 hc
          exact ⟨p, by simp, hp hu p hp'⟩
        · cases hc
    · exact clauseTrue_iff.1 (hever c hc τ hf)
  by_cases hu : usePure = true
  · exact ⟨_, key _ (models_forcePure n hσ) (fun _ p hp => litTrue_forcePure_self hp)⟩
  · exact ⟨σ, key σ hσ (fun h => absurd h hu)⟩

end Solvor.Sat
