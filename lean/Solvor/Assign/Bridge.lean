import Solvor.Assign.Lemmas
/-! Assign: bridge between the list data the driver handles (`List Int` assignments, `List Rat`
potentials, `Mat`) and the mathematical objects of `Spec.lean`. -/
namespace Solvor.Assign
open Finset

theorem list_sum_range {M : Type} [AddCommMonoid M] (f : ℕ → M) (n : ℕ) :
    ((List.range n).map f).sum = ∑ i : Fin n, f i := by
  rw [← Finset.sum_range]; rfl

theorem length_filter_range (p : ℕ → Bool) (n : ℕ) :
    ((List.range n).filter p).length = #(univ.filter fun i : Fin n => p i = true) := by
  rw [Finset.card_filter, ← Finset.sum_range (fun i => if p i = true then 1 else 0), ← Finset.card_filter]
  show _ = (List.filter (fun x => decide (p x = true)) (List.range n)).length
  simp only [Bool.decide_eq_true]

theorem sum_getD (l : List ℚ) (n : ℕ) (hl : l.length = n) : l.sum = ∑ i : Fin n, l.getD i 0 := by
  subst hl
  rw [← Fin.sum_univ_getElem]
  refine Finset.sum_congr rfl fun i _ => ?_
  simp [List.getD_eq_getElem?_getD]

/-- the matching denoted by an `assignment` list -/
def toM (r k : ℕ) (asg : List Int) : Fin r → Option (Fin k) := fun i =>
  if h : 0 ≤ asg.getD i (-1) ∧ asg.getD i (-1) < (k : Int) then
    some ⟨(asg.getD i (-1)).toNat, by omega⟩ else none

/-- a cost function given on naturals, restricted to the `r × k` index range -/
def cF (r k : ℕ) (C : ℕ → ℕ → ℚ) : Fin r → Fin k → ℚ := fun i j => C i j

theorem validAsgB_iff (r k : ℕ) (asg : List Int) : validAsgB r k asg = true ↔ ValidAsg r k asg := by
  unfold validAsgB
  simp only [Bool.and_eq_true, beq_iff_eq, List.all_eq_true, List.mem_range, Bool.or_eq_true,
    decide_eq_true_eq, bne_iff_ne, ne_eq]
  constructor
  · rintro ⟨⟨⟨h1, h2⟩, h3⟩, h4⟩
    exact ⟨h1, h2, fun i hi j hj hne heq => (h3 i hi j hj).resolve_left fun h => h.elim hne (· heq), h4⟩
  · intro h
    refine ⟨⟨⟨h.len, h.rng⟩, fun i hi j hj => ?_⟩, h.card⟩
    by_cases hne : asg.getD i (-1) = -1
    · exact Or.inl (Or.inl hne)
    · by_cases heq : asg.getD i (-1) = asg.getD j (-1)
      · exact Or.inr (h.inj i hi j hj hne heq)
      · exact Or.inl (Or.inr heq)

theorem chkAssignment_iff (m : Mat) (mn : Bool) (mx : ℚ) (asg : List Int) (u v : List ℚ) :
    chkAssignment m mn mx asg u v = true ↔
      ValidAsg (nRows m) (nCols m) asg ∧ u.length = max (nRows m) (nCols m) ∧
      v.length = max (nRows m) (nCols m) ∧
      (∀ i, i < max (nRows m) (nCols m) → ∀ j, j < max (nRows m) (nCols m) →
        u.getD i 0 + v.getD j 0 ≤ padded m mn mx i j) ∧
      tObjOf m mn mx asg = u.sum + v.sum := by
  unfold chkAssignment dualFeasB
  simp only [Bool.and_eq_true, beq_iff_eq, validAsgB_iff, List.all_eq_true, List.mem_range,
    decide_eq_true_eq, and_assoc]

/-- the proposition of `ValidAsg.rng` -/
abbrev InRange (r k : ℕ) (asg : List Int) : Prop :=
  ∀ i, i < r → asg.getD i (-1) = -1 ∨ (0 ≤ asg.getD i (-1) ∧ asg.getD i (-1) < (k : Int))

section ToM
variable {r k : ℕ} {asg : List Int}

theorem toM_none (i : Fin r) (h : asg.getD i (-1) = -1) : toM r k asg i = none :=
  dif_neg (by rw [h]; omega)

theorem toM_some (i : Fin r) (h : 0 ≤ asg.getD i (-1) ∧ asg.getD i (-1) < (k : Int)) :
    toM r k asg i = some ⟨(asg.getD i (-1)).toNat, by omega⟩ :=
  dif_pos h

variable (hrng : InRange r k asg)
include hrng

theorem toM_eq_some_iff (i : Fin r) (j : Fin k) :
    toM r k asg i = some j ↔ asg.getD i (-1) = (j.val : Int) := by
  rcases hrng i i.2 with h | h
  · rw [toM_none i h, h]
    exact ⟨nofun, fun e => by omega⟩
  · rw [toM_some i h, Option.some.injEq, Fin.ext_iff]
    show (asg.getD i (-1)).toNat = j.val ↔ _
    omega

theorem msize_toM_count :
    msize (toM r k asg) = ((List.range r).filter fun i => asg.getD i (-1) != -1).length := by
  rw [length_filter_range]
  unfold msize
  congr 1
  ext i
  simp only [mem_filter, mem_univ, true_and]
  rcases hrng i i.2 with h | h
  · rw [toM_none i h, h]; rfl
  · rw [toM_some i h, (bne_iff_ne.2 (by omega) : (asg.getD i (-1) != -1) = true)]; rfl

theorem toM_mcost (C : ℕ → ℕ → ℚ) :
    mcost (cF r k C) (toM r k asg)
      = ((List.range r).map fun i => if asg.getD i (-1) = -1 then 0 else C i (asg.getD i (-1)).toNat).sum := by
  rw [list_sum_range]
  unfold mcost
  refine Finset.sum_congr rfl fun i _ => ?_
  rcases hrng i i.2 with h | h
  · rw [toM_none i h, if_pos h]; rfl
  · rw [toM_some i h, if_neg (by omega)]; rfl

end ToM

/-- on entries in range the guard `assignment[i] < n_cols` of the code's `total_cost` loop is idle -/
theorem totalCost_eq_objOf (m : Mat) {asg : List Int}
    (hrng : InRange (nRows m) (nCols m) asg) :
    totalCost m asg = objOf m asg := by
  unfold totalCost objOf
  refine congrArg List.sum (List.map_congr_left fun i hi => ?_)
  rcases hrng i (List.mem_range.1 hi) with h | h
  · simp only [h, ne_eq, not_true_eq_false, false_and, if_false, if_true]
  · have : asg.getD i (-1) ≠ -1 := by omega
    simp only [ne_eq, this, not_false_eq_true, h.2, and_self, if_true, if_false]

theorem objOf_eq_mcost (m : Mat) {asg : List Int}
    (hrng : InRange (nRows m) (nCols m) asg) :
    objOf m asg = mcost (cF (nRows m) (nCols m) (cell m)) (toM (nRows m) (nCols m) asg) := by
  rw [toM_mcost hrng]; rfl

theorem toM_isMatching {r k : ℕ} {asg : List Int} (h : ValidAsg r k asg) : IsMatching (toM r k asg) := by
  intro i i' j h1 h2
  rw [toM_eq_some_iff h.rng] at h1 h2
  exact Fin.ext (h.inj i i.2 i' i'.2 (by omega) (h1.trans h2.symm))

theorem toM_msize {r k : ℕ} {asg : List Int} (h : ValidAsg r k asg) : msize (toM r k asg) = min r k :=
  (msize_toM_count h.rng).trans h.card

def ofM {r k : ℕ} (m : Fin r → Option (Fin k)) : List Int :=
  (List.finRange r).map fun i => (m i).elim (-1) (fun j => (j.val : Int))

theorem ofM_getD {r k : ℕ} (m : Fin r → Option (Fin k)) (i : Fin r) :
    (ofM m).getD i (-1) = (m i).elim (-1) (fun j => (j.val : Int)) := by
  unfold ofM
  simp [List.getD_eq_getElem?_getD]

theorem validAsg_of_getD {r k : ℕ} {asg : List Int} {m : Fin r → Option (Fin k)} (hlen : asg.length = r)
    (h : ∀ i : Fin r, asg.getD i (-1) = (m i).elim (-1) (fun j => (j.val : Int)))
    (hm : IsMatching m) (hsz : msize m = min r k) : ValidAsg r k asg ∧ toM r k asg = m := by
  have hrng : InRange r k asg := fun i hi => by
    rw [h ⟨i, hi⟩]
    cases m ⟨i, hi⟩ with
    | none => exact Or.inl rfl
    | some j => exact Or.inr ⟨Int.natCast_nonneg _, Int.ofNat_lt.2 j.2⟩
  have htoM : toM r k asg = m := funext fun i => by
    have hg := h i
    cases hm : m i with
    | none => rw [hm] at hg; exact toM_none i hg
    | some j => rw [hm] at hg; exact (toM_eq_some_iff hrng i j).2 hg
  subst htoM
  refine ⟨⟨hlen, hrng, fun i hi j hj hne heq => ?_, (msize_toM_count hrng).symm.trans hsz⟩, rfl⟩
  have hri := (hrng i hi).resolve_left hne
  have h2 : toM r k asg ⟨j, hj⟩ = some ⟨(asg.getD i (-1)).toNat, by omega⟩ :=
    (toM_eq_some_iff hrng _ _).2 (by rw [← heq]; exact (Int.toNat_of_nonneg hri.1).symm)
  exact congrArg Fin.val (hm _ _ _ (toM_some ⟨i, hi⟩ hri) h2)

theorem padded_eq_pad (m : Mat) (mn : Bool) (mx : ℚ) (n : ℕ) (i j : Fin n) :
    padded m mn mx i j = pad n (cF (nRows m) (nCols m) (padded m mn mx)) i j := by
  unfold pad cF
  by_cases h : i.val < nRows m ∧ j.val < nCols m
  · rw [dif_pos h]
  · rw [dif_neg h]; unfold padded; rw [if_neg h]

theorem cF_padded_min (m : Mat) (mx : ℚ) :
    cF (nRows m) (nCols m) (padded m true mx) = cF (nRows m) (nCols m) (cell m) := by
  funext i j
  simp [cF, padded, i.2, j.2]

theorem cF_padded_max (m : Mat) (mx : ℚ) :
    cF (nRows m) (nCols m) (padded m false mx) = fun i j => mx - cF (nRows m) (nCols m) (cell m) i j := by
  funext i j
  simp [cF, padded, i.2, j.2]

end Solvor.Assign
