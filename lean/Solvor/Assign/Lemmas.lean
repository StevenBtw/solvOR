import Solvor.Assign.Spec
import Mathlib.Algebra.Order.BigOperators.Group.Finset
import Mathlib.Algebra.BigOperators.Fin
import Mathlib.Data.Fintype.Sum
import Mathlib.Data.Fintype.Fin
import Mathlib.Tactic.Linarith
import Mathlib.Tactic.Ring
/-! Assign: permutations of the padded square against matchings of the rectangle. -/
namespace Solvor.Assign
open Finset

variable {r k n : ℕ}

theorem dual_bound (a : Fin n → Fin n → ℚ) (u v : Fin n → ℚ) (h : ∀ i j, u i + v j ≤ a i j)
    (τ : Equiv.Perm (Fin n)) : ∑ i, u i + ∑ j, v j ≤ ∑ i, a i (τ i) := by
  have h1 : ∑ i, (u i + v (τ i)) ≤ ∑ i, a i (τ i) := Finset.sum_le_sum fun i _ => h i (τ i)
  have h2 : ∑ i, v (τ i) = ∑ j, v j := Equiv.sum_comp τ v
  rw [Finset.sum_add_distrib, h2] at h1
  exact h1

theorem restrict_eq_some {hr : r ≤ n} {σ : Equiv.Perm (Fin n)} {i : Fin r} {j : Fin k} :
    restrict (k := k) hr σ i = some j ↔ (σ ⟨i, lt_of_lt_of_le i.2 hr⟩).val = j.val := by
  unfold restrict
  split
  · exact ⟨fun h => congrArg Fin.val (Option.some.inj h), fun h => congrArg some (Fin.ext h)⟩
  · exact ⟨fun h => (nomatch h), fun h => absurd (h ▸ j.2) ‹_›⟩

theorem restrict_isSome (hr : r ≤ n) (σ : Equiv.Perm (Fin n)) (i : Fin r) :
    (restrict (k := k) hr σ i).isSome = true ↔ (σ ⟨i, lt_of_lt_of_le i.2 hr⟩).val < k := by
  unfold restrict
  split
  · exact ⟨fun _ => ‹_›, fun _ => rfl⟩
  · exact ⟨fun h => (nomatch h), fun h => absurd h ‹_›⟩

theorem restrict_isMatching (hr : r ≤ n) (σ : Equiv.Perm (Fin n)) :
    IsMatching (restrict (k := k) hr σ) := fun _ _ _ h1 h2 =>
  Fin.ext (Fin.mk.inj (σ.injective (Fin.ext ((restrict_eq_some.1 h1).trans (restrict_eq_some.1 h2).symm))))

theorem mcost_restrict (hr : r ≤ n) (c : Fin r → Fin k → ℚ) (σ : Equiv.Perm (Fin n)) :
    mcost c (restrict hr σ) = ∑ i, pad n c i (σ i) := by
  refine Fintype.sum_of_injective (Fin.castLE hr) (Fin.castLE_injective hr) _ _ (fun i hi => ?_) fun i => ?_
  · exact dif_neg fun h => hi ⟨⟨i, h.1⟩, rfl⟩
  · show (restrict hr σ i).elim 0 (c i) = pad n c ⟨i, lt_of_lt_of_le i.2 hr⟩ (σ ⟨i, lt_of_lt_of_le i.2 hr⟩)
    unfold restrict pad
    by_cases hk : (σ ⟨i, lt_of_lt_of_le i.2 hr⟩).val < k
    · rw [dif_pos hk, dif_pos ⟨i.2, hk⟩]; rfl
    · rw [dif_neg hk, dif_neg fun h => hk h.2]; rfl

theorem msize_restrict (hn : n = max r k) (hr : r ≤ n) (σ : Equiv.Perm (Fin n)) :
    msize (restrict (k := k) hr σ) = min r k := by
  unfold msize
  rcases le_total r k with h | h
  · -- n = k: every real row meets a real column
    have hnk : n = k := by rw [hn, max_eq_right h]
    rw [min_eq_left h, Finset.filter_true_of_mem fun i _ =>
      (restrict_isSome hr σ i).2 (lt_of_lt_of_eq (σ _).2 hnk), Finset.card_univ, Fintype.card_fin]
  · -- n = r: every real column is met by exactly one (real) row
    have hnr : n = r := by rw [hn, max_eq_left h]
    subst hnr
    rw [min_eq_right h, Finset.card_equiv σ (t := univ.filter fun j : Fin n => j.val < k) fun i => by
      simp only [mem_filter, mem_univ, true_and]; exact restrict_isSome hr σ i, Fin.card_filter_val_lt]
    exact min_eq_right h

theorem matching_eq_of_le {m m' : Fin r → Option (Fin k)}
    (hle : ∀ i j, m i = some j → m' i = some j) (hsz : msize m' ≤ msize m) : m = m' := by
  have hsub : (univ.filter fun i : Fin r => (m i).isSome) ⊆ univ.filter fun i : Fin r => (m' i).isSome := by
    intro i hi
    simp only [mem_filter, mem_univ, true_and] at hi ⊢
    obtain ⟨j, hj⟩ := Option.isSome_iff_exists.1 hi
    rw [hle i j hj]; rfl
  have heq := eq_of_subset_of_card_le hsub hsz
  funext i
  cases hm : m i with
  | some j => exact (hle i j hm).symm
  | none =>
    cases hm' : m' i with
    | none => rfl
    | some j =>
      have : i ∈ (univ.filter fun i : Fin r => (m' i).isSome) := by
        rw [mem_filter, hm']; exact ⟨mem_univ i, rfl⟩
      rw [← heq, mem_filter, hm] at this
      cases this.2

theorem matching_extend (hr : r ≤ n) (hk : k ≤ n) (m : Fin r → Option (Fin k)) (hm : IsMatching m) :
    ∃ σ : Equiv.Perm (Fin n), ∀ i j, m i = some j → restrict hr σ i = some j := by
  classical
  let f : Fin n → Fin n := fun x =>
    if h : x.val < r then (m ⟨x, h⟩).elim x (fun j => ⟨j, lt_of_lt_of_le j.2 hk⟩) else x
  let s : Finset (Fin n) := univ.filter fun x => ∃ h : x.val < r, (m ⟨x, h⟩).isSome
  have hinj : Set.InjOn f s := by
    intro x hx y hy hxy
    simp only [s, coe_filter, mem_univ, true_and, Set.mem_ofPred_eq] at hx hy
    obtain ⟨hxr, hxs⟩ := hx
    obtain ⟨hyr, hys⟩ := hy
    obtain ⟨jx, hjx⟩ := Option.isSome_iff_exists.1 hxs
    obtain ⟨jy, hjy⟩ := Option.isSome_iff_exists.1 hys
    simp only [f, dif_pos hxr, dif_pos hyr, hjx, hjy, Option.elim_some] at hxy
    have hj : jx = jy := Fin.ext (by simpa using congrArg Fin.val hxy)
    subst hj
    have := hm _ _ _ hjx hjy
    exact Fin.ext (by simpa using congrArg Fin.val this)
  obtain ⟨g, hg⟩ := Finset.exists_equiv_extend_of_card_eq (t := (univ : Finset (Fin n)))
    Finset.card_univ.symm (s := s) (f := f) (Finset.subset_univ _) hinj
  refine ⟨g.trans (Equiv.subtypeUnivEquiv (fun x => mem_univ x)), ?_⟩
  intro i j hij
  have hin : i.val < n := lt_of_lt_of_le i.2 hr
  have hmem : (⟨i, hin⟩ : Fin n) ∈ s := by
    simp only [s, mem_filter, mem_univ, true_and]
    exact ⟨i.2, by simp [hij]⟩
  refine restrict_eq_some.2 ?_
  show (g ⟨i, hin⟩ : Fin n).val = j.val
  rw [hg _ hmem]
  simp only [f, dif_pos i.2, Fin.eta, hij, Option.elim_some]

theorem matching_eq_restrict (hn : n = max r k) (hr : r ≤ n) {m : Fin r → Option (Fin k)}
    (hm : IsMatching m) (hsz : msize m = min r k) : ∃ σ : Equiv.Perm (Fin n), m = restrict hr σ := by
  obtain ⟨σ, hσ⟩ := matching_extend hr (hn ▸ le_max_right r k) m hm
  exact ⟨σ, matching_eq_of_le hσ (by rw [msize_restrict hn, hsz])⟩

theorem mcost_compl (c : Fin r → Fin k → ℚ) (mx : ℚ) (m : Fin r → Option (Fin k)) :
    mcost (fun i j => mx - c i j) m = (msize m : ℚ) * mx - mcost c m := by
  unfold mcost msize
  rw [Finset.card_filter, Nat.cast_sum, Finset.sum_mul, ← Finset.sum_sub_distrib]
  refine Finset.sum_congr rfl fun i _ => ?_
  cases m i <;> simp

theorem assignment_optimal (hn : n = max r k) (c : Fin r → Fin k → ℚ) (U V : Fin n → ℚ)
    (hfeas : ∀ i j, U i + V j ≤ pad n c i j) (M : Fin r → Option (Fin k))
    (hM : mcost c M = ∑ i, U i + ∑ j, V j) :
    ∀ m' : Fin r → Option (Fin k), IsMatching m' → msize m' = min r k → mcost c M ≤ mcost c m' := by
  intro m' hm' hsz
  have hr : r ≤ n := by rw [hn]; exact le_max_left r k
  obtain ⟨σ, rfl⟩ := matching_eq_restrict hn hr hm' hsz
  rw [hM, mcost_restrict]
  exact dual_bound _ U V hfeas σ

end Solvor.Assign
