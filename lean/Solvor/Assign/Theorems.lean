import Solvor.Assign.Certify
/-! Assign: the property theorems of C10. -/
namespace Solvor.Assign
open Finset

variable {r k n : ℕ}

/-- C10, the certificate: feasible potentials that are tight on a perfect matching of the square prove it optimal. -/
theorem potentials_cert (a : Fin n → Fin n → ℚ) (u v : Fin n → ℚ) (σ : Equiv.Perm (Fin n))
    (hfeas : ∀ i j, u i + v j ≤ a i j) (htight : ∀ i, u i + v (σ i) = a i (σ i)) :
    ∀ τ : Equiv.Perm (Fin n), ∑ i, a i (σ i) ≤ ∑ i, a i (τ i) := by
  intro τ
  have h1 : ∑ i, a i (σ i) = ∑ i, u i + ∑ j, v j := by
    rw [← Equiv.sum_comp σ v, ← Finset.sum_add_distrib]
    exact Finset.sum_congr rfl fun i _ => (htight i).symm
  rw [h1]
  exact dual_bound a u v hfeas τ

/-- non-vacuity: a 2×2 instance with non-trivial potentials meeting the hypotheses -/
example : ∃ (a : Fin 2 → Fin 2 → ℚ) (u v : Fin 2 → ℚ) (σ : Equiv.Perm (Fin 2)),
    (∀ i j, u i + v j ≤ a i j) ∧ (∀ i, u i + v (σ i) = a i (σ i)) ∧ σ 0 = 1 :=
  ⟨fun i j => if i = j then 5 else 2, fun _ => 1, fun _ => 1, Equiv.swap 0 1, by decide +kernel⟩

/-- C10, why `solve_hungarian` may pad to a square and maximise through `max_val - c`: permutations of the
zero-padded square and matchings of size `min r k` correspond with equal cost (1, 2), so the two optima are the same;
at that size the cost under `mx - c` is `min r k * mx` minus the cost under `c` (3), so minimising the one maximises
the other. -/
theorem padding_sound (c : Fin r → Fin k → ℚ) :
    (∀ σ : Equiv.Perm (Fin (max r k)), ∃ m : Fin r → Option (Fin k),
        IsMatching m ∧ msize m = min r k ∧ mcost c m = ∑ i, pad (max r k) c i (σ i)) ∧
    (∀ m : Fin r → Option (Fin k), IsMatching m → msize m = min r k →
        ∃ σ : Equiv.Perm (Fin (max r k)), ∑ i, pad (max r k) c i (σ i) = mcost c m) ∧
    (∀ (mx : ℚ) (m : Fin r → Option (Fin k)), msize m = min r k →
        mcost (fun i j => mx - c i j) m = (min r k : ℕ) * mx - mcost c m) := by
  refine ⟨fun σ => ⟨restrict (le_max_left r k) σ, restrict_isMatching _ σ, msize_restrict rfl _ σ,
    mcost_restrict _ c σ⟩, ?_, ?_⟩
  · intro m hm hsz
    obtain ⟨σ, rfl⟩ := matching_eq_restrict rfl (le_max_left r k) hm hsz
    exact ⟨σ, (mcost_restrict _ c σ).symm⟩
  · intro mx m hsz
    rw [mcost_compl, hsz]

/-- an optimal permutation of the padded square restricts to a minimum-cost matching of size `min r k` -/
theorem padding_optimum (c : Fin r → Fin k → ℚ) (σ : Equiv.Perm (Fin (max r k)))
    (hσ : ∀ τ : Equiv.Perm (Fin (max r k)), ∑ i, pad (max r k) c i (σ i) ≤ ∑ i, pad (max r k) c i (τ i)) :
    IsMatching (restrict (k := k) (le_max_left r k) σ) ∧
    msize (restrict (k := k) (le_max_left r k) σ) = min r k ∧
    ∀ m' : Fin r → Option (Fin k), IsMatching m' → msize m' = min r k →
      mcost c (restrict (le_max_left r k) σ) ≤ mcost c m' := by
  refine ⟨restrict_isMatching _ σ, msize_restrict rfl _ σ, fun m' hm' hsz => ?_⟩
  obtain ⟨τ, hτ⟩ := (padding_sound c).2.1 m' hm' hsz
  rw [mcost_restrict, ← hτ]
  exact hσ τ

/-- non-vacuity of `padding_optimum`: `[[5, 2], [2, 5]]`, the swap is optimal (certified by
potentials), its real cells cost 4 -/
example : ∃ (c : Fin 2 → Fin 2 → ℚ) (σ : Equiv.Perm (Fin (max 2 2))),
    (∀ τ : Equiv.Perm (Fin (max 2 2)), ∑ i, pad (max 2 2) c i (σ i) ≤ ∑ i, pad (max 2 2) c i (τ i)) ∧
    mcost c (restrict (le_max_left 2 2) σ) = 4 := by
  refine ⟨fun i j => if i = j then 5 else 2, (Equiv.swap (0 : Fin 2) 1 : Equiv.Perm (Fin 2)), ?_, ?_⟩
  · exact potentials_cert (n := 2) _ (fun _ => 1) (fun _ => 1) _ (by decide +kernel) (by decide +kernel)
  · decide +kernel

/-- an optimal permutation of the padded square of `mx - c` restricts to a maximum-cost matching of size
`min r k` (`minimize=False`) -/
theorem padding_optimum_max (c : Fin r → Fin k → ℚ) (mx : ℚ) (σ : Equiv.Perm (Fin (max r k)))
    (hσ : ∀ τ : Equiv.Perm (Fin (max r k)),
      ∑ i, pad (max r k) (fun i j => mx - c i j) i (σ i) ≤ ∑ i, pad (max r k) (fun i j => mx - c i j) i (τ i)) :
    ∀ m' : Fin r → Option (Fin k), IsMatching m' → msize m' = min r k →
      mcost c m' ≤ mcost c (restrict (le_max_left r k) σ) := by
  intro m' hm' hsz
  have h := (padding_optimum (fun i j => mx - c i j) σ hσ).2.2 m' hm' hsz
  rw [mcost_compl, mcost_compl, hsz, msize_restrict rfl] at h
  linarith

/-- non-vacuity of `padding_optimum_max`: `[[1, 4], [4, 1]]` with `mx = 4`, the swap is optimal
for `mx - c` -/
example : ∃ (c : Fin 2 → Fin 2 → ℚ) (mx : ℚ) (σ : Equiv.Perm (Fin (max 2 2))),
    (∀ τ : Equiv.Perm (Fin (max 2 2)), ∑ i, pad (max 2 2) (fun i j => mx - c i j) i (σ i)
        ≤ ∑ i, pad (max 2 2) (fun i j => mx - c i j) i (τ i)) := by
  refine ⟨fun i j => if i = j then 1 else 4, 4, (Equiv.swap (0 : Fin 2) 1 : Equiv.Perm (Fin 2)), ?_⟩
  exact potentials_cert (n := 2) _ (fun _ => 0) (fun _ => 0) _ (by decide +kernel) (by decide +kernel)

/-- non-vacuity of `padding_sound`: a 2×3 matrix with a negative entry; the
matching `0 ↦ 2, 1 ↦ 0` has size `min 2 3` -/
example : ∃ (c : Fin 2 → Fin 3 → ℚ) (m : Fin 2 → Option (Fin 3)),
    IsMatching m ∧ msize m = min 2 3 ∧ mcost c m = -3 :=
  ⟨fun i j => (i.val : ℚ) - 2 * j.val, fun i => if i = 0 then some 2 else some 0, by
    unfold IsMatching; decide, by unfold msize; decide, by unfold mcost; decide +kernel⟩

/-- T-spec of C10 (the checker the driver evaluates on the implementation's assignment with the mirror's
potentials): what `chkAssignment` accepts is a matching of size `min rows cols` that is optimal, in the sense
`minimize` asks for, over *all* matchings of that size. -/
theorem chkAssignment_sound (m : Mat) (mn : Bool) (mx : ℚ) (asg : List Int) (u v : List ℚ)
    (h : chkAssignment m mn mx asg u v = true) :
    ValidAsg (nRows m) (nCols m) asg ∧
    ∀ m' : Fin (nRows m) → Option (Fin (nCols m)), IsMatching m' →
      msize m' = min (nRows m) (nCols m) →
      if mn = true then objOf m asg ≤ mcost (cF _ _ (cell m)) m'
      else mcost (cF _ _ (cell m)) m' ≤ objOf m asg := by
  obtain ⟨hV, hu, hvl, hfeas, hobj⟩ := (chkAssignment_iff m mn mx asg u v).1 h
  refine ⟨hV, fun m' hm' hsz => ?_⟩
  have key := assignment_optimal rfl (cF _ _ (padded m mn mx)) (fun i => u.getD i 0) (fun j => v.getD j 0)
    (fun i j => by rw [← padded_eq_pad]; exact hfeas i i.2 j j.2) (toM _ _ asg)
    (by rw [toM_mcost hV.rng, ← sum_getD u _ hu, ← sum_getD v _ hvl, ← hobj]; rfl) m' hm' hsz
  rw [objOf_eq_mcost m hV.rng]
  cases mn with
  | true => rw [cF_padded_min] at key; exact key
  | false =>
    rw [cF_padded_max, mcost_compl, mcost_compl, hsz, toM_msize hV] at key
    rw [if_neg Bool.false_ne_true]
    linarith

/-- list form: no valid `assignment` list does better -/
theorem chkAssignment_optimal (m : Mat) (mn : Bool) (mx : ℚ) (asg : List Int) (u v : List ℚ)
    (h : chkAssignment m mn mx asg u v = true) (asg' : List Int)
    (h' : ValidAsg (nRows m) (nCols m) asg') :
    if mn = true then objOf m asg ≤ objOf m asg' else objOf m asg' ≤ objOf m asg := by
  have := (chkAssignment_sound m mn mx asg u v h).2 (toM _ _ asg') (toM_isMatching h') (toM_msize h')
  rw [objOf_eq_mcost m h'.rng]; exact this

/-- the list encoding loses nothing -/
theorem validAsg_ofM (m : Fin r → Option (Fin k)) (hm : IsMatching m) (hsz : msize m = min r k) :
    ValidAsg r k (ofM m) ∧ toM r k (ofM m) = m :=
  validAsg_of_getD (by simp [ofM]) (ofM_getD m) hm hsz

/-- non-vacuity of `validAsg_ofM` -/
example : ValidAsg 2 3 (ofM (fun i : Fin 2 => if i = 0 then some (2 : Fin 3) else some 0)) :=
  (validAsg_ofM _ (by unfold IsMatching; decide) (by unfold msize; decide)).1

/-- non-vacuity of `chkAssignment_sound`: the example in the docstring of `solvor/hungarian.py`, with the
potentials the mirror computes, is accepted -/
example : chkAssignment [[10, 5, 13], [3, 9, 18], [10, 6, 12]] true 18 [1, 0, 2] [11, 5, 12] [-2, -6, 0] = true := by
  decide +kernel
example : (hungarian [[10, 5, 13], [3, 9, 18], [10, 6, 12]] true).asg = [1, 0, 2] := by decide +kernel

/-- [S] of C10, the loop invariant: on every cost matrix with a row and a column, either sense, the mirror of
`solve_hungarian` ends within its fuel (`stuck = false`) and what it returns passes the verified checker. -/
theorem hungarian_certifies (m : Mat) (mn : Bool) (hr : nRows m ≠ 0) (hk : nCols m ≠ 0) :
    chkAssignment m mn (maxVal m) (hungarian m mn).asg (hungarian m mn).u (hungarian m mn).v = true ∧
    (hungarian m mn).stuck = false := by
  unfold hungarian
  rw [if_neg (by rintro (h | h) <;> contradiction)]
  simp only
  obtain ⟨hinv, hst⟩ := runRows_inv (fun i j => padded m mn (maxVal m) (i - 1) (j - 1))
    (max (nRows m) (nCols m))
  exact ⟨chk_of_inv m mn hinv, hst⟩

/-- C10 for the mirror, on every cost matrix with a row and a column (the others: `hungarian_empty`): its assignment
is a matching of size `min rows cols`, the reported objective is the cost of that matching, and it is optimal over all
matchings of that size. -/
theorem hungarian_optimal (m : Mat) (mn : Bool) (hr : nRows m ≠ 0) (hk : nCols m ≠ 0) :
    ValidAsg (nRows m) (nCols m) (hungarian m mn).asg ∧
    (hungarian m mn).obj = objOf m (hungarian m mn).asg ∧
    ∀ m' : Fin (nRows m) → Option (Fin (nCols m)), IsMatching m' →
      msize m' = min (nRows m) (nCols m) →
      if mn = true then (hungarian m mn).obj ≤ mcost (cF _ _ (cell m)) m'
      else mcost (cF _ _ (cell m)) m' ≤ (hungarian m mn).obj := by
  obtain ⟨hV, hopt⟩ := chkAssignment_sound m mn (maxVal m) _ _ _ (hungarian_certifies m mn hr hk).1
  have hobj : (hungarian m mn).obj = objOf m (hungarian m mn).asg := by
    have e : (hungarian m mn).obj = totalCost m (hungarian m mn).asg := by
      unfold hungarian
      rw [if_neg (by rintro (h | h) <;> contradiction)]
    rw [e, totalCost_eq_objOf m hV.rng]
  refine ⟨hV, hobj, ?_⟩
  rw [hobj]
  exact hopt

/-- the degenerate shapes (`[]`, `[[]]`, `[[], []]`): the early return of the code -/
theorem hungarian_empty (m : Mat) (mn : Bool) (h : nRows m = 0 ∨ nCols m = 0) :
    (hungarian m mn).asg = [] ∧ (hungarian m mn).obj = 0 := by
  unfold hungarian
  rw [if_pos h]
  exact ⟨rfl, rfl⟩

/-- non-vacuity of `hungarian_certifies`/`hungarian_optimal`: a 2×3 matrix with negative and fractional entries,
maximised -/
example : nRows [[-1, 5/2, 3], [4, -2, 5]] ≠ 0 ∧ nCols [[-1, 5/2, 3], [4, -2, 5]] ≠ 0 ∧
    (hungarian [[-1, 5/2, 3], [4, -2, 5]] false).asg = [1, 2] ∧
    (hungarian [[-1, 5/2, 3], [4, -2, 5]] false).obj = 15/2 := by decide +kernel

end Solvor.Assign
