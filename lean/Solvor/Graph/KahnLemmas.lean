import Solvor.Graph.Lemmas
/-! Graph: the Kahn mirror (`kahn`), core Lean only: a non-empty set closed under taking a predecessor holds a node on a cycle;
the invariant `KInv` holds at every point of the loop (one `relax` is one step), and its two exits give a topological order
(all nodes output) or a cycle (some left). -/
namespace Solvor.Graph

open Classical in
theorem exists_cycle_of_pred_closed {adj : Adj} {S : List Nat} (hne : S ≠ [])
    (hp : ∀ x ∈ S, ∃ p ∈ S, x ∈ adj p) : ∃ v ∈ S, OnCycle adj v := by
  apply Classical.byContradiction
  intro hno
  -- otherwise the number of nodes of `S` that reach `x` drops strictly from `x` to a predecessor (`x` reaches `x`, not the
  -- predecessor), for ever
  let anc : Nat → Nat := fun x => S.countP fun y => decide (Reach adj y x)
  have key : ∀ n, ∀ x ∈ S, anc x = n → False := by
    intro n
    induction n using Nat.strongRecOn with
    | _ n ih =>
      intro x hx hn
      obtain ⟨p, hpS, hxp⟩ := hp x hx
      have hlt : anc p < anc x := by
        refine countP_lt_of_imp (fun y _ hy => ?_) hx (by simpa using Reach.refl x) ?_
        · have : Reach adj y p := by simpa using hy
          simpa using Reach.tail this hxp
        · have : ¬ Reach adj x p := fun hr => hno ⟨x, hx, onCycle_iff.2 ⟨p, hr, hxp⟩⟩
          simpa using this
      exact ih (anc p) (by omega) p hpS rfl
  cases S with
  | nil => exact hne rfl
  | cons a t => exact key _ a List.mem_cons_self rfl

theorem relax_fst (st : (Nat → Int) × List Nat) (w x : Nat) :
    (relax st w).1 x = if x = w then st.1 x - 1 else st.1 x := rfl

theorem relax_snd (st : (Nat → Int) × List Nat) (w : Nat) :
    (relax st w).2 = if st.1 w - 1 = 0 then st.2 ++ [w] else st.2 := by
  show (if (if w = w then st.1 w - 1 else st.1 w) = 0 then _ else _) = _
  rw [if_pos rfl]

/-- edge occurrences leaving the nodes not yet output -/
def pend (nodes : List Nat) (adj : Adj) (res : List Nat) : List Nat :=
  (nodes.filter fun u => !res.contains u).flatMap (adjIn nodes adj)

theorem pend_perm {nodes : List Nat} {adj : Adj} {res : List Nat} {v : Nat}
    (hn : nodes.Nodup) (hv : v ∈ nodes) (hvr : v ∉ res) :
    (pend nodes adj res).Perm (adjIn nodes adj v ++ pend nodes adj (res ++ [v])) := by
  unfold pend
  have hM : (nodes.filter fun u => !(res ++ [v]).contains u) =
      (nodes.filter fun u => !res.contains u).erase v := by
    rw [(hn.sublist List.filter_sublist).erase_eq_filter, List.filter_filter]
    apply List.filter_congr
    intro u _
    rw [List.contains_append, Bool.not_or, Bool.and_comm, List.contains_cons, List.contains_nil, Bool.or_false]
    rfl
  have hmem : v ∈ nodes.filter fun u => !res.contains u :=
    List.mem_filter.2 ⟨hv, by simpa using hvr⟩
  rw [hM, ← List.flatMap_cons]
  exact (List.perm_cons_erase hmem).flatMap_right _

/-- invariant of `kahnLoop` at every program point: at the head of the `while` (`ws = []`) and inside `for w in adjacency[v]`,
where `ws` are the successors of the node output last that are still to be relaxed; they count as pending edges. -/
structure KInv (nodes : List Nat) (adj : Adj) (ws : List Nat) (deg : Nat → Int) (q res : List Nat) : Prop where
  nodup  : (res ++ q).Nodup
  sub    : ∀ x ∈ res ++ q, x ∈ nodes
  wsub   : ∀ w ∈ ws, w ∈ nodes
  deg_eq : ∀ x, deg x = ((ws ++ pend nodes adj res).count x : Nat)
  zero   : ∀ x ∈ nodes, (x ∈ res ++ q ↔ x ∉ ws ++ pend nodes adj res)
  fwd    : ∀ w ∈ res, ∀ u ∈ nodes, w ∈ adjIn nodes adj u → u ∈ res ∧ res.idxOf u < res.idxOf w

/-- `in_degree[w] -= 1; if in_degree[w] == 0: queue.append(w)` -/
theorem KInv.step {nodes : List Nat} {adj : Adj} {w : Nat} {ws : List Nat} {st : (Nat → Int) × List Nat} {res : List Nat}
    (I : KInv nodes adj (w :: ws) st.1 st.2 res) : KInv nodes adj ws (relax st w).1 (relax st w).2 res := by
  have hwn : w ∈ nodes := I.wsub w List.mem_cons_self
  have hwq : w ∉ res ++ st.2 := fun h => (I.zero w hwn).1 h (List.mem_append_left _ List.mem_cons_self)
  have hz : st.1 w - 1 = 0 ↔ w ∉ ws ++ pend nodes adj res := by
    rw [I.deg_eq w, List.cons_append, List.count_cons_self, ← List.count_eq_zero]
    omega
  have hdeg : ∀ x, (relax st w).1 x = ((ws ++ pend nodes adj res).count x : Nat) := by
    intro x
    rw [relax_fst, I.deg_eq x, List.cons_append]
    by_cases hxw : x = w
    · rw [if_pos hxw, hxw, List.count_cons_self]
      omega
    · rw [if_neg hxw, List.count_cons_of_ne (Ne.symm hxw)]
  have hne : ∀ x ∈ nodes, x ≠ w → (x ∈ res ++ st.2 ↔ x ∉ ws ++ pend nodes adj res) := fun x hx hxw => by
    rw [I.zero x hx, List.cons_append, List.mem_cons, not_or]
    exact and_iff_right hxw
  have hws : ∀ x ∈ ws, x ∈ nodes := fun x hx => I.wsub x (List.mem_cons_of_mem _ hx)
  rw [relax_snd]
  by_cases h0 : st.1 w - 1 = 0
  · rw [if_pos h0]
    have hassoc : res ++ (st.2 ++ [w]) = (res ++ st.2) ++ [w] := (List.append_assoc _ _ _).symm
    refine { nodup := hassoc ▸ nodup_concat I.nodup hwq, sub := fun x hx => ?_, wsub := hws, deg_eq := hdeg, zero := fun x hx => ?_,
             fwd := I.fwd }
    · exact (List.mem_append.1 (hassoc ▸ hx)).elim (I.sub x) fun h => List.mem_singleton.1 h ▸ hwn
    · rw [hassoc, List.mem_append, List.mem_singleton]
      by_cases hxw : x = w
      · rw [hxw]
        exact iff_of_true (Or.inr rfl) (hz.1 h0)
      · rw [← hne x hx hxw]
        exact or_iff_left hxw
  · rw [if_neg h0]
    refine { nodup := I.nodup, sub := I.sub, wsub := hws, deg_eq := hdeg, zero := fun x hx => ?_, fwd := I.fwd }
    by_cases hxw : x = w
    · rw [hxw]
      exact iff_of_false hwq fun h => h0 (hz.2 h)
    · exact hne x hx hxw

theorem KInv.foldl {nodes : List Nat} {adj : Adj} {res : List Nat} : ∀ (ws : List Nat) (st : (Nat → Int) × List Nat),
    KInv nodes adj ws st.1 st.2 res → KInv nodes adj [] (ws.foldl relax st).1 (ws.foldl relax st).2 res
  | [], _, I => I
  | _ :: ws, _, I => KInv.foldl ws _ I.step

/-- `v = queue.popleft(); result.append(v)`: the edges out of `v` are the ones to be removed next -/
theorem KInv.pop {nodes : List Nat} {adj : Adj} (hn : nodes.Nodup) {deg : Nat → Int} {v : Nat} {q res : List Nat}
    (I : KInv nodes adj [] deg (v :: q) res) : KInv nodes adj (adjIn nodes adj v) deg q (res ++ [v]) := by
  have hvq : v ∈ res ++ v :: q := List.mem_append_right _ List.mem_cons_self
  have hvn : v ∈ nodes := I.sub v hvq
  have hvr : v ∉ res := fun h => (List.nodup_append.1 I.nodup).2.2 v h v List.mem_cons_self rfl
  have hlist : (res ++ [v]) ++ q = res ++ v :: q := List.append_cons res v q ▸ rfl
  have hperm := pend_perm (adj := adj) hn hvn hvr
  refine { nodup := hlist ▸ I.nodup, sub := hlist ▸ I.sub, wsub := fun w hw => mem_adjIn_nodes hw,
           deg_eq := fun x => (I.deg_eq x).trans (congrArg Nat.cast (hperm.count_eq x)),
           zero := fun x hx => hlist ▸ (I.zero x hx).trans (not_congr hperm.mem_iff), fwd := fun w hw u hu hwu => ?_ }
  rcases List.mem_append.1 hw with h | h
  · obtain ⟨hur, hlt⟩ := I.fwd w h u hu hwu
    rw [List.idxOf_append, if_pos hur, List.idxOf_append, if_pos h]
    exact ⟨List.mem_append_left _ hur, hlt⟩
  · rw [List.mem_singleton.1 h] at hwu ⊢
    -- no pending edge enters `v`, so an edge into `v` comes from `res`
    have hur : u ∈ res := Decidable.byContradiction fun hur => (I.zero v hvn).1 hvq
      (List.mem_flatMap.2 ⟨u, List.mem_filter.2 ⟨hu, by simpa using hur⟩, hwu⟩)
    rw [List.idxOf_append, if_pos hur, List.idxOf_append, if_neg hvr, List.idxOf_cons_self, Nat.zero_add]
    exact ⟨List.mem_append_left _ hur, List.idxOf_lt_length_of_mem hur⟩

theorem KInv.init {nodes : List Nat} {adj : Adj} (hn : nodes.Nodup) :
    KInv nodes adj [] (indeg0 nodes adj) (nodes.filter fun v => indeg0 nodes adj v == 0) [] := by
  have hpend : pend nodes adj [] = nodes.flatMap (adjIn nodes adj) := by
    unfold pend; congr 1; simp
  have hdeg : ∀ x, indeg0 nodes adj x = (([] ++ pend nodes adj []).count x : Nat) := by
    intro x; rw [List.nil_append, hpend]; rfl
  have hq : ∀ x, x ∈ nodes.filter (fun v => indeg0 nodes adj v == 0) ↔ x ∈ nodes ∧ indeg0 nodes adj x = 0 := by
    intro x; rw [List.mem_filter, beq_iff_eq]
  refine { nodup := hn.sublist List.filter_sublist, sub := fun x hx => ((hq x).1 hx).1, wsub := nofun, deg_eq := hdeg,
           zero := fun x hx => ?_, fwd := nofun }
  rw [List.nil_append, hq x, ← List.count_eq_zero, hdeg x]
  exact ⟨fun h => Int.ofNat_eq_zero.1 h.2, fun h => ⟨hx, Int.ofNat_eq_zero.2 h⟩⟩

theorem kahnLoop_inv {nodes : List Nat} {adj : Adj} (hn : nodes.Nodup) (fuel : Nat) :
    ∀ (deg : Nat → Int) (q res : List Nat), KInv nodes adj [] deg q res → nodes.length ≤ fuel + res.length →
      ∃ deg', KInv nodes adj [] deg' [] (kahnLoop nodes adj fuel deg q res) := by
  induction fuel with
  | zero =>
    intro deg q res I hl
    have h1 := I.nodup.length_le_of_subset (fun x hx => I.sub x hx)
    have hq : q = [] := by
      cases q with
      | nil => rfl
      | cons a t => simp at h1; omega
    subst hq
    exact ⟨deg, by simpa [kahnLoop] using I⟩
  | succ f ih =>
    intro deg q res I hl
    cases q with
    | nil => exact ⟨deg, by simpa [kahnLoop] using I⟩
    | cons v q =>
      simp only [kahnLoop]
      apply ih _ _ _ (KInv.foldl _ (deg, q) (I.pop hn))
      simp; omega

theorem KInv.final {nodes : List Nat} {adj : Adj} {deg : Nat → Int} {R : List Nat} (I : KInv nodes adj [] deg [] R) :
    R.Nodup ∧ R ⊆ nodes :=
  ⟨List.append_nil R ▸ I.nodup, fun x hx => I.sub x (List.mem_append_left _ hx)⟩

theorem KInv.final_topo {nodes : List Nat} {adj : Adj} (hn : nodes.Nodup) {deg : Nat → Int} {R : List Nat}
    (I : KInv nodes adj [] deg [] R) (hl : R.length = nodes.length) : IsTopoOrder nodes adj R := by
  obtain ⟨hnd, hsub⟩ := I.final
  have hsup : nodes ⊆ R := subset_of_nodup_length_ge hnd hsub (by omega)
  exact ⟨(List.perm_ext_iff_of_nodup hnd hn).2 fun a => ⟨fun h => hsub h, fun h => hsup h⟩,
    fun u hu w hw hwn => (I.fwd w (hsup hwn) u hu (mem_adjIn.2 ⟨hw, hwn⟩)).2⟩

theorem KInv.final_cyclic {nodes : List Nat} {adj : Adj} (hn : nodes.Nodup) {deg : Nat → Int} {R : List Nat}
    (I : KInv nodes adj [] deg [] R) (hl : R.length ≠ nodes.length) : Cyclic nodes adj := by
  obtain ⟨hnd, hsub⟩ := I.final
  have hle := hnd.length_le_of_subset hsub
  let S := nodes.filter fun u => !R.contains u
  have hS : ∀ x, x ∈ S ↔ x ∈ nodes ∧ x ∉ R := by intro x; simp [S, List.mem_filter]
  have hne : S ≠ [] := by
    intro he
    have hsup : nodes ⊆ R := by
      intro x hx
      apply Decidable.byContradiction
      intro hxr
      have : x ∈ S := (hS x).2 ⟨hx, hxr⟩
      rw [he] at this; cases this
    have := hn.length_le_of_subset hsup
    omega
  have hpred : ∀ x ∈ S, ∃ p ∈ S, x ∈ adjIn nodes adj p := by
    intro x hx
    obtain ⟨hxn, hxr⟩ := (hS x).1 hx
    have hm : x ∈ pend nodes adj R := Decidable.byContradiction fun h => hxr (List.append_nil R ▸ (I.zero x hxn).2 h)
    exact List.mem_flatMap.1 hm
  obtain ⟨v, hv, hcyc⟩ := exists_cycle_of_pred_closed hne hpred
  exact ⟨v, ((hS v).1 hv).1, hcyc⟩

theorem IsTopoOrder.reach_idx_le {nodes : List Nat} {adj : Adj} {order : List Nat}
    (T : IsTopoOrder nodes adj order) {a b : Nat} (ha : a ∈ nodes) (h : Reach (adjIn nodes adj) a b) :
    b ∈ nodes ∧ order.idxOf a ≤ order.idxOf b :=
  h.preserves (P := fun b => b ∈ nodes ∧ order.idxOf a ≤ order.idxOf b)
    (fun _ hb _ hc => ⟨mem_adjIn_nodes hc, Nat.le_trans hb.2
      (Nat.le_of_lt (T.forward _ hb.1 _ (mem_adjIn.1 hc).1 (mem_adjIn.1 hc).2))⟩)
    ⟨ha, Nat.le_refl _⟩

theorem IsTopoOrder.acyclic {nodes : List Nat} {adj : Adj} {order : List Nat}
    (T : IsTopoOrder nodes adj order) : ¬ Cyclic nodes adj := by
  rintro ⟨v, hv, w, hw, hr⟩
  obtain ⟨h1, h2⟩ := mem_adjIn.1 hw
  have := T.forward v hv w h1 h2
  have := (T.reach_idx_le h2 hr).2
  omega

theorem cyclicB_iff {nodes : List Nat} {adj : Adj} : cyclicB nodes adj = true ↔ Cyclic nodes adj := by
  unfold cyclicB Cyclic OnCycle
  simp only [List.any_eq_true, List.contains_iff_mem]
  exact exists_congr fun v => and_congr_right fun _ => exists_congr fun w => and_congr_right fun hw =>
    reach_single_iff (closed_adjIn nodes adj) (mem_adjIn_nodes hw)

end Solvor.Graph
