import Solvor.Graph.Lemmas
/-! Graph: lemmas about the condensation (checker and mirror), core Lean only. -/
namespace Solvor.Graph

theorem compIdx_eq_some_iff {comps : List (List Nat)} (hn : comps.flatten.Nodup) {v i : Nat} :
    compIdx comps v = some i ↔ ∃ h : i < comps.length, v ∈ comps[i] := by
  unfold compIdx
  rw [List.findIdx?_eq_some_iff_getElem]
  constructor
  · rintro ⟨h, hv, _⟩
    exact ⟨h, by simpa using hv⟩
  · rintro ⟨h, hv⟩
    refine ⟨h, by simpa using hv, ?_⟩
    intro j hji hvj
    have hj : j < comps.length := by omega
    have : v ∈ comps[j] := by simpa using hvj
    have := class_unique hn (hi := hj) (hj := h) this hv
    omega

theorem chkCondEdges_iff {adj : Adj} {comps cadj : List (List Nat)} :
    chkCondEdges adj comps cadj = true ↔
      cadj.length = comps.length ∧ ∀ i j, i < comps.length → j < comps.length →
        (j ∈ cadj.getD i [] ↔ i ≠ j ∧ ∃ u ∈ comps.getD i [], ∃ w ∈ adj u, w ∈ comps.getD j []) := by
  unfold chkCondEdges
  have key : ∀ i j, ((cadj.getD i []).contains j = (i != j && (comps.getD i []).any fun u =>
        (adj u).any fun w => (comps.getD j []).contains w)) ↔
      (j ∈ cadj.getD i [] ↔ i ≠ j ∧ ∃ u ∈ comps.getD i [], ∃ w ∈ adj u, w ∈ comps.getD j []) := by
    intro i j
    rw [Bool.eq_iff_iff]
    simp only [List.contains_iff_mem, Bool.and_eq_true, bne_iff_ne, ne_eq, List.any_eq_true]
  simp only [Bool.and_eq_true, decide_eq_true_eq, List.all_eq_true, List.mem_range, beq_iff_eq, key]
  exact ⟨fun h => ⟨h.1, fun i j hi hj => h.2 i hi j hj⟩, fun h => ⟨h.1, fun i hi j hj => h.2 i j hi hj⟩⟩

theorem cadjFn_nil_of_ge {cadj : List (List Nat)} {i : Nat} (h : cadj.length ≤ i) : cadjFn cadj i = [] :=
  getD_of_ge h []

theorem IsCondensation.edge_down {V : List Nat} {adj : Adj} {comps cadj : List (List Nat)}
    (D : IsCondensation V adj comps cadj) {i j : Nat} (h : j ∈ cadjFn cadj i) : j < i := by
  have hi : i < comps.length := D.len ▸ Decidable.byContradiction fun hn =>
    List.not_mem_nil (cadjFn_nil_of_ge (Nat.le_of_not_lt hn) ▸ h)
  have hj : j < comps.length := D.range _ (getD_mem (D.len ▸ hi) _) j h
  obtain ⟨hne, u, hu, w, hw, hwj⟩ := (D.edges i j hi hj).1 h
  rw [getD_of_lt hi] at hu
  rw [getD_of_lt hj] at hwj
  exact Nat.lt_of_le_of_ne (D.scc.order.idx_le hu hw hwj) (Ne.symm hne)

theorem IsCondensation.reach_le {V : List Nat} {adj : Adj} {comps cadj : List (List Nat)}
    (D : IsCondensation V adj comps cadj) {i j : Nat} (h : Reach (cadjFn cadj) i j) : j ≤ i :=
  h.preserves (P := (· ≤ i)) (fun _ hbi _ hc => Nat.le_trans (Nat.le_of_lt (D.edge_down hc)) hbi) (Nat.le_refl _)

theorem IsCondensation.acyclic {V : List Nat} {adj : Adj} {comps cadj : List (List Nat)}
    (D : IsCondensation V adj comps cadj) (i : Nat) : ¬ OnCycle (cadjFn cadj) i := by
  rintro ⟨w, hw, hr⟩
  have := D.edge_down hw
  have := D.reach_le hr
  omega

theorem mem_condPairs {nodes : List Nat} {adj : Adj} {comps : List (List Nat)} {i j : Nat} :
    (i, j) ∈ condPairs nodes adj comps ↔
      ∃ v ∈ nodes, compIdx comps v = some i ∧ ∃ w ∈ adj v, compIdx comps w = some j ∧ j ≠ i := by
  unfold condPairs
  rw [List.mem_flatMap]
  refine exists_congr fun v => and_congr_right fun _ => ?_
  cases compIdx comps v with
  | none => exact ⟨nofun, nofun⟩
  | some i' =>
    rw [List.mem_filterMap]
    constructor
    · rintro ⟨w, hw, hp⟩
      split at hp
      · split at hp
        · rename_i j' hcj hne
          cases hp
          exact ⟨rfl, w, hw, hcj, by simpa using hne⟩
        · cases hp
      · cases hp
    · rintro ⟨hi, w, hw, hcj, hne⟩
      cases hi
      exact ⟨w, hw, by rw [hcj]; exact if_pos (by simpa using hne)⟩

theorem mem_condEdges {nodes : List Nat} {adj : Adj} {comps : List (List Nat)} {i j : Nat} (hi : i < comps.length) :
    j ∈ (condEdges nodes adj comps).getD i [] ↔ (i, j) ∈ condPairs nodes adj comps := by
  rw [getD_of_lt (by simpa [condEdges] using hi)]
  simp only [condEdges, List.getElem_map, List.getElem_range, mem_dedup, List.mem_map, List.mem_filter, beq_iff_eq]
  exact ⟨fun ⟨⟨a, b⟩, ⟨hp, ha⟩, hb⟩ => by cases ha; cases hb; exact hp, fun h => ⟨(i, j), ⟨h, rfl⟩, rfl⟩⟩

theorem condEdges_spec {V nodes : List Nat} {adj : Adj} {comps : List (List Nat)}
    (hV : ∀ v, v ∈ nodes ↔ v ∈ V) (D : IsSccDecomp V adj comps) :
    IsCondensation V adj comps (condEdges nodes adj comps) := by
  have hlen : (condEdges nodes adj comps).length = comps.length := by simp [condEdges]
  have hmemE := fun i (hi : i < comps.length) j =>
    (mem_condEdges (nodes := nodes) (adj := adj) (j := j) hi).trans mem_condPairs
  refine ⟨D, hlen, ?_, ?_⟩
  · intro l hl j hj
    obtain ⟨i, hi, rfl⟩ := List.mem_iff_getElem.1 hl
    have hi' : i < comps.length := by rw [← hlen]; exact hi
    have := (hmemE i hi' j).1 (by rw [getD_of_lt hi]; exact hj)
    obtain ⟨_, _, _, w, _, hwj, _⟩ := this
    exact ((compIdx_eq_some_iff D.nodup).1 hwj).1
  · intro i j hi hj
    rw [hmemE i hi j, getD_of_lt hi, getD_of_lt hj]
    constructor
    · rintro ⟨v, _, hvi, w, hw, hwj, hne⟩
      obtain ⟨_, h1⟩ := (compIdx_eq_some_iff D.nodup).1 hvi
      obtain ⟨_, h2⟩ := (compIdx_eq_some_iff D.nodup).1 hwj
      exact ⟨fun h => hne h.symm, v, h1, w, hw, h2⟩
    · rintro ⟨hne, u, hu, w, hw, hwj⟩
      have huV : u ∈ V := (D.cover u).1 (mem_flatten_iff_getElem.2 ⟨i, hi, hu⟩)
      exact ⟨u, (hV u).2 huV, (compIdx_eq_some_iff D.nodup).2 ⟨hi, hu⟩, w, hw,
        (compIdx_eq_some_iff D.nodup).2 ⟨hj, hwj⟩, fun h => hne h.symm⟩

end Solvor.Graph
