import Solvor.Graph.Spec
import Solvor.Common.ListLemmas
/-! Graph (core Lean only): walks (`Reach`), the verified reachability function `reach`, and the certificate `SccCert` against
the specification `IsSccDecomp`. -/
namespace Solvor.Graph

theorem Reach.preserves {adj : Adj} {P : Nat → Prop} (hstep : ∀ a, P a → ∀ b ∈ adj a, P b) {a b : Nat}
    (h : Reach adj a b) (ha : P a) : P b := by
  induction h with
  | refl => exact ha
  | tail _ hcb ih => exact hstep _ ih _ hcb

theorem Reach.trans {adj : Adj} {a b c : Nat} (h1 : Reach adj a b) (h2 : Reach adj b c) : Reach adj a c :=
  h2.preserves (P := Reach adj a) (fun _ hx _ hy => hx.tail hy) h1

theorem Reach.single {adj : Adj} {a b : Nat} (h : b ∈ adj a) : Reach adj a b := Reach.tail (Reach.refl a) h

theorem Reach.head {adj : Adj} {a b c : Nat} (h : b ∈ adj a) (h2 : Reach adj b c) : Reach adj a c :=
  (Reach.single h).trans h2

theorem Reach.cases_head {adj : Adj} {a c : Nat} (h : Reach adj a c) :
    a = c ∨ ∃ b, b ∈ adj a ∧ Reach adj b c := by
  induction h with
  | refl => exact Or.inl rfl
  | tail hab hc ih =>
    rcases ih with rfl | ⟨b, hb, hbc⟩
    · exact Or.inr ⟨_, hc, Reach.refl _⟩
    · exact Or.inr ⟨b, hb, Reach.tail hbc hc⟩

theorem Reach.mono {adj adj' : Adj} (hsub : ∀ a, ∀ b ∈ adj a, b ∈ adj' a) {a b : Nat} (h : Reach adj a b) :
    Reach adj' a b :=
  h.preserves (P := Reach adj' a) (fun x hx y hy => hx.tail (hsub x y hy)) (Reach.refl a)

theorem Reach.mem_closed {V : List Nat} {adj : Adj} (hc : Closed V adj) {a b : Nat} (ha : a ∈ V)
    (h : Reach adj a b) : b ∈ V :=
  h.preserves (P := (· ∈ V)) hc ha

theorem mem_adjIn {nodes : List Nat} {adj : Adj} {u w : Nat} :
    w ∈ adjIn nodes adj u ↔ w ∈ adj u ∧ w ∈ nodes := by
  simp only [adjIn, List.mem_filter, List.contains_iff_mem]

theorem mem_adjIn_nodes {nodes : List Nat} {adj : Adj} {v x : Nat} (h : x ∈ adjIn nodes adj v) : x ∈ nodes :=
  (mem_adjIn.1 h).2

theorem Reach.of_adjIn {nodes : List Nat} {adj : Adj} {a b : Nat} (h : Reach (adjIn nodes adj) a b) :
    Reach adj a b :=
  h.mono fun _ _ hb => (mem_adjIn.1 hb).1

theorem closed_adjIn (nodes : List Nat) (adj : Adj) : Closed nodes (adjIn nodes adj) :=
  fun _ _ _ hw => mem_adjIn_nodes hw

theorem adjIn_eq_of_closed {V : List Nat} {adj : Adj} (hc : Closed V adj) {v : Nat} (hv : v ∈ V) :
    adjIn V adj v = adj v := by
  unfold adjIn
  apply List.filter_eq_self.2
  intro w hw
  simpa using hc v hv w hw

theorem onCycle_iff {adj : Adj} {v : Nat} : OnCycle adj v ↔ ∃ p, Reach adj v p ∧ v ∈ adj p := by
  constructor
  · rintro ⟨w, hw, hr⟩
    -- from the walk v → w →* v obtain its last edge
    have : ∀ {x}, Reach adj w x → ∃ p, Reach adj v p ∧ x ∈ adj p := by
      intro x hx
      induction hx with
      | refl => exact ⟨v, Reach.refl _, hw⟩
      | tail hab hc _ => exact ⟨_, Reach.head hw hab, hc⟩
    exact this hr
  · rintro ⟨p, hr, hp⟩
    rcases hr.cases_head with h | ⟨b, hb, hbp⟩
    · subst h; exact ⟨v, hp, Reach.refl _⟩
    · exact ⟨b, hb, Reach.tail hbp hp⟩

theorem mem_dedup {l : List Nat} {x : Nat} : x ∈ dedup l ↔ x ∈ l := by
  induction l with
  | nil => simp [dedup]
  | cons a t ih =>
    by_cases h : a ∈ t
    · simp only [dedup, List.contains_iff_mem, h, if_true, ih, List.mem_cons]
      constructor
      · exact Or.inr
      · rintro (h' | h')
        · subst h'; exact h
        · exact h'
    · simp [dedup, h, ih]

theorem nodup_dedup (l : List Nat) : (dedup l).Nodup := by
  induction l with
  | nil => simp [dedup]
  | cons a t ih =>
    by_cases h : a ∈ t
    · simpa [dedup, h] using ih
    · simp only [dedup, List.contains_iff_mem, h, if_false, List.nodup_cons]
      exact ⟨by rw [mem_dedup]; exact h, ih⟩

theorem frontier_none {adj : Adj} {S : List Nat} (h : frontier adj S = none) :
    ∀ s ∈ S, ∀ w ∈ adj s, w ∈ S := by
  intro s hs w hw
  unfold frontier at h
  rw [List.find?_eq_none] at h
  have := h w (List.mem_flatMap.2 ⟨s, hs, hw⟩)
  simpa using this

theorem frontier_some {adj : Adj} {S : List Nat} {w : Nat} (h : frontier adj S = some w) :
    w ∉ S ∧ ∃ s ∈ S, w ∈ adj s := by
  unfold frontier at h
  have h1 := List.find?_some h
  have h2 := List.mem_of_find?_eq_some h
  obtain ⟨s, hs, hw⟩ := List.mem_flatMap.1 h2
  exact ⟨by simpa using h1, s, hs, hw⟩

theorem closure_inv {adj : Adj} {Inv : List Nat → Prop}
    (hstep : ∀ S w, frontier adj S = some w → Inv S → Inv (S ++ [w])) :
    ∀ (fuel : Nat) (S : List Nat), Inv S → Inv (closure adj fuel S) := by
  intro fuel
  induction fuel with
  | zero => intro S h; exact h
  | succ f ih =>
    intro S h
    unfold closure
    split
    · exact h
    · rename_i w hw
      exact ih _ (hstep S w hw h)

theorem closure_subset {adj : Adj} (fuel : Nat) (S : List Nat) : ∀ x ∈ S, x ∈ closure adj fuel S :=
  fun x => closure_inv (Inv := (x ∈ ·)) (fun _ _ _ h => List.mem_append_left _ h) fuel S

theorem closure_sound {adj : Adj} {src : List Nat} (fuel : Nat) (S : List Nat)
    (hS : ∀ x ∈ S, ∃ s ∈ src, Reach adj s x) : ∀ x ∈ closure adj fuel S, ∃ s ∈ src, Reach adj s x := by
  refine closure_inv (Inv := fun S => ∀ x ∈ S, ∃ s ∈ src, Reach adj s x) ?_ fuel S hS
  intro S w hw hS y hy
  rcases List.mem_append.1 hy with h | h
  · exact hS y h
  · obtain ⟨_, s, hs, hws⟩ := frontier_some hw
    obtain ⟨s0, hs0, hr⟩ := hS s hs
    exact ⟨s0, hs0, List.mem_singleton.1 h ▸ Reach.tail hr hws⟩

theorem closure_nodup {adj : Adj} (fuel : Nat) (S : List Nat) (hn : S.Nodup) : (closure adj fuel S).Nodup :=
  closure_inv (Inv := List.Nodup) (fun _ _ hw hn => nodup_concat hn (frontier_some hw).1) fuel S hn

theorem reach_nodup (adj : Adj) (U src : List Nat) : (reach adj U src).Nodup :=
  closure_nodup _ _ (nodup_dedup _)

theorem closure_closed {adj : Adj} {U : List Nat} (hc : Closed U adj) (fuel : Nat) (S : List Nat)
    (hn : S.Nodup) (hs : S ⊆ U) (hl : U.length ≤ fuel + S.length) :
    ∀ s ∈ closure adj fuel S, ∀ w ∈ adj s, w ∈ closure adj fuel S := by
  induction fuel generalizing S with
  | zero =>
    intro s hs' w hw
    simp only [closure] at hs' ⊢
    exact subset_of_nodup_length_ge hn hs (by omega) (hc s (hs hs') w hw)
  | succ f ih =>
    unfold closure
    split
    · rename_i hnone; exact frontier_none hnone
    · rename_i w hw
      obtain ⟨hwS, s, hsS, hws⟩ := frontier_some hw
      apply ih
      · exact nodup_concat hn hwS
      · intro y hy
        rcases List.mem_append.1 hy with h | h
        · exact hs h
        · have : y = w := by simpa using h
          subst this
          exact hc s (hs hsS) _ hws
      · simp; omega

theorem mem_reach_iff {adj : Adj} {U src : List Nat} (hc : Closed U adj) (hs : src ⊆ U) {x : Nat} :
    x ∈ reach adj U src ↔ ∃ s ∈ src, Reach adj s x := by
  unfold reach
  constructor
  · intro hx
    refine closure_sound _ _ ?_ x hx
    intro y hy
    exact ⟨y, mem_dedup.1 hy, Reach.refl _⟩
  · rintro ⟨s, hs', hr⟩
    have hcl := closure_closed hc U.length (dedup src) (nodup_dedup _)
      (fun y hy => hs (mem_dedup.1 hy)) (by omega)
    exact hr.mem_closed hcl (closure_subset _ _ _ (mem_dedup.2 hs'))

theorem reach_single_iff {adj : Adj} {U : List Nat} (hc : Closed U adj) {u x : Nat} (hu : u ∈ U) :
    x ∈ reach adj U [u] ↔ Reach adj u x := by
  rw [mem_reach_iff hc fun y hy => List.mem_singleton.1 hy ▸ hu]
  exact ⟨fun ⟨s, hs, hr⟩ => List.mem_singleton.1 hs ▸ hr, fun hr => ⟨u, List.mem_singleton.2 rfl, hr⟩⟩

theorem mem_reach_iff_of_closed_src {adj : Adj} {U src : List Nat} (hc : Closed U adj) (hs : src ⊆ U)
    (hcs : Closed src adj) (x : Nat) : x ∈ reach adj U src ↔ x ∈ src := by
  rw [mem_reach_iff hc hs]
  exact ⟨fun ⟨s0, hs0, hr⟩ => hr.mem_closed hcs hs0, fun h => ⟨x, h, Reach.refl _⟩⟩

theorem mem_flatten_iff_getElem {comps : List (List Nat)} {v : Nat} :
    v ∈ comps.flatten ↔ ∃ i, ∃ h : i < comps.length, v ∈ comps[i] := by
  rw [List.mem_flatten]
  constructor
  · rintro ⟨l, hl, hv⟩
    obtain ⟨i, h, rfl⟩ := List.mem_iff_getElem.1 hl
    exact ⟨i, h, hv⟩
  · rintro ⟨i, h, hv⟩
    exact ⟨_, List.getElem_mem h, hv⟩

theorem class_unique {comps : List (List Nat)} (hn : comps.flatten.Nodup) {v i j : Nat}
    {hi : i < comps.length} {hj : j < comps.length} (h1 : v ∈ comps[i]) (h2 : v ∈ comps[j]) : i = j := by
  have hp := (List.pairwise_flatten.1 hn).2
  rw [List.pairwise_iff_getElem] at hp
  rcases Nat.lt_trichotomy i j with h | h | h
  · exact absurd rfl (hp i j hi hj h v h1 v h2)
  · exact h
  · exact absurd rfl (hp j i hj hi h v h2 v h1)

theorem SinksFirst.idx_le {adj : Adj} {comps : List (List Nat)} (h : SinksFirst adj comps) {i j : Nat}
    {hi : i < comps.length} {hj : j < comps.length} {u w : Nat} (hu : u ∈ comps[i]) (hw : w ∈ adj u)
    (hwj : w ∈ comps[j]) : j ≤ i :=
  Nat.le_of_not_lt fun hlt => (List.pairwise_iff_getElem.1 h) i j hi hj hlt u hu w hw hwj

theorem SccCert.reach_idx_le {V : List Nat} {adj : Adj} {comps : List (List Nat)} (C : SccCert V adj comps)
    {u v i : Nat} {hi : i < comps.length} (hu : u ∈ comps[i]) (h : Reach adj u v) :
    ∃ j, ∃ hj : j < comps.length, j ≤ i ∧ v ∈ comps[j] := by
  refine h.preserves (P := fun v => ∃ j, ∃ hj : j < comps.length, j ≤ i ∧ v ∈ comps[j]) ?_
    ⟨i, hi, Nat.le_refl _, hu⟩
  rintro b ⟨j, hj, hji, hb⟩ c hcb
  have hbV : b ∈ V := (C.cover b).1 (mem_flatten_iff_getElem.2 ⟨j, hj, hb⟩)
  obtain ⟨k, hk, hc⟩ := mem_flatten_iff_getElem.1 ((C.cover c).2 (C.closed b hbV c hcb))
  exact ⟨k, hk, Nat.le_trans (C.order.idx_le hb hcb hc) hji, hc⟩

theorem SccCert.isSccDecomp {V : List Nat} {adj : Adj} {comps : List (List Nat)} (C : SccCert V adj comps) :
    IsSccDecomp V adj comps where
  nodup := C.nodup
  cover := C.cover
  nonempty := fun c hc => (C.strong c hc).1
  order := C.order
  classes := by
    intro u hu v hv
    constructor
    · rintro ⟨c, hc, huc, hvc⟩
      exact ⟨(C.strong c hc).2 u huc v hvc, (C.strong c hc).2 v hvc u huc⟩
    · rintro ⟨huv, hvu⟩
      obtain ⟨i, hi, hui⟩ := mem_flatten_iff_getElem.1 ((C.cover u).2 hu)
      obtain ⟨j, hj, hvj⟩ := mem_flatten_iff_getElem.1 ((C.cover v).2 hv)
      obtain ⟨j', hj', hle1, hvj'⟩ := C.reach_idx_le hui huv
      obtain ⟨i', hi', hle2, hui'⟩ := C.reach_idx_le hvj hvu
      have e1 : j' = j := class_unique C.nodup hvj' hvj
      have e2 : i' = i := class_unique C.nodup hui' hui
      have : i = j := by omega
      subst this
      exact ⟨comps[i], List.getElem_mem hi, hui, hvj⟩

theorem SccCert.snoc {adj : Adj} {comps : List (List Nat)} (C : SccCert comps.flatten adj comps) {N : List Nat}
    (hN : N.Nodup) (hne : N ≠ []) (hdisj : ∀ x ∈ N, x ∉ comps.flatten)
    (hadj : ∀ x ∈ N, ∀ w ∈ adj x, w ∈ N ∨ w ∈ comps.flatten) (hstrong : ∀ u ∈ N, ∀ v ∈ N, Reach adj u v) :
    SccCert (comps ++ [N]).flatten adj (comps ++ [N]) := by
  have hflat : (comps ++ [N]).flatten = comps.flatten ++ N := by simp
  refine { closed := fun x hx w hw => ?_, nodup := ?_, cover := fun _ => Iff.rfl, strong := fun c hc => ?_, order := ?_ }
  · rw [hflat, List.mem_append] at hx ⊢
    exact hx.elim (fun h => Or.inl (C.closed x h w hw)) fun h => (hadj x h w hw).symm
  · rw [hflat, List.nodup_append]
    exact ⟨C.nodup, hN, fun a ha b hb hab => hdisj b hb (hab ▸ ha)⟩
  · rcases List.mem_append.1 hc with h | h
    · exact C.strong c h
    · rw [List.mem_singleton.1 h]; exact ⟨hne, hstrong⟩
  · -- the classes listed so far are together closed under `adj` (`C.closed`), so none of them has an edge into `N`
    refine List.pairwise_append.2 ⟨C.order, List.pairwise_singleton _ _, fun c hc b hb u hu w hw hwb => ?_⟩
    rw [List.mem_singleton.1 hb] at hwb
    exact hdisj w hwb (C.closed u (List.mem_flatten.2 ⟨c, hc, hu⟩) w hw)

theorem IsSccDecomp.cert {V : List Nat} {adj : Adj} {comps : List (List Nat)} (hc : Closed V adj)
    (D : IsSccDecomp V adj comps) : SccCert V adj comps where
  closed := hc
  nodup := D.nodup
  cover := D.cover
  order := D.order
  strong := by
    intro c hcm
    refine ⟨D.nonempty c hcm, ?_⟩
    intro u hu v hv
    have huV : u ∈ V := (D.cover u).1 (List.mem_flatten.2 ⟨c, hcm, hu⟩)
    have hvV : v ∈ V := (D.cover v).1 (List.mem_flatten.2 ⟨c, hcm, hv⟩)
    exact ((D.classes u huV v hvV).1 ⟨c, hcm, hu, hv⟩).1

theorem closedB_iff {V : List Nat} {adj : Adj} : closedB V adj = true ↔ Closed V adj := by
  simp [closedB, Closed]

theorem orderB_iff {adj : Adj} {comps : List (List Nat)} : orderB adj comps = true ↔ SinksFirst adj comps := by
  unfold SinksFirst
  induction comps with
  | nil => exact ⟨fun _ => List.Pairwise.nil, fun _ => rfl⟩
  | cons a rest ih =>
    simp only [orderB, Bool.and_eq_true, ih, List.pairwise_cons, List.all_eq_true, Bool.not_eq_true',
      List.contains_eq_mem, decide_eq_false_iff_not]

theorem strongB_iff {V : List Nat} {adj : Adj} (hc : Closed V adj) {c : List Nat} (hcV : c ⊆ V) :
    strongB V adj c = true ↔ c ≠ [] ∧ ∀ u ∈ c, ∀ v ∈ c, Reach adj u v := by
  cases c with
  | nil => simp [strongB]
  | cons h t =>
    have hh : h ∈ V := hcV (List.mem_cons_self)
    simp only [strongB, List.all_eq_true, Bool.and_eq_true, List.contains_iff_mem]
    constructor
    · intro H
      refine ⟨List.cons_ne_nil _ _, fun u hu v hv => ?_⟩
      exact ((reach_single_iff hc (hcV hu)).1 (H u hu).2).trans ((reach_single_iff hc hh).1 (H v hv).1)
    · rintro ⟨_, H⟩ v hv
      exact ⟨(reach_single_iff hc hh).2 (H h List.mem_cons_self v hv),
        (reach_single_iff hc (hcV hv)).2 (H v hv h List.mem_cons_self)⟩

/-- `chkScc` is the certificate `SccCert` clause by clause; that the certificate is the specification is `chkScc_iff`
(Theorems.lean) -/
theorem chkScc_iff_cert {V : List Nat} {adj : Adj} {comps : List (List Nat)} :
    chkScc V adj comps = true ↔ SccCert V adj comps := by
  unfold chkScc
  simp only [Bool.and_eq_true, decide_eq_true_eq, closedB_iff, orderB_iff, List.all_eq_true,
    List.contains_iff_mem]
  constructor
  · rintro ⟨⟨⟨⟨⟨hclosed, hnodup⟩, hsub⟩, hsup⟩, hstrong⟩, horder⟩
    refine { closed := hclosed, nodup := hnodup, cover := fun v => ⟨hsub v, hsup v⟩, strong := fun c hc => ?_, order := horder }
    exact (strongB_iff hclosed (fun x hx => hsub x (List.mem_flatten.2 ⟨c, hc, hx⟩))).1 (hstrong c hc)
  · intro C
    refine ⟨⟨⟨⟨⟨C.closed, C.nodup⟩, fun v => (C.cover v).1⟩, fun v => (C.cover v).2⟩, ?_⟩, C.order⟩
    intro c hc
    exact (strongB_iff C.closed (fun x hx => (C.cover x).1 (List.mem_flatten.2 ⟨c, hc, hx⟩))).2 (C.strong c hc)

end Solvor.Graph
