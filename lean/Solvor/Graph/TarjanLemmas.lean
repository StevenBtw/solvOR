import Solvor.Graph.Lemmas
/-! Graph: the invariant `TInv` of the Tarjan mirror, core Lean only: kept by `push` (entry of `strongconnect`) and by the two exits
of `finish` (`TInv.pop`, `TInv.keep`).  Its parameter `g` is the *gray chain*: the vertices whose `strongconnect` call is in
progress, innermost first – a ghost, not part of the state. -/
namespace Solvor.Graph

def TState.vis (s : TState) (x : Nat) : Prop := (s.index x).isSome = true
def TState.idx (s : TState) (x : Nat) : Nat := (s.index x).getD 0

/-- what every state of the run satisfies.  `sorted`: lower stack entries reach upper ones; `to_gray`: an entry reaches a gray vertex
numbered no later; `black`: numbered and not gray ⇒ all successors numbered; `em_*`: the emitted part carries `SccCert` (`TInv.cert`). -/
structure TInv (adj : Adj) (V : List Nat) (g : List Nat) (s : TState) : Prop where
  stack_nodup : s.stack.Nodup
  comps_nodup : s.comps.flatten.Nodup
  disj      : ∀ x ∈ s.stack, x ∉ s.comps.flatten
  vis_iff   : ∀ x, s.vis x ↔ x ∈ s.stack ∨ x ∈ s.comps.flatten
  idx_lt    : ∀ x k, s.index x = some k → k < s.next
  inV       : ∀ x, s.vis x → x ∈ V
  sorted    : s.stack.Pairwise fun a b => s.idx b < s.idx a ∧ Reach adj b a
  gray_on   : ∀ y ∈ g, y ∈ s.stack
  gray_sorted : g.Pairwise fun a b => s.idx b < s.idx a
  to_gray   : ∀ x ∈ s.stack, ∃ y ∈ g, s.idx y ≤ s.idx x ∧ Reach adj x y
  black     : ∀ x, s.vis x → x ∉ g → ∀ w ∈ adj x, s.vis w
  em_closed : ∀ x ∈ s.comps.flatten, ∀ w ∈ adj x, w ∈ s.comps.flatten
  em_order  : SinksFirst adj s.comps
  em_strong : ∀ c ∈ s.comps, c ≠ [] ∧ ∀ u ∈ c, ∀ v ∈ c, Reach adj u v

theorem TState.vis_iff_some {s : TState} {x : Nat} : s.vis x ↔ ∃ k, s.index x = some k := by
  unfold TState.vis
  cases s.index x <;> simp

theorem TState.not_vis_iff {s : TState} {x : Nat} : ¬ s.vis x ↔ s.index x = none := by
  unfold TState.vis
  cases s.index x <;> simp

theorem TState.idx_of_some {s : TState} {x k : Nat} (h : s.index x = some k) : s.idx x = k := by
  simp [TState.idx, h]

@[simp] theorem push_stack (s : TState) (v : Nat) : (s.push v).stack = v :: s.stack := rfl
@[simp] theorem push_comps (s : TState) (v : Nat) : (s.push v).comps = s.comps := rfl
@[simp] theorem push_next (s : TState) (v : Nat) : (s.push v).next = s.next + 1 := rfl
theorem push_index (s : TState) (v x : Nat) :
    (s.push v).index x = if x = v then some s.next else s.index x := rfl
theorem push_low (s : TState) (v x : Nat) : (s.push v).low x = if x = v then s.next else s.low x := rfl

theorem push_vis {s : TState} {v x : Nat} : (s.push v).vis x ↔ x = v ∨ s.vis x := by
  unfold TState.vis
  rw [push_index]
  by_cases h : x = v <;> simp [h]

theorem push_idx_self (s : TState) (v : Nat) : (s.push v).idx v = s.next := by
  simp [TState.idx, push_index]

theorem push_idx_ne {s : TState} {v x : Nat} (h : x ≠ v) : (s.push v).idx x = s.idx x := by
  simp [TState.idx, push_index, h]

theorem TInv.idx_lt_next {adj : Adj} {V g : List Nat} {s : TState} (I : TInv adj V g s) {x : Nat}
    (hx : s.vis x) : s.idx x < s.next := by
  obtain ⟨k, hk⟩ := TState.vis_iff_some.1 hx
  rw [TState.idx_of_some hk]
  exact I.idx_lt x k hk

theorem TInv.stack_reach {adj : Adj} {V g : List Nat} {s : TState} (I : TInv adj V g s) {x y : Nat}
    (hx : x ∈ s.stack) (hy : y ∈ s.stack) (h : s.idx x < s.idx y) : Reach adj x y := by
  obtain ⟨i, hi, rfl⟩ := List.mem_iff_getElem.1 hx
  obtain ⟨j, hj, rfl⟩ := List.mem_iff_getElem.1 hy
  have hp := List.pairwise_iff_getElem.1 I.sorted
  rcases Nat.lt_trichotomy i j with hij | hij | hij
  · exact absurd h (Nat.lt_asymm (hp i j hi hj hij).1)
  · subst hij; exact absurd h (Nat.lt_irrefl _)
  · exact (hp j i hj hi hij).2

/-- entry of `strongconnect(v)`, called for a successor `v` of the innermost gray vertex (if there is one) -/
theorem TInv.push {adj : Adj} {V g : List Nat} {s : TState} (I : TInv adj V g s) {v : Nat}
    (hv : ¬ s.vis v) (hvV : v ∈ V) (hp : ∀ p ∈ g.head?, v ∈ adj p) :
    TInv adj V (v :: g) (s.push v) := by
  have hvs : v ∉ s.stack := fun h => hv ((I.vis_iff v).2 (Or.inl h))
  have hvc : v ∉ s.comps.flatten := fun h => hv ((I.vis_iff v).2 (Or.inr h))
  have hne : ∀ x ∈ s.stack, x ≠ v := fun x hx h => hvs (h ▸ hx)
  -- every old stack entry reaches a gray vertex, that one the innermost gray vertex (numbered last among them), and that one `v`
  have hreach : ∀ b ∈ s.stack, Reach adj b v := by
    intro b hb
    obtain ⟨y, hy, _, hby⟩ := I.to_gray b hb
    cases g with
    | nil => cases hy
    | cons p rest =>
      refine (hby.trans ?_).tail (hp p rfl)
      rcases List.mem_cons.1 hy with h | h
      · exact h ▸ Reach.refl _
      · exact I.stack_reach (I.gray_on y hy) (I.gray_on p List.mem_cons_self) ((List.pairwise_cons.1 I.gray_sorted).1 y h)
  refine { stack_nodup := ?stack_nodup, comps_nodup := I.comps_nodup, disj := ?disj, vis_iff := ?vis_iff, idx_lt := ?idx_lt, inV := ?inV,
           sorted := ?sorted, gray_on := ?gray_on, gray_sorted := ?gray_sorted, to_gray := ?to_gray, black := ?black, em_closed := I.em_closed,
           em_order := I.em_order, em_strong := I.em_strong }
  case stack_nodup => exact List.nodup_cons.2 ⟨hvs, I.stack_nodup⟩
  case disj =>
    intro x hx
    rcases List.mem_cons.1 hx with h | h
    · subst h; exact hvc
    · exact I.disj x h
  case vis_iff =>
    intro x
    rw [push_vis, push_stack, push_comps, List.mem_cons, I.vis_iff x, or_assoc]
  case idx_lt =>
    intro x k hk
    rw [push_index] at hk
    rw [push_next]
    split at hk
    · cases hk; exact Nat.lt_succ_self _
    · exact Nat.lt_succ_of_lt (I.idx_lt x k hk)
  case inV =>
    intro x hx
    rcases push_vis.1 hx with h | h
    · subst h; exact hvV
    · exact I.inV x h
  case sorted =>
    rw [push_stack, List.pairwise_cons]
    constructor
    · intro b hb
      rw [push_idx_self, push_idx_ne (hne b hb)]
      exact ⟨I.idx_lt_next ((I.vis_iff b).2 (Or.inl hb)), hreach b hb⟩
    · apply List.Pairwise.imp_of_mem _ I.sorted
      intro a b ha hb hab
      rw [push_idx_ne (hne a ha), push_idx_ne (hne b hb)]
      exact hab
  case gray_on =>
    intro y hy
    rw [push_stack]
    rcases List.mem_cons.1 hy with h | h
    · subst h; exact List.mem_cons_self
    · exact List.mem_cons_of_mem _ (I.gray_on y h)
  case gray_sorted =>
    rw [List.pairwise_cons]
    constructor
    · intro y hy
      have hys := I.gray_on y hy
      rw [push_idx_self, push_idx_ne (hne y hys)]
      exact I.idx_lt_next ((I.vis_iff y).2 (Or.inl hys))
    · apply List.Pairwise.imp_of_mem _ I.gray_sorted
      intro a b ha hb hab
      rw [push_idx_ne (hne a (I.gray_on a ha)), push_idx_ne (hne b (I.gray_on b hb))]
      exact hab
  case to_gray =>
    intro x hx
    rw [push_stack] at hx
    rcases List.mem_cons.1 hx with h | h
    · subst h; exact ⟨x, List.mem_cons_self, Nat.le_refl _, Reach.refl _⟩
    · obtain ⟨y, hy, hle, hr⟩ := I.to_gray x h
      refine ⟨y, List.mem_cons_of_mem _ hy, ?_, hr⟩
      rw [push_idx_ne (hne x h), push_idx_ne (hne y (I.gray_on y hy))]
      exact hle
  case black =>
    intro x hx hxg w hw
    have hxv : x ≠ v := fun h => hxg (h ▸ List.mem_cons_self)
    have hxs : s.vis x := by
      rcases push_vis.1 hx with h | h
      · exact absurd h hxv
      · exact h
    exact push_vis.2 (Or.inr (I.black x hxs (fun h => hxg (List.mem_cons_of_mem _ h)) w hw))

theorem popTo_spec (v : Nat) (L rest acc : List Nat) (hv : v ∉ L) :
    popTo v (L ++ v :: rest) acc = (acc.reverse ++ L ++ [v], rest) := by
  induction L generalizing acc with
  | nil => simp [popTo]
  | cons a t ih =>
    have hav : a ≠ v := fun h => hv (h ▸ List.mem_cons_self)
    have htv : v ∉ t := fun h => hv (List.mem_cons_of_mem _ h)
    simp only [List.cons_append, popTo, hav, if_false]
    rw [ih _ htv]
    simp

theorem reach_exit {adj : Adj} {P : Nat → Prop} {x y : Nat} (h : Reach adj x y) (hx : P x) (hy : ¬ P y) :
    ∃ a b, P a ∧ ¬ P b ∧ b ∈ adj a ∧ Reach adj b y := by
  induction h with
  | refl => exact absurd hx hy
  | @tail c d _ hd ih =>
    by_cases hc : P c
    · exact ⟨c, d, hc, hy, hd, Reach.refl _⟩
    · obtain ⟨a, b, ha, hb, hab, hbc⟩ := ih hc
      exact ⟨a, b, ha, hb, hab, Reach.tail hbc hd⟩

/-- the stack split at `v`: what lies above `v` is numbered after it and reached from it, what lies below is numbered before it
and reaches it -/
theorem TInv.above {adj : Adj} {V g : List Nat} {t : TState} (I : TInv adj V g t) {L rest : List Nat}
    {v : Nat} (hst : t.stack = L ++ v :: rest) :
    (∀ x ∈ L, t.idx v < t.idx x ∧ Reach adj v x) ∧ (∀ x ∈ rest, t.idx x < t.idx v ∧ Reach adj x v) ∧
    v ∉ L ∧ (∀ x ∈ L, x ∉ rest) := by
  have hs := I.sorted
  have hn := I.stack_nodup
  rw [hst] at hs hn
  rw [List.pairwise_append] at hs
  rw [List.nodup_append] at hn
  obtain ⟨_, hs2, hs3⟩ := hs
  obtain ⟨_, _, hn3⟩ := hn
  rw [List.pairwise_cons] at hs2
  refine ⟨fun x hx => hs3 x hx v List.mem_cons_self, fun x hx => hs2.1 x hx, ?_, ?_⟩
  · intro h; exact hn3 v h v List.mem_cons_self rfl
  · intro x hx hxr; exact hn3 x hx x (List.mem_cons_of_mem _ hxr) rfl

theorem TInv.mem_below {adj : Adj} {V g : List Nat} {t : TState} (I : TInv adj V g t) {L rest : List Nat} {v y : Nat}
    (hst : t.stack = L ++ v :: rest) (hy : y ∈ t.stack) (h : t.idx y < t.idx v) : y ∈ rest := by
  rw [hst] at hy
  rcases List.mem_append.1 hy with h' | h'
  · have := ((I.above hst).1 y h').1; omega
  · rcases List.mem_cons.1 h' with h'' | h''
    · subst h''; omega
    · exact h''

theorem TInv.gray_below {adj : Adj} {V g : List Nat} {t : TState} {v : Nat} {L rest : List Nat}
    (I : TInv adj V (v :: g) t) (hst : t.stack = L ++ v :: rest) : ∀ y ∈ g, y ∈ rest := fun y hy =>
  I.mem_below hst (I.gray_on y (List.mem_cons_of_mem _ hy)) ((List.pairwise_cons.1 I.gray_sorted).1 y hy)

theorem TInv.black_tail {adj : Adj} {V g : List Nat} {t : TState} {v : Nat} (I : TInv adj V (v :: g) t)
    (hsucc : ∀ w ∈ adj v, t.vis w) : ∀ x, t.vis x → x ∉ g → ∀ w ∈ adj x, t.vis w := by
  intro x hx hxg w hw
  by_cases hxv : x = v
  · exact hsucc w (hxv ▸ hw)
  · exact I.black x hx (fun h => (List.mem_cons.1 h).elim hxv hxg) w hw

theorem TInv.cert {adj : Adj} {V g : List Nat} {s : TState} (I : TInv adj V g s) : SccCert s.comps.flatten adj s.comps :=
  { closed := I.em_closed, nodup := I.comps_nodup, cover := fun _ => Iff.rfl, strong := I.em_strong, order := I.em_order }

/-- `low_link[v] == index[v]`: the stack segment down to `v` is emitted as a component.  `hX` is what `low = index` gives:
no edge leaves the segment towards the stack below it. -/
theorem TInv.pop {adj : Adj} {V g : List Nat} {t : TState} {v : Nat} {L rest : List Nat}
    (I : TInv adj V (v :: g) t) (hst : t.stack = L ++ v :: rest) (hsucc : ∀ w ∈ adj v, t.vis w)
    (hX : ∀ x ∈ L ++ [v], ∀ z ∈ adj x, z ∉ rest) :
    TInv adj V g { t with stack := rest, comps := t.comps ++ [L ++ [v]] } := by
  obtain ⟨hL, hR, _, _⟩ := I.above hst
  have hst' : t.stack = (L ++ [v]) ++ rest := by rw [hst, List.append_cons]
  have hmemst : ∀ x, x ∈ t.stack ↔ x ∈ L ++ [v] ∨ x ∈ rest := fun x => by rw [hst', List.mem_append]
  have hNst : ∀ x ∈ L ++ [v], x ∈ t.stack := fun x hx => (hmemst x).2 (Or.inl hx)
  obtain ⟨hsN, hsR, hdisj⟩ := List.nodup_append.1 (hst' ▸ I.stack_nodup)
  have hNrest : ∀ x ∈ L ++ [v], x ∉ rest := fun x hx hxr => hdisj x hx x hxr rfl
  have hgs := I.gray_sorted
  rw [List.pairwise_cons] at hgs
  have hgrest := I.gray_below hst
  have hNsucc : ∀ x ∈ L ++ [v], ∀ w ∈ adj x, t.vis w := fun x hx =>
    I.black_tail hsucc x ((I.vis_iff x).2 (Or.inl (hNst x hx))) fun h => hNrest x hx (hgrest x h)
  have hNadj : ∀ x ∈ L ++ [v], ∀ w ∈ adj x, w ∈ L ++ [v] ∨ w ∈ t.comps.flatten := by
    intro x hx w hw
    rcases (I.vis_iff w).1 (hNsucc x hx w hw) with h | h
    · rcases (hmemst w).1 h with h' | h'
      · exact Or.inl h'
      · exact absurd h' (hX x hx w hw)
    · exact Or.inr h
  have hflat : (t.comps ++ [L ++ [v]]).flatten = t.comps.flatten ++ (L ++ [v]) := by simp
  -- the gray vertex a segment member reaches is `v`: a walk to a gray one below leaves the segment (`reach_exit`), by `hNadj`
  -- into the emitted part, which is closed and disjoint from the stack
  have htoV : ∀ u ∈ L ++ [v], Reach adj u v := by
    intro u hu
    obtain ⟨y, hy, _, huy⟩ := I.to_gray u (hNst u hu)
    rcases List.mem_cons.1 hy with h | h
    · subst h; exact huy
    · exfalso
      have hyr := hgrest y h
      obtain ⟨a, b, ha, hb, hab, hby⟩ :=
        reach_exit (P := fun z => z ∈ L ++ [v]) huy hu (fun hyN => hNrest y hyN hyr)
      rcases hNadj a ha b hab with h' | h'
      · exact hb h'
      · have := hby.mem_closed I.em_closed h'
        exact I.disj y ((hmemst y).2 (Or.inr hyr)) this
  have hfromV : ∀ u ∈ L ++ [v], Reach adj v u := by
    intro u hu
    rcases List.mem_append.1 hu with h | h
    · exact (hL u h).2
    · exact List.mem_singleton.1 h ▸ Reach.refl _
  -- the segment is emitted: one more class in the certificate; the rest is stack bookkeeping
  have C := I.cert.snoc hsN (List.append_ne_nil_of_right_ne_nil _ (List.cons_ne_nil _ _))
    (fun x hx => I.disj x (hNst x hx)) hNadj fun u hu w hw => (htoV u hu).trans (hfromV w hw)
  refine { stack_nodup := hsR, comps_nodup := C.nodup, disj := ?disj, vis_iff := ?vis_iff, idx_lt := I.idx_lt, inV := I.inV,
           sorted := ?sorted, gray_on := hgrest, gray_sorted := hgs.2, to_gray := ?to_gray, black := I.black_tail hsucc,
           em_closed := C.closed, em_order := C.order, em_strong := C.strong }
  case disj =>
    intro x hx
    show x ∉ (t.comps ++ [L ++ [v]]).flatten
    rw [hflat, List.mem_append]
    rintro (h | h)
    · exact I.disj x ((hmemst x).2 (Or.inr hx)) h
    · exact hNrest x h hx
  case vis_iff =>
    intro x
    show t.vis x ↔ x ∈ rest ∨ x ∈ (t.comps ++ [L ++ [v]]).flatten
    rw [hflat, List.mem_append, I.vis_iff x, hmemst x]
    simp only [or_comm, or_left_comm]
  case sorted =>
    show rest.Pairwise fun a b => t.idx b < t.idx a ∧ Reach adj b a
    have := I.sorted
    rw [hst, List.pairwise_append] at this
    exact (List.pairwise_cons.1 this.2.1).2
  case to_gray =>
    intro x hx
    obtain ⟨y, hy, hle, hr⟩ := I.to_gray x ((hmemst x).2 (Or.inr hx))
    rcases List.mem_cons.1 hy with h | h
    · subst h; have := (hR x hx).1; omega
    · exact ⟨y, h, hle, hr⟩

/-- `low_link[v] < index[v]`: `v` stays on the stack and stops being gray -/
theorem TInv.keep {adj : Adj} {V g : List Nat} {t : TState} {v : Nat} (I : TInv adj V (v :: g) t)
    (hsucc : ∀ w ∈ adj v, t.vis w) (hw : ∃ y ∈ t.stack, t.idx y < t.idx v ∧ Reach adj v y) :
    TInv adj V g t := by
  have hgs := I.gray_sorted
  rw [List.pairwise_cons] at hgs
  refine { stack_nodup := I.stack_nodup, comps_nodup := I.comps_nodup, disj := I.disj, vis_iff := I.vis_iff,
           idx_lt := I.idx_lt, inV := I.inV, sorted := I.sorted,
           gray_on := fun y hy => I.gray_on y (List.mem_cons_of_mem _ hy), gray_sorted := hgs.2, to_gray := ?to_gray,
           black := ?black, em_closed := I.em_closed, em_order := I.em_order, em_strong := I.em_strong }
  case to_gray =>
    intro x hx
    obtain ⟨y, hy, hle, hr⟩ := I.to_gray x hx
    rcases List.mem_cons.1 hy with h | h
    · subst h
      obtain ⟨y', hy', hlt, hr'⟩ := hw
      obtain ⟨y'', hy'', hle', hr''⟩ := I.to_gray y' hy'
      rcases List.mem_cons.1 hy'' with h' | h'
      · subst h'; omega
      · exact ⟨y'', h', by omega, (hr.trans hr').trans hr''⟩
    · exact ⟨y, h, hle, hr⟩
  case black => exact I.black_tail hsucc

end Solvor.Graph
