import Solvor.Graph.TarjanVisit
/-!
Graph: the outer loop of the Tarjan mirror and the final certificate – the components emitted by
`tarjan` satisfy `SccCert` on the set explored from the node list, for every input.
-/
namespace Solvor.Graph

theorem TInv.init (adj : Adj) (V : List Nat) : TInv adj V [] TState.init :=
  have hvis : ∀ x, ¬ TState.init.vis x := fun _ h => Bool.noConfusion (show false = true from h)
  { stack_nodup := List.nodup_nil
    comps_nodup := List.nodup_nil
    disj := fun _ hx => absurd hx List.not_mem_nil
    vis_iff := fun x => ⟨fun h => absurd h (hvis x), fun h =>
      h.elim (fun h => absurd h List.not_mem_nil) (fun h => absurd h List.not_mem_nil)⟩
    idx_lt := fun _ k h => absurd (show some k = none from h.symm) (Option.some_ne_none k)
    inV := fun x h => absurd h (hvis x)
    sorted := List.Pairwise.nil
    gray_on := fun _ hy => absurd hy List.not_mem_nil
    gray_sorted := List.Pairwise.nil
    to_gray := fun _ hx => absurd hx List.not_mem_nil
    black := fun x h => absurd h (hvis x)
    em_closed := fun _ hx => absurd hx List.not_mem_nil
    em_order := List.Pairwise.nil
    em_strong := fun _ hc => absurd hc List.not_mem_nil }

theorem TInv.stack_nil {adj : Adj} {V : List Nat} {s : TState} (I : TInv adj V [] s) : s.stack = [] := by
  cases h : s.stack with
  | nil => rfl
  | cons a t =>
    obtain ⟨y, hy, _⟩ := I.to_gray a (by rw [h]; exact List.mem_cons_self)
    cases hy

/-- the loop of `tarjanState` (`for v in node_list: if v not in index: strongconnect(v)`), from any start state;
`tarjanState adj fuel nodes` unfolds to `tarjanFrom adj fuel nodes TState.init` (the `show` in `tarjan_cert`) -/
def tarjanFrom (adj : Adj) (fuel : Nat) (nodes : List Nat) (s : TState) : TState :=
  nodes.foldl (fun s v => if (s.index v).isSome then s else visit adj fuel v s) s

theorem tarjanFrom_cons (adj : Adj) (fuel v : Nat) (rest : List Nat) (s : TState) :
    tarjanFrom adj fuel (v :: rest) s =
      tarjanFrom adj fuel rest (if (s.index v).isSome then s else visit adj fuel v s) := rfl

theorem tarjanLoop_spec {adj : Adj} {V : List Nat} (hc : Closed V adj) {fuel : Nat} (hf : V.length ≤ fuel) :
    ∀ (nodes : List Nat) (s : TState), TInv adj V [] s → nodes ⊆ V →
      TInv adj V [] (tarjanFrom adj fuel nodes s) ∧
      (∀ x, s.vis x → (tarjanFrom adj fuel nodes s).vis x) ∧
      (∀ x ∈ nodes, (tarjanFrom adj fuel nodes s).vis x) := by
  intro nodes
  induction nodes with
  | nil => intro s I _; exact ⟨I, fun _ h => h, nofun⟩
  | cons v rest ih =>
    intro s I hsub
    have hvV : v ∈ V := hsub List.mem_cons_self
    have hrest : rest ⊆ V := fun x hx => hsub (List.mem_cons_of_mem _ hx)
    rw [tarjanFrom_cons]
    by_cases hv : (s.index v).isSome = true
    · rw [if_pos hv]
      obtain ⟨h1, h2, h3⟩ := ih s I hrest
      exact ⟨h1, h2, List.forall_mem_cons.2 ⟨h2 v hv, h3⟩⟩
    · rw [if_neg hv]
      have P := visit_spec hc fuel v s [] I hv hvV nofun (Nat.le_trans List.countP_le_length hf)
      obtain ⟨h1, h2, h3⟩ := ih _ P.inv hrest
      exact ⟨h1, fun x hx => h2 x (P.ext.vis hx),
        List.forall_mem_cons.2 ⟨h2 v (TState.vis_iff_some.2 ⟨_, P.idx_v⟩), h3⟩⟩

theorem tarjan_cert {adj : Adj} {U nodes : List Nat} (hc : Closed U adj) (hs : nodes ⊆ U) :
    SccCert (reach adj U nodes) adj (tarjan U nodes adj) := by
  have hmem : ∀ x, x ∈ reach adj U nodes ↔ ∃ s ∈ nodes, Reach adj s x := fun x => mem_reach_iff hc hs
  have hVc : Closed (reach adj U nodes) adj := by
    intro x hx w hw
    obtain ⟨s0, hs0, hr⟩ := (hmem x).1 hx
    exact (hmem w).2 ⟨s0, hs0, hr.tail hw⟩
  have hVU : reach adj U nodes ⊆ U := by
    intro x hx
    obtain ⟨s0, hs0, hr⟩ := (hmem x).1 hx
    exact hr.mem_closed hc (hs hs0)
  have hnV : nodes ⊆ reach adj U nodes := fun x hx => (hmem x).2 ⟨x, hx, Reach.refl _⟩
  have hlen : (reach adj U nodes).length ≤ U.length + 1 := by
    have := (reach_nodup adj U nodes).length_le_of_subset hVU
    omega
  obtain ⟨I, _, hall⟩ := tarjanLoop_spec hVc hlen nodes TState.init (TInv.init adj _) hnV
  have hstk := I.stack_nil
  show SccCert _ adj (tarjanFrom adj (U.length + 1) nodes TState.init).comps
  generalize tarjanFrom adj (U.length + 1) nodes TState.init = sf at I hall hstk ⊢
  have hvisflat : ∀ x, sf.vis x ↔ x ∈ sf.comps.flatten := by
    intro x; rw [I.vis_iff x, hstk]; simp
  -- everything explored is numbered: finished vertices have numbered successors
  have hvisV : ∀ x ∈ reach adj U nodes, sf.vis x := by
    intro x hx
    obtain ⟨s0, hs0, hr⟩ := (hmem x).1 hx
    exact hr.preserves (fun a ha => I.black a ha List.not_mem_nil) (hall _ hs0)
  exact { closed := hVc, nodup := I.comps_nodup, strong := I.em_strong, order := I.em_order,
          cover := fun x => ⟨fun h => I.inV x ((hvisflat x).2 h), fun h => (hvisflat x).1 (hvisV x h)⟩ }

theorem IsSccDecomp.congr_mem {V V' : List Nat} {adj : Adj} {comps : List (List Nat)}
    (h : ∀ v, v ∈ V ↔ v ∈ V') (D : IsSccDecomp V adj comps) : IsSccDecomp V' adj comps where
  nodup := D.nodup
  cover := fun v => (D.cover v).trans (h v)
  nonempty := D.nonempty
  classes := fun u hu v hv => D.classes u ((h u).2 hu) v ((h v).2 hv)
  order := D.order

theorem reach_eq_nodes_of_closed {adj : Adj} {nodes : List Nat} (hc : Closed nodes adj) (x : Nat) :
    x ∈ reach adj nodes nodes ↔ x ∈ nodes :=
  mem_reach_iff_of_closed_src hc (fun _ h => h) hc x

end Solvor.Graph
