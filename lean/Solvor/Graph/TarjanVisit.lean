import Solvor.Graph.TarjanLemmas
/-!
Graph: `strongconnect` (`visit`) establishes its postcondition – by induction on the fuel, with an
inner induction over the successor loop (`FInv`).  What a stretch of the run leaves untouched is one relation, `Ext`.
-/
namespace Solvor.Graph

/-- number of vertices of `V` not yet numbered (the recursion measure) -/
def cnt (V : List Nat) (s : TState) : Nat := V.countP fun x => (s.index x).isNone

@[simp] theorem setLow_stack (s : TState) (v x : Nat) : (s.setLow v x).stack = s.stack := rfl
@[simp] theorem setLow_comps (s : TState) (v x : Nat) : (s.setLow v x).comps = s.comps := rfl
@[simp] theorem setLow_index (s : TState) (v x : Nat) : (s.setLow v x).index = s.index := rfl
@[simp] theorem setLow_next (s : TState) (v x : Nat) : (s.setLow v x).next = s.next := rfl
@[simp] theorem setLow_idx (s : TState) (v x y : Nat) : (s.setLow v x).idx y = s.idx y := rfl
@[simp] theorem setLow_low_self (s : TState) (v x : Nat) : (s.setLow v x).low v = x := by simp [TState.setLow]
theorem setLow_low_ne (s : TState) {v y : Nat} (x : Nat) (h : y ≠ v) : (s.setLow v x).low y = s.low y := by
  simp [TState.setLow, h]
theorem setLow_vis (s : TState) (v x y : Nat) : (s.setLow v x).vis y ↔ s.vis y := Iff.rfl

theorem TInv.setLow {adj : Adj} {V g : List Nat} {s : TState} (I : TInv adj V g s) (v x : Nat) :
    TInv adj V g (s.setLow v x) :=
  { I with }

/-- postcondition of `strongconnect(v)` started in `s` with gray chain `g`.  `outcome`: the component of `v` was popped, or `v` stays
on the stack under a segment `L` and `low_link[v]` is the number of an older stack entry that `v` reaches; the last clause is what
the caller's loop invariant keeps about the segment (`FInv.seg`). -/
structure VPost (adj : Adj) (V g : List Nat) (s : TState) (v : Nat) (s' : TState) : Prop where
  inv       : TInv adj V g s'
  fr_idx    : ∀ x, s.vis x → s'.index x = s.index x
  fr_low    : ∀ x, s.vis x → s'.low x = s.low x
  idx_v     : s'.index v = some s.next
  new_idx   : ∀ x k, ¬ s.vis x → s'.index x = some k → s.next ≤ k
  comps_ext : ∃ cs, s'.comps = s.comps ++ cs
  outcome   : (s'.stack = s.stack ∧ s'.low v = s.next) ∨
              (∃ L, s'.stack = L ++ v :: s.stack ∧ s'.low v < s.next ∧
                (∃ y ∈ s.stack, s'.idx y = s'.low v ∧ Reach adj v y) ∧
                (∀ x ∈ L ++ [v], ∀ z ∈ adj x, z ∈ s'.stack → s'.low v ≤ s'.idx z))

/-- `s'` comes later in the run than `s`: what such a stretch leaves untouched -/
structure Ext (s s' : TState) : Prop where
  idx   : ∀ x, s.vis x → s'.index x = s.index x
  low   : ∀ x, s.vis x → s'.low x = s.low x
  next  : s.next ≤ s'.next
  new   : ∀ x k, ¬ s.vis x → s'.index x = some k → s.next ≤ k
  comps : ∃ cs, s'.comps = s.comps ++ cs

theorem Ext.vis {s s' : TState} (E : Ext s s') {x : Nat} (hx : s.vis x) : s'.vis x := by
  unfold TState.vis at *
  rw [E.idx x hx]; exact hx

theorem Ext.idx_eq {s s' : TState} (E : Ext s s') {x : Nat} (hx : s.vis x) : s'.idx x = s.idx x := by
  unfold TState.idx; rw [E.idx x hx]

theorem Ext.trans {s t u : TState} (E : Ext s t) (E' : Ext t u) : Ext s u where
  idx := fun x hx => (E'.idx x (E.vis hx)).trans (E.idx x hx)
  low := fun x hx => (E'.low x (E.vis hx)).trans (E.low x hx)
  next := Nat.le_trans E.next E'.next
  new := fun x k hx hk => by
    by_cases ht : t.vis x
    · exact E.new x k hx (E'.idx x ht ▸ hk)
    · exact Nat.le_trans E.next (E'.new x k ht hk)
  comps := by
    obtain ⟨cs, hcs⟩ := E.comps
    obtain ⟨cs', hcs'⟩ := E'.comps
    exact ⟨cs ++ cs', by rw [hcs', hcs, List.append_assoc]⟩

theorem Ext.push {s : TState} {v : Nat} (hv : ¬ s.vis v) : Ext s (s.push v) where
  idx := fun x hx => by rw [push_index, if_neg fun (h : x = v) => hv (h ▸ hx)]
  low := fun x hx => by rw [push_low, if_neg fun (h : x = v) => hv (h ▸ hx)]
  next := Nat.le_succ _
  new := fun x k hx hk => by
    rw [push_index] at hk
    by_cases hxv : x = v
    · rw [if_pos hxv] at hk
      exact Nat.le_of_eq (Option.some.inj hk)
    · rw [if_neg hxv] at hk
      exact absurd (TState.vis_iff_some.2 ⟨k, hk⟩) hx
  comps := ⟨[], (List.append_nil _).symm⟩

theorem Ext.setLow {s t : TState} {v : Nat} (E : Ext s t) (hv : ¬ s.vis v) (x : Nat) : Ext s (t.setLow v x) :=
  { E with low := fun y hy => (setLow_low_ne t x fun (h : y = v) => hv (h ▸ hy)).trans (E.low y hy) }

theorem Ext.cnt_lt {V : List Nat} {s t : TState} (E : Ext s t) {v : Nat} (hv : ¬ s.vis v) (hvV : v ∈ V) (htv : t.vis v) :
    cnt V t < cnt V s := by
  refine countP_lt_of_imp (fun y _ hy => ?_) hvV ?_ ?_
  · cases hs : s.index y with
    | none => rfl
    | some k =>
      rw [E.idx y (TState.vis_iff_some.2 ⟨k, hs⟩), hs] at hy
      exact hy
  · rw [TState.not_vis_iff.1 hv]; rfl
  · obtain ⟨k, hk⟩ := TState.vis_iff_some.1 htv
    rw [hk]; rfl

theorem VPost.ext {adj : Adj} {V g : List Nat} {s s' : TState} {v : Nat} (P : VPost adj V g s v s') : Ext s s' :=
  { idx := P.fr_idx, low := P.fr_low, next := Nat.le_of_lt (P.inv.idx_lt v _ P.idx_v), new := P.new_idx, comps := P.comps_ext }

/-- invariant of `for w in neighbors(v)` in the call `strongconnect(v)` entered in state `s`; `m` is the value `low_link[v]` is
entitled to (a parameter of its own, so that the recursive call and the assignment to `low_link[v]` are separate steps).  `done`:
the successors handled so far; `xv`, `seg`: an edge out of `v` to a member of `done`, resp. out of the segment stacked above `v`, that
ends on the stack ends at an entry numbered `≥ m` (together they are `hX` of `finish_spec`). -/
structure FInv (adj : Adj) (V g : List Nat) (s : TState) (v : Nat) (done : List Nat) (t : TState) (m : Nat) : Prop where
  inv     : TInv adj V (v :: g) t
  fresh   : ¬ s.vis v
  ext     : Ext s t
  idx_v   : t.index v = some s.next
  seg     : ∃ L, t.stack = L ++ v :: s.stack ∧ ∀ x ∈ L, ∀ z ∈ adj x, z ∈ t.stack → m ≤ t.idx z
  xv      : ∀ z ∈ done, t.vis z ∧ (z ∈ t.stack → m ≤ t.idx z)
  low_le  : m ≤ t.idx v
  low_wit : ∃ y ∈ t.stack, t.idx y = m ∧ Reach adj v y

theorem VPost.old_on_stack {adj : Adj} {V g : List Nat} {t s' : TState} {w : Nat}
    (It : TInv adj V g t) (P : VPost adj V g t w s') {z : Nat} (hz : t.vis z) (hzs : z ∈ s'.stack) :
    z ∈ t.stack := by
  rcases (It.vis_iff z).1 hz with h | h
  · exact h
  · exfalso
    obtain ⟨cs, hcs⟩ := P.comps_ext
    have : z ∈ s'.comps.flatten := by rw [hcs]; simp [h]
    exact P.inv.disj z hzs this

section step
variable {adj : Adj} {V g : List Nat} {s : TState} {v : Nat}

theorem FInv.vis_v {done : List Nat} {t : TState} {m : Nat} (F : FInv adj V g s v done t m) : t.vis v :=
  TState.vis_iff_some.2 ⟨_, F.idx_v⟩

theorem FInv.setLow {done : List Nat} {t : TState} {m : Nat} (F : FInv adj V g s v done t m) (x : Nat) :
    FInv adj V g s v done (t.setLow v x) m :=
  { F with inv := F.inv.setLow v x, ext := F.ext.setLow F.fresh x }

theorem FInv.lower_min {done : List Nat} {t : TState} {m : Nat} (F : FInv adj V g s v done t m) (k : Nat)
    (hk : k < m → ∃ y ∈ t.stack, t.idx y = k ∧ Reach adj v y) : FInv adj V g s v done t (min m k) := by
  by_cases h : k < m
  · have hm := Nat.le_of_lt h
    rw [Nat.min_eq_right hm]
    exact { F with
      seg := F.seg.imp fun L h => ⟨h.1, fun x hx z hz hzs => Nat.le_trans hm (h.2 x hx z hz hzs)⟩
      xv := fun z hz => ⟨(F.xv z hz).1, fun h => Nat.le_trans hm ((F.xv z hz).2 h)⟩
      low_le := Nat.le_trans hm F.low_le
      low_wit := hk h }
  · rw [Nat.min_eq_left (Nat.le_of_not_lt h)]
    exact F

theorem FInv.snoc {done : List Nat} {t : TState} {m : Nat} (F : FInv adj V g s v done t m) {w : Nat}
    (hvis : t.vis w) (hw : w ∈ t.stack → m ≤ t.idx w) : FInv adj V g s v (done ++ [w]) t m :=
  { F with
    xv := fun z hz => (List.mem_append.1 hz).elim (F.xv z) fun h => by
      rw [List.mem_singleton.1 h]
      exact ⟨hvis, hw⟩ }

theorem FInv.call {done : List Nat} {t s' : TState} {m : Nat} (F : FInv adj V g s v done t m)
    {w : Nat} (hw : w ∈ adj v)
    (P : VPost adj V (v :: g) t w s') : FInv adj V g s v (done ++ [w]) s' (min m (s'.low w)) := by
  have hvvis : t.vis v := F.vis_v
  have E := P.ext
  have hstvis : ∀ z, z ∈ t.stack → t.vis z := fun z hz => (F.inv.vis_iff z).2 (Or.inl hz)
  have hmlt : m < t.next := Nat.lt_of_le_of_lt F.low_le (F.inv.idx_lt_next hvvis)
  obtain ⟨L0, hL0, hxL0⟩ := F.seg
  -- both outcomes in one form: the call left a stack segment `Lw` (empty if the component was popped)
  obtain ⟨Lw, hst, hXw, hwitw⟩ : ∃ L, s'.stack = L ++ t.stack ∧
      (∀ x ∈ L, ∀ z ∈ adj x, z ∈ s'.stack → s'.low w ≤ s'.idx z) ∧
      (s'.low w < t.next → ∃ y ∈ t.stack, s'.idx y = s'.low w ∧ Reach adj w y) := by
    rcases P.outcome with ⟨hst, hlw⟩ | ⟨L, hst, _, hwit, hX⟩
    · exact ⟨[], hst, fun _ hx => absurd hx List.not_mem_nil,
        fun h => absurd h (by rw [hlw]; exact Nat.lt_irrefl _)⟩
    · exact ⟨L ++ [w], by rw [hst, List.append_cons], hX, fun _ => hwit⟩
  have hsub : ∀ z, z ∈ t.stack → z ∈ s'.stack := fun z hz => by
    rw [hst]
    exact List.mem_append_right _ hz
  have hstk' : s'.stack = (Lw ++ L0) ++ v :: s.stack := by rw [hst, hL0, List.append_assoc]
  have hgb := F.inv.gray_below hL0
  obtain ⟨_, _, hvL0, hL0r⟩ := F.inv.above hL0
  have hblack : ∀ x ∈ L0, ∀ z ∈ adj x, t.vis z := by
    intro x hx z hz
    have hxs : x ∈ t.stack := by rw [hL0]; exact List.mem_append_left _ hx
    refine F.inv.black x (hstvis x hxs) ?_ z hz
    intro hxg
    rcases List.mem_cons.1 hxg with h | h
    · exact hvL0 (h ▸ hx)
    · exact hL0r x hx (hgb x h)
  have hml := Nat.min_le_left m (s'.low w)
  have hmr := Nat.min_le_right m (s'.low w)
  refine { inv := P.inv, fresh := F.fresh, ext := F.ext.trans E, idx_v := (E.idx v hvvis).trans F.idx_v,
           seg := ⟨Lw ++ L0, hstk', ?xL⟩, xv := ?xv, low_le := ?low_le, low_wit := ?low_wit }
  case xL =>
    intro x hx z hz hzs
    rcases List.mem_append.1 hx with h | h
    · exact Nat.le_trans hmr (hXw x h z hz hzs)
    · have hzt := hblack x h z hz
      rw [E.idx_eq hzt]
      exact Nat.le_trans hml (hxL0 x h z hz (P.old_on_stack F.inv hzt hzs))
  case xv =>
    intro z hz
    rcases List.mem_append.1 hz with h | h
    · obtain ⟨h1, h2⟩ := F.xv z h
      exact ⟨E.vis h1, fun h' => by
        rw [E.idx_eq h1]
        exact Nat.le_trans hml (h2 (P.old_on_stack F.inv h1 h'))⟩
    · rw [List.mem_singleton.1 h]
      exact ⟨TState.vis_iff_some.2 ⟨_, P.idx_v⟩, fun _ => by
        rw [TState.idx_of_some P.idx_v]
        exact Nat.le_trans hml (Nat.le_of_lt hmlt)⟩
  case low_le =>
    rw [E.idx_eq hvvis]
    exact Nat.le_trans hml F.low_le
  case low_wit =>
    by_cases hc : s'.low w < m
    · rw [Nat.min_eq_right (Nat.le_of_lt hc)]
      obtain ⟨yw, hyw, hiyw, hryw⟩ := hwitw (Nat.lt_trans hc hmlt)
      exact ⟨yw, hsub yw hyw, hiyw, Reach.head hw hryw⟩
    · rw [Nat.min_eq_left (Nat.le_of_not_lt hc)]
      obtain ⟨y, hy, hiy, hry⟩ := F.low_wit
      exact ⟨y, hsub y hy, (E.idx_eq (hstvis y hy)).trans hiy, hry⟩

end step

theorem cnt_pos {V : List Nat} {s : TState} {v : Nat} (hv : ¬ s.vis v) (hvV : v ∈ V) : 0 < cnt V s := by
  unfold cnt
  rw [List.countP_pos_iff]
  exact ⟨v, hvV, by have := TState.not_vis_iff.1 hv; simp [this]⟩

theorem fold_spec {adj : Adj} {V g : List Nat} {s : TState} {v : Nat}
    (rec : Nat → TState → TState)
    (hrec : ∀ w t, TInv adj V (v :: g) t → ¬ t.vis w → w ∈ adj v → cnt V t < cnt V s →
      VPost adj V (v :: g) t w (rec w t)) :
    ∀ (ws done : List Nat) (t : TState), FInv adj V g s v done t (t.low v) → (∀ w ∈ ws, w ∈ adj v) →
      FInv adj V g s v (done ++ ws) (ws.foldl (tstep rec v) t) ((ws.foldl (tstep rec v) t).low v) := by
  intro ws
  induction ws with
  | nil => intro done t F _; simpa using F
  | cons w ws ih =>
    intro done t F hws
    have hw : w ∈ adj v := hws w List.mem_cons_self
    have hrest : ∀ x ∈ ws, x ∈ adj v := fun x hx => hws x (List.mem_cons_of_mem _ hx)
    rw [List.foldl_cons]
    have hassoc : done ++ w :: ws = (done ++ [w]) ++ ws := by simp
    rw [hassoc]
    apply ih _ _ _ hrest
    unfold tstep
    cases hi : t.index w with
    | none =>
      -- recursive call, then `low_link[v] = min(low_link[v], low_link[w])`
      have hnv : ¬ t.vis w := TState.not_vis_iff.2 hi
      have P := hrec w t F.inv hnv hw (F.ext.cnt_lt F.fresh (F.inv.inV v F.vis_v) F.vis_v)
      simp only
      rw [setLow_low_self, P.fr_low v F.vis_v]
      exact (F.call hw P).setLow _
    | some iw =>
      simp only
      have hidx : t.idx w = iw := TState.idx_of_some hi
      have hvis : t.vis w := TState.vis_iff_some.2 ⟨iw, hi⟩
      by_cases hst : w ∈ t.stack
      · -- on the stack: `low_link[v] = min(low_link[v], index[w])`
        simp only [List.contains_iff_mem, hst, if_true]
        rw [setLow_low_self]
        exact ((F.lower_min iw fun _ => ⟨w, hst, hidx, Reach.single hw⟩).snoc hvis
          fun _ => hidx ▸ Nat.min_le_right _ _).setLow _
      · -- already emitted: nothing happens
        simp only [List.contains_iff_mem, hst, if_false]
        exact F.snoc hvis fun h => absurd h hst

theorem FInv.init {adj : Adj} {V g : List Nat} {s : TState} {v : Nat} (hv : ¬ s.vis v)
    (I1 : TInv adj V (v :: g) (s.push v)) : FInv adj V g s v [] (s.push v) ((s.push v).low v) := by
  refine { inv := I1, fresh := hv, ext := Ext.push hv, idx_v := by rw [push_index, if_pos rfl],
           seg := ⟨[], rfl, nofun⟩, xv := nofun, low_le := ?low_le, low_wit := ?low_wit }
  case low_le => rw [push_low, push_idx_self]; simp
  case low_wit => exact ⟨v, by simp, by rw [push_low, push_idx_self]; simp, Reach.refl _⟩

theorem finish_spec {adj : Adj} {V g : List Nat} {s t : TState} {v : Nat}
    (F : FInv adj V g s v (adj v) t (t.low v)) : VPost adj V g s v (finish v s.next t) := by
  have hiv : t.idx v = s.next := TState.idx_of_some F.idx_v
  obtain ⟨L, hst, hxL⟩ := F.seg
  obtain ⟨hLab, hRab, hvL, _⟩ := F.inv.above hst
  have hsucc : ∀ w ∈ adj v, t.vis w := fun w hw => (F.xv w hw).1
  have hX : ∀ x ∈ L ++ [v], ∀ z ∈ adj x, z ∈ t.stack → t.low v ≤ t.idx z := by
    intro x hx z hz hzs
    rcases List.mem_append.1 hx with h | h
    · exact hxL x h z hz hzs
    · rw [List.mem_singleton.1 h] at hz
      exact (F.xv z hz).2 hzs
  obtain ⟨cs, hcs⟩ := F.ext.comps
  unfold finish
  by_cases hlow : t.low v = s.next
  · simp only [hlow, if_true]
    rw [hst, popTo_spec v L s.stack [] hvL]
    simp only [List.reverse_nil, List.nil_append]
    have hXrest : ∀ x ∈ L ++ [v], ∀ z ∈ adj x, z ∉ s.stack := by
      intro x hx z hz hzr
      have hzs : z ∈ t.stack := by rw [hst]; exact List.mem_append_right _ (List.mem_cons_of_mem _ hzr)
      have h1 := hX x hx z hz hzs
      have h2 := (hRab z hzr).1
      omega
    refine { inv := F.inv.pop hst hsucc hXrest, fr_idx := F.ext.idx, fr_low := F.ext.low, idx_v := F.idx_v,
             new_idx := F.ext.new, comps_ext := ⟨cs ++ [L ++ [v]], ?_⟩, outcome := Or.inl ⟨rfl, hlow⟩ }
    show t.comps ++ [L ++ [v]] = s.comps ++ (cs ++ [L ++ [v]])
    rw [hcs, List.append_assoc]
  · simp only [hlow, if_false]
    have hlt : t.low v < s.next := by have := F.low_le; omega
    obtain ⟨y, hy, hiy, hry⟩ := F.low_wit
    have hyrest : y ∈ s.stack := F.inv.mem_below hst hy (by omega)
    exact { inv := F.inv.keep hsucc ⟨y, hy, by omega, hry⟩, fr_idx := F.ext.idx, fr_low := F.ext.low, idx_v := F.idx_v,
            new_idx := F.ext.new, comps_ext := F.ext.comps, outcome := Or.inr ⟨L, hst, hlt, ⟨y, hyrest, hiy, hry⟩, hX⟩ }

theorem visit_spec {adj : Adj} {V : List Nat} (hc : Closed V adj) (fuel : Nat) :
    ∀ (v : Nat) (s : TState) (g : List Nat), TInv adj V g s → ¬ s.vis v → v ∈ V →
      (∀ p ∈ g.head?, v ∈ adj p) → cnt V s ≤ fuel →
      VPost adj V g s v (visit adj fuel v s) := by
  induction fuel with
  | zero =>
    intro v s g _ hv hvV _ hcnt
    have := cnt_pos hv hvV
    omega
  | succ f ih =>
    intro v s g I hv hvV hp hcnt
    have I1 := I.push hv hvV hp
    have hrec : ∀ w t, TInv adj V (v :: g) t → ¬ t.vis w → w ∈ adj v → cnt V t < cnt V s →
        VPost adj V (v :: g) t w (visit adj f w t) := by
      intro w t It hnw hw hct
      exact ih w t (v :: g) It hnw (hc v hvV w hw) (fun p hp => Option.some.inj hp ▸ hw) (by omega)
    have F := fold_spec (visit adj f) hrec (adj v) [] (s.push v) (FInv.init hv I1) (fun w hw => hw)
    simp only [List.nil_append] at F
    show VPost adj V g s v (finish v s.next ((adj v).foldl (tstep (visit adj f) v) (s.push v)))
    exact finish_spec F

end Solvor.Graph
