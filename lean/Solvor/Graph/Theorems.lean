import Solvor.Graph.OpenLemmas
import Solvor.Graph.TarjanTop
/-! Graph: the property theorems of C14 (specifications: `Spec.lean`), each with test vectors. -/
namespace Solvor.Graph

/-- [C] C14, first clause: a partition of `V` into non-empty strongly connected sets, listed so that no edge goes from an earlier
to a later class (in a graph closed under `adj`), *is* the set of mutual-reachability classes, sinks first
(the audited name of `SccCert.isSccDecomp`, Lemmas.lean). -/
theorem scc_cert {V : List Nat} {adj : Adj} {comps : List (List Nat)} (C : SccCert V adj comps) :
    IsSccDecomp V adj comps := C.isSccDecomp

/-- the checker the driver evaluates on the implementation's output decides the specification: closed graph and SCC decomposition.
`chkScc_iff_cert` (Lemmas.lean) says what its clauses test one by one, the certificate `SccCert`; the step between the two is
`scc_cert` and `IsSccDecomp.cert`. -/
theorem chkScc_iff {V : List Nat} {adj : Adj} {comps : List (List Nat)} :
    chkScc V adj comps = true ↔ Closed V adj ∧ IsSccDecomp V adj comps :=
  ⟨fun h => ⟨(chkScc_iff_cert.1 h).closed, scc_cert (chkScc_iff_cert.1 h)⟩,
   fun h => chkScc_iff_cert.2 (h.2.cert h.1)⟩

/-- the audited name of `mem_reach_iff` (Lemmas.lean) -/
theorem reach_correct {adj : Adj} {U src : List Nat} (hc : Closed U adj) (hs : src ⊆ U) (x : Nat) :
    x ∈ reach adj U src ↔ ∃ s ∈ src, Reach adj s x := mem_reach_iff hc hs

theorem scc_decomp_unique {V : List Nat} {adj : Adj} {c₁ c₂ : List (List Nat)}
    (h₁ : chkScc V adj c₁ = true) (h₂ : chkScc V adj c₂ = true) :
    ∀ u ∈ V, ∀ v ∈ V, (∃ c ∈ c₁, u ∈ c ∧ v ∈ c) ↔ (∃ c ∈ c₂, u ∈ c ∧ v ∈ c) := by
  intro u hu v hv
  rw [(chkScc_iff.1 h₁).2.classes u hu v hv, (chkScc_iff.1 h₂).2.classes u hu v hv]

def exAdj : Adj := fun v => match v with
  | 0 => [1] | 1 => [2] | 2 => [0, 3] | 3 => [3] | _ => []

-- non-vacuity; refused: a wrong order, a wrong split
theorem exAdj_scc : chkScc [0, 1, 2, 3] exAdj [[3], [2, 1, 0]] = true := by decide
example : chkScc [0, 1, 2, 3] exAdj [[3], [2, 1, 0]] = true := exAdj_scc
example : chkScc [0, 1, 2, 3] exAdj [[2, 1, 0], [3]] = false := by decide
example : chkScc [0, 1, 2, 3] exAdj [[3], [2, 1], [0]] = false := by decide
example : SccCert [0, 1, 2, 3] exAdj [[3], [2, 1, 0]] := chkScc_iff_cert.1 exAdj_scc

/-- [C] C14, second clause, for the mirror of `topological_sort` on every duplicate-free node list: a returned order is a
permutation of the nodes with every edge between nodes pointing forward, and INFEASIBLE is reported exactly when the graph induced
on the node list has a cycle. -/
theorem kahn_correct (nodes : List Nat) (adj : Adj) (hn : nodes.Nodup) :
    (∀ order, kahn nodes adj = some order → IsTopoOrder nodes adj order) ∧
    (kahn nodes adj = none ↔ Cyclic nodes adj) := by
  obtain ⟨deg', I⟩ := kahnLoop_inv hn nodes.length _ _ _ (KInv.init (adj := adj) hn) (by simp)
  -- `kahn nodes adj` unfolds by `rfl` to the `if` below at `R = kahnLoop …` started as in `KInv.init` (`indeg0` is the `deg` of
  -- `kahn`): that is how `key` applies at the end
  have key : ∀ R, KInv nodes adj [] deg' [] R →
      (∀ order, (if R.length = nodes.length then some R else none) = some order → IsTopoOrder nodes adj order) ∧
      ((if R.length = nodes.length then some R else none) = none ↔ Cyclic nodes adj) := by
    intro R I
    by_cases hl : R.length = nodes.length
    · have T := I.final_topo hn hl
      rw [if_pos hl]
      exact ⟨fun order h => Option.some.inj h ▸ T, nofun, fun hc => absurd hc T.acyclic⟩
    · rw [if_neg hl]
      exact ⟨nofun, fun _ => I.final_cyclic hn hl, fun _ => rfl⟩
  exact key _ I

/-- stuck-set form of the INFEASIBLE clause (the audited name of `exists_cycle_of_pred_closed`, KahnLemmas.lean) -/
theorem stuck_set_has_cycle {adj : Adj} {S : List Nat} (hne : S ≠ [])
    (hp : ∀ x ∈ S, ∃ p ∈ S, x ∈ adj p) : ∃ v ∈ S, OnCycle adj v := exists_cycle_of_pred_closed hne hp

/-- the audited name of `IsTopoOrder.acyclic` (KahnLemmas.lean) -/
theorem topo_order_acyclic {nodes : List Nat} {adj : Adj} {order : List Nat}
    (T : IsTopoOrder nodes adj order) : ¬ Cyclic nodes adj := T.acyclic

theorem chkTopo_correct {nodes : List Nat} {adj : Adj} (hn : nodes.Nodup) (order : List Nat) :
    chkTopo nodes adj order = true ↔ IsTopoOrder nodes adj order := by
  unfold chkTopo
  simp only [Bool.and_eq_true, decide_eq_true_eq, List.all_eq_true, List.contains_iff_mem,
    not_or_eq_true]
  exact ⟨fun ⟨⟨⟨h1, h2⟩, h3⟩, h4⟩ => ⟨(List.perm_ext_iff_of_nodup h1 hn).2 fun a => ⟨h2 a, h3 a⟩, h4⟩,
    fun T => ⟨⟨⟨T.perm.nodup_iff.2 hn, fun _ h => T.perm.mem_iff.1 h⟩, fun _ h => T.perm.mem_iff.2 h⟩,
      T.forward⟩⟩

/-- the audited name of `cyclicB_iff` (KahnLemmas.lean) -/
theorem cyclicB_correct (nodes : List Nat) (adj : Adj) : cyclicB nodes adj = true ↔ Cyclic nodes adj :=
  cyclicB_iff

-- non-vacuity: a DAG with a duplicate edge gets an order, the example graph above is refused
example : kahn [2, 0, 1] (fun v => match v with | 0 => [1, 1] | 2 => [0] | _ => []) = some [2, 0, 1] := by decide
example : kahn [0, 1, 2, 3] exAdj = none := by decide
example : IsTopoOrder [2, 0, 1] (fun v => match v with | 0 => [1, 1] | 2 => [0] | _ => []) [2, 0, 1] :=
  (kahn_correct _ _ (by decide)).1 _ (by decide)
example : Cyclic [0, 1, 2, 3] exAdj := (kahn_correct _ _ (by decide)).2.1 (by decide)

/-- [C] C14, third clause: in a condensation every listed edge goes to an earlier class; hence the condensed graph is acyclic. -/
theorem condense_spec {V : List Nat} {adj : Adj} {comps cadj : List (List Nat)}
    (D : IsCondensation V adj comps cadj) :
    (∀ i j, i < comps.length → j ∈ cadjFn cadj i → j < i) ∧ ∀ i, ¬ OnCycle (cadjFn cadj) i :=
  ⟨fun _ _ _ h => D.edge_down h, D.acyclic⟩

theorem chkCondense_correct {V : List Nat} {adj : Adj} {comps cadj : List (List Nat)} :
    chkCondense V adj comps cadj = true ↔ Closed V adj ∧ IsCondensation V adj comps cadj := by
  unfold chkCondense
  simp only [Bool.and_eq_true, chkScc_iff_cert, chkCondEdges_iff, List.all_eq_true, decide_eq_true_eq]
  constructor
  · rintro ⟨⟨C, hl, he⟩, hr⟩
    exact ⟨C.closed, C.isSccDecomp, hl, hr, he⟩
  · rintro ⟨hc, D⟩
    exact ⟨⟨D.scc.cert hc, D.len, D.edges⟩, D.range⟩

/-- the mirror of `condense`'s edge loop is correct on top of any correct decomposition -/
theorem condense_mirror_spec {V U nodes : List Nat} {adj : Adj} (hV : ∀ v, v ∈ nodes ↔ v ∈ V)
    (h : chkScc V adj (tarjan U nodes adj) = true) :
    IsCondensation V adj (condense U nodes adj).1 (condense U nodes adj).2 :=
  condEdges_spec hV (chkScc_iff.1 h).2

example : condense [0, 1, 2, 3] [0, 1, 2, 3] exAdj = ([[3], [2, 1, 0]], [[], [0]]) := by decide
theorem exAdj_cond : chkCondense [0, 1, 2, 3] exAdj [[3], [2, 1, 0]] [[], [0]] = true := by decide
example : chkCondense [0, 1, 2, 3] exAdj [[3], [2, 1, 0]] [[], [0]] = true := exAdj_cond
example : IsCondensation [0, 1, 2, 3] exAdj [[3], [2, 1, 0]] [[], [0]] := (chkCondense_correct.1 exAdj_cond).2

/-! Neighbours outside the node list (the two readings of such an input: Model.lean, "Clause checks …").  `U` is any universe
closed under `adj` that contains the node list. -/

/-- the audited name of `chkSccOpen_iff` (OpenLemmas.lean) -/
theorem chkSccOpen_correct {U nodes : List Nat} {adj : Adj} (hc : Closed U adj) (hs : nodes ⊆ U)
    (comps : List (List Nat)) : chkSccOpen U nodes adj comps = true ↔ SccOpenOK nodes adj comps :=
  chkSccOpen_iff hc hs

theorem chkTopoOpen_correct {U nodes : List Nat} {adj : Adj} (hc : Closed U adj) (hs : nodes ⊆ U)
    (order : List Nat) : chkTopoOpen U nodes adj order = true ↔ TopoOpenOK nodes adj order := by
  unfold chkTopoOpen
  simp only [Bool.and_eq_true, decide_eq_true_eq, List.all_eq_true, List.contains_iff_mem,
    not_or_eq_true, mem_reach_iff hc hs]
  exact ⟨fun ⟨⟨⟨h1, h2⟩, h3⟩, h4⟩ => ⟨h1, h2, h3, h4⟩, fun T => ⟨⟨⟨T.nodup, T.cover⟩, T.explored⟩, T.forward⟩⟩

theorem chkCondOpen_correct {U nodes : List Nat} {adj : Adj} (hc : Closed U adj) (hs : nodes ⊆ U)
    (comps cadj : List (List Nat)) : chkCondOpen U nodes adj comps cadj = true ↔ CondOpenOK nodes adj comps cadj := by
  unfold chkCondOpen
  simp only [Bool.and_eq_true, decide_eq_true_eq, List.all_eq_true, List.contains_iff_mem,
    chkSccOpen_iff hc hs, List.mem_range, List.any_eq_true, bne_iff_ne, ne_eq, Bool.not_eq_true',
    ← Bool.not_eq_true, cyclicB_iff]
  constructor
  · rintro ⟨⟨⟨⟨⟨hscc, hlen⟩, hrange⟩, hsound⟩, hlisted⟩, hacyclic⟩
    refine { scc := hscc, len := hlen, range := hrange, sound := hsound, listed := fun u hu w hw => ?_, acyclic := hacyclic }
    have := hlisted u hu w hw
    split at this
    · rename_i i j hi hj
      simp only [Bool.or_eq_true, beq_iff_eq, List.contains_iff_mem] at this
      exact ⟨i, j, hi, hj, this⟩
    · cases this
  · intro C
    refine ⟨⟨⟨⟨⟨C.scc, C.len⟩, C.range⟩, C.sound⟩, fun u hu w hw => ?_⟩, C.acyclic⟩
    obtain ⟨i, j, hi, hj, h⟩ := C.listed u hu w hw
    rw [hi, hj]
    simp only [Bool.or_eq_true, beq_iff_eq, List.contains_iff_mem]
    exact h

/-- the open clauses follow from the full specification under the induced-graph reading and under the explored-graph reading, so
an answer that is right under one of them is never rejected; for INFEASIBLE the open clause is "the explored graph has a cycle".
The clauses one by one, for any graph in between: `SccOpenOK.of_between`, `TopoOpenOK.of_between`, `CondOpenOK.of_between`,
`Cyclic.mono`. -/
theorem open_clauses_common {V nodes : List Nat} {adj : Adj} (hsub : nodes ⊆ V)
    (hreach : ∀ v ∈ V, ∃ s ∈ nodes, Reach adj s v) :
    (∀ comps, IsSccDecomp nodes (adjIn nodes adj) comps → SccOpenOK nodes adj comps) ∧
    (∀ comps, IsSccDecomp V adj comps → SccOpenOK nodes adj comps) ∧
    (∀ order, nodes.Nodup → IsTopoOrder nodes adj order → TopoOpenOK nodes adj order) ∧
    (∀ order, V.Nodup → IsTopoOrder V adj order → TopoOpenOK nodes adj order) ∧
    (Cyclic nodes adj → Cyclic V adj) ∧
    (∀ comps cadj, IsCondensation nodes (adjIn nodes adj) comps cadj → CondOpenOK nodes adj comps cadj) ∧
    (∀ comps cadj, IsCondensation V adj comps cadj → CondOpenOK nodes adj comps cadj) :=
  -- the induced reading: vertex set `nodes`, neighbour function `adjIn nodes adj`; the explored one: `V`, `adj`
  have hself : ∀ v ∈ nodes, ∃ s ∈ nodes, Reach adj s v := fun v hv => ⟨v, hv, Reach.refl v⟩
  have hin : ∀ u, ∀ w ∈ adjIn nodes adj u, w ∈ adj u := fun _ _ h => (mem_adjIn.1 h).1
  ⟨fun _ D => SccOpenOK.of_between (fun _ h => h) hself (fun _ _ h => h) hin D,
   fun _ D => SccOpenOK.of_between hsub hreach hin (fun _ _ h => h) D,
   fun _ hn T => TopoOpenOK.of_between hn (fun _ h => h) hself hin T,
   fun _ hn T => TopoOpenOK.of_between hn hsub hreach hin T,
   Cyclic.mono hsub,
   fun _ _ D => CondOpenOK.of_between (fun _ h => h) hself (fun _ _ h => h) hin D,
   fun _ _ D => CondOpenOK.of_between hsub hreach hin (fun _ _ h => h) D⟩

/-- an outside vertex: the node list is [0, 1], vertex 2 lies outside -/
def exOpen : Adj := fun v => match v with
  | 0 => [2] | 2 => [1] | 1 => [0] | _ => []

-- the explored reading puts everything in one class, the induced reading gives [[0], [1]]; both pass
example : chkSccOpen [0, 1, 2] [0, 1] exOpen [[1, 2, 0]] = true := by decide
example : chkSccOpen [0, 1, 2] [0, 1] exOpen [[0], [1]] = true := by decide
example : chkSccOpen [0, 1, 2] [0, 1] exOpen [[1], [0]] = false := by decide
example : chkTopoOpen [0, 1, 2] [0, 1] exOpen [1, 0] = true := by decide
example : chkTopoOpen [0, 1, 2] [0, 1] exOpen [0, 1] = false := by decide
example : chkCondOpen [0, 1, 2] [0, 1] exOpen [[0], [1]] [[], [0]] = true := by decide

/-! `U` is any universe closed under the neighbour function that contains the node list (the driver
uses every label occurring in the request); the recursion fuel of the mirror is `U.length + 1` and
is proved sufficient.  The vertex set of the result is `reach adj U nodes`, the set explored from the
node list (equal to the node list when no neighbour lies outside it). -/

/-- [S] C14 for the mirror of `strongly_connected_components`, on every input: the emitted decomposition is accepted by the
certificate checker `chkScc`, i.e. (by `chkScc_iff`) it is the partition of the explored set into the mutual-reachability
classes, sinks first. -/
theorem tarjan_certifies (U nodes : List Nat) (adj : Adj) (hc : Closed U adj) (hs : nodes ⊆ U) :
    chkScc (reach adj U nodes) adj (tarjan U nodes adj) = true :=
  chkScc_iff_cert.2 (tarjan_cert hc hs)

theorem tarjan_correct (U nodes : List Nat) (adj : Adj) (hc : Closed U adj) (hs : nodes ⊆ U) :
    IsSccDecomp (reach adj U nodes) adj (tarjan U nodes adj) :=
  scc_cert (tarjan_cert hc hs)

theorem tarjan_correct_closed (U nodes : List Nat) (adj : Adj) (hc : Closed U adj) (hs : nodes ⊆ U)
    (hcn : Closed nodes adj) : IsSccDecomp nodes adj (tarjan U nodes adj) :=
  (tarjan_correct U nodes adj hc hs).congr_mem (mem_reach_iff_of_closed_src hc hs hcn)

/-- for every input without outside neighbours the mirror of `condense` returns the condensation (hence, by `condense_spec`, an
acyclic graph) -/
theorem condense_correct (U nodes : List Nat) (adj : Adj) (hc : Closed U adj) (hs : nodes ⊆ U)
    (hcn : Closed nodes adj) :
    IsCondensation nodes adj (condense U nodes adj).1 (condense U nodes adj).2 :=
  condEdges_spec (fun _ => Iff.rfl) (tarjan_correct_closed U nodes adj hc hs hcn)

-- non-vacuity: the example graph (a 3-cycle feeding a self loop) and the graph with an outside vertex
example : tarjan [0, 1, 2, 3] [0, 1, 2, 3] exAdj = [[3], [2, 1, 0]] := by decide
example : Closed [0, 1, 2, 3] exAdj := closedB_iff.1 (by decide)
example : IsSccDecomp [0, 1, 2, 3] exAdj (tarjan [0, 1, 2, 3] [0, 1, 2, 3] exAdj) :=
  tarjan_correct_closed _ _ _ (closedB_iff.1 (by decide)) (fun _ h => h) (closedB_iff.1 (by decide))
example : tarjan [0, 1, 2] [0, 1] exOpen = [[1, 2, 0]] := by decide
example : chkScc (reach exOpen [0, 1, 2] [0, 1]) exOpen (tarjan [0, 1, 2] [0, 1] exOpen) = true :=
  tarjan_certifies _ _ _ (closedB_iff.1 (by decide)) (by decide)

end Solvor.Graph
