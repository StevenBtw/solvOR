import Solvor.Pack.BinLemmas
/-!
Pack: completeness of the packing enumerator `packsInto` (a valid packing into `k` bins is found), and with it
`leastFrom_le`: the search for the least `k` stops at or before any `k` that works.  (`minBinsP_le` in
`Theorems.lean` reads the lower bound off this.)
-/
namespace Solvor.Pack
attribute [-simp] List.getD_eq_getElem?_getD

theorem set_perm_eraseIdx (l : List Rat) (x : Rat) (b : Nat) (h : b < l.length) : (l.set b x).Perm (x :: l.eraseIdx b) := by
  rw [List.set_eq_take_append_cons_drop, if_pos h, List.eraseIdx_eq_take_drop_succ]
  exact List.perm_middle

theorem perm_getD_eraseIdx (l : List Rat) (b : Nat) (h : b < l.length) : l.Perm (l.getD b 0 :: l.eraseIdx b) := by
  have := set_perm_eraseIdx l l[b] b h
  rwa [List.set_getElem_self, ← getD_of_lt h 0] at this

theorem choices_mem (post : List Rat) : ∀ (pre : List Rat) (r : Rat), r ∈ post → r ∉ pre →
    ∃ o, (r, o) ∈ choices pre post ∧ (pre.reverse ++ post).Perm (r :: o) := by
  induction post with
  | nil => intro pre r h; simp at h
  | cons x post ih =>
    intro pre r hr hpre
    unfold choices
    by_cases hx : x = r
    · subst hx
      have : pre.contains x = false := by
        cases h : pre.contains x
        · rfl
        · exact absurd (List.contains_iff_mem.1 h) hpre
      refine ⟨pre.reverse ++ post, ?_, List.perm_middle⟩
      rw [this]; simp
    · have hr' : r ∈ post := by
        rcases List.mem_cons.1 hr with h | h
        · exact absurd h.symm hx
        · exact h
      obtain ⟨o, ho, hp⟩ := ih (x :: pre) r hr' (by
        intro h
        rcases List.mem_cons.1 h with h | h
        · exact hx h.symm
        · exact hpre h)
      refine ⟨o, List.mem_append_right _ ho, ?_⟩
      simpa using hp

/-- If the items `order` can be assigned (`asg`) to bins whose remaining capacities `B` are, up to order, the open bins
plus `m` fresh bins, without overfilling any, then `packsInto` finds a packing. -/
theorem packsInto_complete (cap : Rat) (sizes : List Rat) (asg : List Nat) (hs : ∀ i, 0 ≤ sizes.getD i 0) :
    ∀ (order : List Nat) (B opened : List Rat) (m : Nat),
    B.Perm (opened ++ List.replicate m cap) →
    (∀ i ∈ order, asg.getD i 0 < B.length) →
    (∀ b, b < B.length → pload sizes asg order b ≤ B.getD b 0) →
    packsInto cap (order.map fun i => sizes.getD i 0) opened m = true := by
  intro order
  induction order with
  | nil => intro B opened m _ _ _; rfl
  | cons i rest ih =>
    intro B opened m hperm hp hload
    have hb0 : asg.getD i 0 < B.length := hp i List.mem_cons_self
    have hps : ∀ q ∈ rest, asg.getD q 0 < B.length := fun q hq => hp q (List.mem_cons_of_mem _ hq)
    have hnn : ∀ b, 0 ≤ pload sizes asg rest b := fun b => sum_map_nonneg _ _ (fun q _ => hs q)
    generalize hs' : sizes.getD i 0 = s at *
    generalize hb' : asg.getD i 0 = b0 at *
    have hfit : s ≤ B.getD b0 0 := by
      have := hload b0 hb0
      rw [pload_cons, hs', hb', if_pos rfl] at this
      exact Rat.le_trans (le_add_of_nonneg_rat (hnn b0)) this
    have hrest : ∀ b, b < (B.set b0 (B.getD b0 0 - s)).length →
        pload sizes asg rest b ≤ (B.set b0 (B.getD b0 0 - s)).getD b 0 := by
      intro b hb
      rw [List.length_set] at hb
      have := hload b hb
      rw [pload_cons, hs', hb'] at this
      simp only [getD_set, and_iff_left hb0]
      by_cases hbb : b0 = b
      · subst hbb
        rw [if_pos rfl]
        rw [if_pos rfl] at this
        refine (Rat.add_le_add_left (c := s)).1 ?_
        rw [Rat.add_comm s (B.getD b0 0 - s), Rat.sub_add_cancel]
        exact this
      · rw [if_neg hbb]
        rw [if_neg hbb, Rat.zero_add] at this
        exact this
    have hps' : ∀ q ∈ rest, asg.getD q 0 < (B.set b0 (B.getD b0 0 - s)).length := by
      rw [List.length_set]; exact hps
    have hB := perm_getD_eraseIdx B b0 hb0
    have hB' := set_perm_eraseIdx B (B.getD b0 0 - s) b0 hb0
    have hmem : B.getD b0 0 ∈ opened ++ List.replicate m cap := hperm.mem_iff.1 (getD_mem hb0 0)
    simp only [List.map_cons, packsInto, Bool.or_eq_true, List.any_eq_true, Bool.and_eq_true,
      decide_eq_true_eq, hs']
    by_cases hop : B.getD b0 0 ∈ opened
    · left
      obtain ⟨o, ho, hpo⟩ := choices_mem opened [] (B.getD b0 0) hop (by simp)
      simp only [List.reverse_nil, List.nil_append] at hpo
      refine ⟨(B.getD b0 0, o), ho, hfit, ?_⟩
      apply ih (B.set b0 (B.getD b0 0 - s)) _ m _ hps' hrest
      -- up to order: the bins after the step are `B.getD b0 0 - s` and the others, and the others are `o` and the unopened
      have h1 : (B.getD b0 0 :: B.eraseIdx b0).Perm (B.getD b0 0 :: (o ++ List.replicate m cap)) :=
        hB.symm.trans (hperm.trans (hpo.append_right _))
      exact hB'.trans ((h1.cons_inv).cons _)
    · right
      have hrep : B.getD b0 0 ∈ List.replicate m cap := by
        rcases List.mem_append.1 hmem with h | h
        · exact absurd h hop
        · exact h
      obtain ⟨hm0, hcap⟩ := List.mem_replicate.1 hrep
      have hm : 0 < m := Nat.pos_of_ne_zero hm0
      refine ⟨⟨hm, by rw [← hcap]; exact hfit⟩, ?_⟩
      apply ih (B.set b0 (B.getD b0 0 - s)) _ (m - 1) _ hps' hrest
      have hsplit : List.replicate m cap = cap :: List.replicate (m - 1) cap := by
        cases m with
        | zero => exact absurd hm (Nat.lt_irrefl 0)
        | succ n => simp [List.replicate_succ]
      have h1 : (B.getD b0 0 :: B.eraseIdx b0).Perm (cap :: (opened ++ List.replicate (m - 1) cap)) := by
        refine hB.symm.trans (hperm.trans ?_)
        rw [hsplit]
        exact List.perm_middle
      rw [hcap] at h1 hB'
      rw [hcap]
      exact hB'.trans ((h1.cons_inv).cons _)

theorem leastFrom_le (p : Nat → Bool) (k : Nat) (hk : p k = true) : ∀ (fuel m : Nat), m ≤ k → leastFrom p m fuel ≤ k := by
  intro fuel
  induction fuel with
  | zero => intro m h; exact h
  | succ fuel ih =>
    intro m h
    unfold leastFrom
    split
    · exact h
    · rename_i hm
      have : m ≠ k := fun e => hm (e ▸ hk)
      exact ih (m + 1) (Nat.lt_of_le_of_ne h this)

theorem itemsDesc_perm (sizes : List Rat) : (itemsDesc sizes).Perm (List.range sizes.length) :=
  List.mergeSort_perm _ _

end Solvor.Pack
