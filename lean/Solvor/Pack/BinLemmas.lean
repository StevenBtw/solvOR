import Solvor.Pack.Lemmas
/-!
Pack: the bin-packing placement loop (`place`, `packRun`) at `ratOps`.  One invariant (`PInv`): the open bins account
for the items placed so far, and any two of them together have less than one capacity of room left; validity of the
result and the factor-2 bound are both read off it.
-/
namespace Solvor.Pack
-- The model reads lists with `getD` and the lemmas here speak of it; this simp lemma would rewrite every `getD` away.
-- Erasing it lasts to the end of the file only, so each file that needs it has the line.
attribute [-simp] List.getD_eq_getElem?_getD

/-- specification predicate of C16: what the bin-packing statements of `Theorems.lean` call a valid packing into `k` bins -/
structure ValidPack (sizes : List Rat) (cap : Rat) (asg : List Nat) (k : Nat) : Prop where
  len : asg.length = sizes.length
  lt : ∀ i, i < sizes.length → asg.getD i 0 < k
  used : ∀ b, b < k → ∃ i, i < sizes.length ∧ asg.getD i 0 = b
  load : ∀ b, b < k → loadOf sizes asg b ≤ cap

theorem sum_le_const (L : List Nat) (F : Nat → Rat) (c : Rat) (h : ∀ b ∈ L, F b ≤ c) :
    (L.map F).sum ≤ L.length * c := by
  induction L with
  | nil => simp
  | cons a l ih =>
    have h1 := h a List.mem_cons_self
    have h2 := ih (fun b hb => h b (List.mem_cons_of_mem _ hb))
    simp only [List.map_cons, List.sum_cons, List.length_cons]
    have : ((l.length + 1 : Nat) : Rat) = (l.length : Rat) + 1 := by simp
    rw [this]; grind

theorem list_eq_map_getD (l : List Rat) : l = (List.range l.length).map fun i => l.getD i 0 := by
  apply List.ext_getElem
  · simp
  · intro i h1 h2
    simp [List.getD_eq_getElem?_getD, h1]

theorem sum_loadOf {sizes : List Rat} {asg : List Nat} {k : Nat} (h : ∀ i, i < sizes.length → asg.getD i 0 < k) :
    ((List.range k).map (loadOf sizes asg)).sum = sizes.sum := by
  have h2 := sum_by_key (fun i => sizes.getD i 0) (fun i => asg.getD i 0) k (List.range sizes.length)
    (fun i hi => h i (List.mem_range.1 hi))
  rw [← list_eq_map_getD] at h2
  exact h2

theorem ValidPack.sum_le {sizes : List Rat} {cap : Rat} {asg : List Nat} {k : Nat} (h : ValidPack sizes cap asg k) :
    sizes.sum ≤ k * cap := by
  have h3 := sum_le_const (List.range k) (loadOf sizes asg) cap (fun b hb => h.load b (List.mem_range.1 hb))
  rwa [sum_loadOf h.lt, List.length_range] at h3

theorem firstFit_eq (size : Rat) : ∀ (bins : List Rat) (b0 : Nat),
    firstFit ratOps size bins b0 = (bins.findIdx? fun r => decide (size ≤ r)).map (· + b0)
  | [], _ => rfl
  | r :: rs, b0 => by
    rw [firstFit, List.findIdx?_cons, firstFit_eq size rs (b0 + 1)]
    by_cases h : size ≤ r
    · rw [if_pos ((ratOps_le _ _).mpr h), if_pos (decide_eq_true h)]; simp
    · rw [if_neg (fun h' => h ((ratOps_le _ _).mp h')), if_neg (fun h' => h (of_decide_eq_true h')), Option.map_map]
      congr 1; funext i; simp; omega

theorem firstFit_spec (size : Rat) (bins : List Rat) :
    match firstFit ratOps size bins 0 with
    | some b => b < bins.length ∧ size ≤ bins.getD b 0 ∧ ∀ j, j < b → ¬ size ≤ bins.getD j 0
    | none => ∀ j, j < bins.length → ¬ size ≤ bins.getD j 0 := by
  have hget : ∀ j (h : j < bins.length), bins.getD j 0 = bins[j] := fun j h => getD_of_lt h 0
  rw [firstFit_eq]
  cases h : bins.findIdx? fun r => decide (size ≤ r) with
  | none =>
    intro j hj
    rw [hget j hj]
    exact of_decide_eq_false (List.findIdx?_eq_none_iff.1 h _ (List.getElem_mem hj))
  | some b =>
    obtain ⟨hb, h1, h2⟩ := List.findIdx?_eq_some_iff_getElem.1 h
    show b < bins.length ∧ size ≤ bins.getD b 0 ∧ ∀ j, j < b → ¬ size ≤ bins.getD j 0
    refine ⟨hb, by rw [hget b hb]; exact of_decide_eq_true h1, fun j hj => ?_⟩
    rw [hget j (Nat.lt_trans hj hb)]
    exact fun hle => h2 j hj (decide_eq_true hle)

/-- Invariant of the best-fit scan: its answer so far is the right one for the bins `pre` it has seen. -/
def BestOf (size : Rat) (pre : List Rat) : Option (Nat × Rat) → Prop
  | some (b, r) => b < pre.length ∧ r = pre.getD b 0 ∧ size ≤ r ∧
      ∀ j, j < pre.length → size ≤ pre.getD j 0 → r ≤ pre.getD j 0
  | none => ∀ j, j < pre.length → ¬ size ≤ pre.getD j 0

theorem forall_getD_snoc {pre : List Rat} {x : Rat} (P : Rat → Prop) (hold : ∀ j, j < pre.length → P (pre.getD j 0))
    (hnew : P x) : ∀ j, j < (pre ++ [x]).length → P ((pre ++ [x]).getD j 0) := by
  intro j hj
  rw [List.length_append] at hj
  rcases Nat.lt_succ_iff_lt_or_eq.1 hj with h | rfl
  · rw [getD_append_lt _ _ _ h]; exact hold j h
  · rw [getD_append_len]; exact hnew

/-- The hypothesis stands behind the colon: in front of it the `match best` of the statement would take it along as a
second discriminant. -/
theorem bestOf_snoc {size : Rat} (x : Rat) {pre : List Rat} {best : Option (Nat × Rat)} : BestOf size pre best →
    BestOf size (pre ++ [x])
      (if ratOps.le size x && (match best with | none => true | some (_, br) => ratOps.lt x br) then some (pre.length, x)
        else best) := by
  intro h
  have hlen : pre.length < (pre ++ [x]).length := by rw [List.length_append]; exact Nat.lt_succ_self _
  have hx : x = (pre ++ [x]).getD pre.length 0 := (getD_append_len pre x 0).symm
  match best, h with
  | none, h =>
    by_cases hle : size ≤ x
    · rw [if_pos (by simp [hle])]
      exact ⟨hlen, hx, hle, forall_getD_snoc (fun v => size ≤ v → x ≤ v) (fun j hj hf => absurd hf (h j hj)) (fun _ => Rat.le_refl)⟩
    · rw [if_neg (by simp [hle])]
      exact forall_getD_snoc (¬ size ≤ ·) h hle
  | some (b, r), ⟨hb, hr, hfit, hmin⟩ =>
    by_cases hc : size ≤ x ∧ x < r
    · rw [if_pos (by simp [hc.1, hc.2])]
      exact ⟨hlen, hx, hc.1, forall_getD_snoc (fun v => size ≤ v → x ≤ v)
        (fun j hj hf => Rat.le_trans (Rat.le_of_lt hc.2) (hmin j hj hf)) (fun _ => Rat.le_refl)⟩
    · rw [if_neg (by simpa using hc)]
      exact ⟨Nat.lt_trans hb hlen, by rw [getD_append_lt _ _ _ hb]; exact hr, hfit,
        forall_getD_snoc (fun v => size ≤ v → r ≤ v) hmin (fun hf => Rat.not_lt.1 fun hlt => hc ⟨hf, hlt⟩)⟩

theorem bestFit_inv (size : Rat) : ∀ (suf pre : List Rat) (best : Option (Nat × Rat)), BestOf size pre best →
    BestOf size (pre ++ suf) (bestFit ratOps size suf pre.length best)
  | [], pre, best, h => by rw [List.append_nil]; exact h
  | x :: xs, pre, best, h => by
    have := bestFit_inv size xs (pre ++ [x]) _ (bestOf_snoc x h)
    rw [List.append_assoc, List.length_append] at this
    -- the model's `match best` and the one in `bestOf_snoc` are different matchers: equal once `best` is a constructor
    cases best <;> exact this

theorem bestFit_top (size : Rat) (bins : List Rat) : BestOf size bins (bestFit ratOps size bins 0 none) :=
  bestFit_inv size bins [] none nofun

/-- Either scan is any-fit.  (A zero-size item goes to bin 0, which has room as soon as it is open: what `hnn` is for.) -/
theorem place_cases (cap : Rat) (useBest : Bool) (sizes : List Rat) (st : PState Rat) (j : Nat)
    (hnn : ∀ b, b < st.bins.length → 0 ≤ st.bins.getD b 0) :
    (∃ b, b < st.bins.length ∧ sizes.getD j 0 ≤ st.bins.getD b 0 ∧
      place ratOps cap useBest sizes st j = ⟨st.bins.set b (st.bins.getD b 0 - sizes.getD j 0), st.asg.set j b⟩) ∨
    ((∀ b, b < st.bins.length → ¬ sizes.getD j 0 ≤ st.bins.getD b 0) ∧
      place ratOps cap useBest sizes st j = ⟨st.bins ++ [cap - sizes.getD j 0], st.asg.set j st.bins.length⟩) := by
  obtain ⟨bins, asg⟩ := st
  unfold place
  simp only [ratOps_zero]
  by_cases hz : sizes.getD j 0 = 0
  · simp only [hz]
    cases bins with
    | nil => exact .inr ⟨nofun, by rw [Rat.sub_eq_add_neg, Rat.neg_zero, Rat.add_zero]; rfl⟩
    | cons x xs =>
      refine .inl ⟨0, Nat.succ_pos _, hnn 0 (Nat.succ_pos _), ?_⟩
      rw [Rat.sub_eq_add_neg, Rat.neg_zero, Rat.add_zero]; rfl
  · have hz' : ratOps.isZero (sizes.getD j 0) = false := decide_eq_false hz
    simp only [hz', Bool.false_eq_true, if_false]
    cases useBest with
    | false =>
      have := firstFit_spec (sizes.getD j 0) bins
      simp only [Bool.false_eq_true, if_false]
      cases hff : firstFit ratOps (sizes.getD j 0) bins 0 with
      | none => rw [hff] at this; exact .inr ⟨this, rfl⟩
      | some b => rw [hff] at this; exact .inl ⟨b, this.1, this.2.1, rfl⟩
    | true =>
      have := bestFit_top (sizes.getD j 0) bins
      simp only [if_true]
      cases hbf : bestFit ratOps (sizes.getD j 0) bins 0 none with
      | none => rw [hbf] at this; exact .inr ⟨this, rfl⟩
      | some p => rw [hbf] at this; exact .inl ⟨p.1, this.1, this.2.1 ▸ this.2.2.1, rfl⟩

/-- load of bin `b` counting only the items processed so far -/
def pload (sizes : List Rat) (asg : List Nat) (processed : List Nat) (b : Nat) : Rat :=
  ((processed.filter fun i => asg.getD i 0 == b).map fun i => sizes.getD i 0).sum

/-- The loop invariant of placing, after the items `processed`. -/
structure PInv (sizes : List Rat) (cap : Rat) (processed : List Nat) (st : PState Rat) : Prop where
  len : st.asg.length = sizes.length
  lt : ∀ i ∈ processed, st.asg.getD i 0 < st.bins.length
  rem : ∀ b, b < st.bins.length → st.bins.getD b 0 = cap - pload sizes st.asg processed b
  nonneg : ∀ b, b < st.bins.length → 0 ≤ st.bins.getD b 0
  used : ∀ b, b < st.bins.length → ∃ i ∈ processed, st.asg.getD i 0 = b
  /-- any-fit: a bin is opened only when the item fits no open bin, so any two open bins together have less than
  one capacity of room left (their loads together exceed one capacity) -/
  pair : ∀ b b', b < b' → b' < st.bins.length → st.bins.getD b 0 + st.bins.getD b' 0 < cap

theorem pload_perm (sizes : List Rat) (asg : List Nat) {p q : List Nat} (h : p.Perm q) (b : Nat) :
    pload sizes asg p b = pload sizes asg q b :=
  perm_sum_rat ((h.filter _).map _)

theorem pload_cons (sizes : List Rat) (asg : List Nat) (i : Nat) (rest : List Nat) (b : Nat) :
    pload sizes asg (i :: rest) b = (if asg.getD i 0 = b then sizes.getD i 0 else 0) + pload sizes asg rest b := by
  unfold pload
  by_cases hb : asg.getD i 0 = b
  · simp [hb]
  · simp [hb, Rat.zero_add]

theorem pload_step (sizes : List Rat) (asg : List Nat) (processed : List Nat) (j b0 b : Nat)
    (hj : j ∉ processed) (hlen : j < asg.length) :
    pload sizes (asg.set j b0) (processed ++ [j]) b =
      pload sizes asg processed b + (if b0 = b then sizes.getD j 0 else 0) := by
  have e : (processed.filter fun i => (asg.set j b0).getD i 0 == b) = processed.filter fun i => asg.getD i 0 == b :=
    List.filter_congr fun i hi => by rw [getD_set_ne fun h : j = i => hj (h ▸ hi)]
  rw [pload_perm sizes _ (List.perm_append_singleton j processed), pload_cons, getD_set_self hlen, Rat.add_comm]
  unfold pload
  rw [e]

theorem pload_fresh (sizes : List Rat) (asg : List Nat) (processed : List Nat) (n : Nat)
    (h : ∀ i ∈ processed, asg.getD i 0 < n) : pload sizes asg processed n = 0 := by
  unfold pload
  have : (processed.filter fun i => asg.getD i 0 == n) = [] := by
    rw [List.filter_eq_nil_iff]
    intro i hi
    have := h i hi
    simp only [beq_iff_eq]; omega
  rw [this]; rfl

theorem sub_add_lt {a b c s : Rat} (hs : 0 ≤ s) (h : a + b < c) : a - s + b < c := by grind

theorem place_inv (sizes : List Rat) (cap : Rat) (useBest : Bool) (processed : List Nat) (st : PState Rat)
    (j : Nat) (inv : PInv sizes cap processed st) (hj : j ∉ processed) (hjn : j < sizes.length)
    (hs0 : 0 ≤ sizes.getD j 0) (hs1 : sizes.getD j 0 ≤ cap) :
    PInv sizes cap (processed ++ [j]) (place ratOps cap useBest sizes st j) := by
  have hjl : j < st.asg.length := by rw [inv.len]; exact hjn
  have hne : ∀ i ∈ processed, j ≠ i := fun i hi h => hj (h ▸ hi)
  rcases place_cases cap useBest sizes st j inv.nonneg with ⟨b0, hlt, hfit, e⟩ | ⟨hno, e⟩
  · -- the item goes to the open bin `b0`, which has room for it
    rw [e]
    refine { len := (List.length_set ..).trans inv.len
             lt := ?lt, rem := ?rem, nonneg := ?nonneg, used := ?used, pair := ?pair } <;>
      simp only [List.length_set, getD_set st.bins, and_iff_left hlt]
    case lt =>
      intro i hi
      rcases List.mem_append.1 hi with hi | hi
      · rw [getD_set_ne (hne i hi)]; exact inv.lt i hi
      · cases List.mem_singleton.1 hi; rw [getD_set_self hjl]; exact hlt
    case rem =>
      intro b hb
      rw [pload_step sizes st.asg processed j b0 b hj hjl]
      by_cases hbb : b0 = b
      · subst hbb
        rw [if_pos rfl, if_pos rfl, inv.rem b0 hlt]; grind
      · rw [if_neg hbb, if_neg hbb, inv.rem b hb, Rat.add_zero]
    case nonneg =>
      intro b hb
      by_cases hbb : b0 = b
      · rw [if_pos hbb]; exact (Rat.le_iff_sub_nonneg _ _).1 hfit
      · rw [if_neg hbb]; exact inv.nonneg b hb
    case used =>
      intro b hb
      obtain ⟨i, hi, hib⟩ := inv.used b hb
      exact ⟨i, List.mem_append_left _ hi, by rw [getD_set_ne (hne i hi)]; exact hib⟩
    case pair =>
      intro b b' h1 h2
      have := inv.pair b b' h1 h2
      by_cases hb : b0 = b
      · subst hb
        rw [if_pos rfl, if_neg (Nat.ne_of_lt h1)]; exact sub_add_lt hs0 this
      · rw [if_neg hb]
        by_cases hb' : b0 = b'
        · subst hb'
          rw [if_pos rfl, Rat.add_comm]; exact sub_add_lt hs0 (Rat.add_comm _ _ ▸ this)
        · rw [if_neg hb']; exact this
  · -- no open bin has room (`hno`): the item opens the bin `st.bins.length`
    rw [e]
    have hold : ∀ b, b < (st.bins ++ [cap - sizes.getD j 0]).length → st.bins.length ≠ b → b < st.bins.length :=
      fun b hb hbb => Nat.lt_of_le_of_ne (Nat.le_of_lt_succ (by simpa using hb)) (Ne.symm hbb)
    refine { len := (List.length_set ..).trans inv.len
             lt := ?lt, rem := ?rem, nonneg := ?nonneg, used := ?used, pair := ?pair }
    case lt =>
      intro i hi
      rw [List.length_append]
      rcases List.mem_append.1 hi with hi | hi
      · rw [getD_set_ne (hne i hi)]; exact Nat.lt_succ_of_lt (inv.lt i hi)
      · cases List.mem_singleton.1 hi; rw [getD_set_self hjl]; exact Nat.lt_succ_self _
    case rem =>
      intro b hb
      rw [pload_step sizes st.asg processed j st.bins.length b hj hjl]
      by_cases hbb : st.bins.length = b
      · subst hbb
        rw [if_pos rfl, pload_fresh sizes st.asg processed _ inv.lt, getD_append_len, Rat.zero_add]
      · rw [if_neg hbb, getD_append_lt _ _ _ (hold b hb hbb), inv.rem b (hold b hb hbb), Rat.add_zero]
    case nonneg =>
      intro b hb
      by_cases hbb : st.bins.length = b
      · subst hbb
        rw [getD_append_len]
        exact (Rat.le_iff_sub_nonneg _ _).1 hs1
      · rw [getD_append_lt _ _ _ (hold b hb hbb)]; exact inv.nonneg b (hold b hb hbb)
    case used =>
      intro b hb
      by_cases hbb : st.bins.length = b
      · exact ⟨j, List.mem_append_right _ List.mem_cons_self, by rw [getD_set_self hjl]; exact hbb⟩
      · obtain ⟨i, hi, hib⟩ := inv.used b (hold b hb hbb)
        exact ⟨i, List.mem_append_left _ hi, by rw [getD_set_ne (hne i hi)]; exact hib⟩
    case pair =>
      intro b b' h1 h2
      by_cases hb' : st.bins.length = b'
      · subst hb'
        rw [getD_append_lt _ _ _ h1, getD_append_len]
        have := hno b h1
        grind
      · have h2' := hold b' h2 hb'
        rw [getD_append_lt _ _ _ (Nat.lt_trans h1 h2'), getD_append_lt _ _ _ h2']
        exact inv.pair b b' h1 h2'

theorem foldl_place_inv (sizes : List Rat) (cap : Rat) (useBest : Bool) (hs : ∀ s ∈ sizes, 0 ≤ s ∧ s ≤ cap) :
    ∀ (todo processed : List Nat) (st : PState Rat), PInv sizes cap processed st → (processed ++ todo).Nodup →
      (∀ j ∈ todo, j < sizes.length) →
      PInv sizes cap (processed ++ todo) (todo.foldl (place ratOps cap useBest sizes) st) := by
  intro todo
  induction todo with
  | nil => intro processed st inv _ _; simpa using inv
  | cons j rest ih =>
    intro processed st inv hnd hr
    have hj : j ∉ processed := fun h => (List.nodup_append.1 hnd).2.2 j h j List.mem_cons_self rfl
    have hjn := hr j List.mem_cons_self
    have hsj := hs _ (getD_mem hjn 0)
    have := ih (processed ++ [j]) _ (place_inv sizes cap useBest processed st j inv hj hjn hsj.1 hsj.2)
      (by simpa using hnd) (fun i hi => hr i (List.mem_cons_of_mem _ hi))
    simpa using this

theorem packOrder_perm (sizes : List Rat) (dec : Bool) : (packOrder ratOps sizes dec).Perm (List.range sizes.length) := by
  unfold packOrder
  split
  · exact List.mergeSort_perm _ _
  · exact List.Perm.refl _

theorem getD_nonneg {sizes : List Rat} (hs : ∀ s ∈ sizes, 0 ≤ s) (i : Nat) : 0 ≤ sizes.getD i 0 := by
  rcases Nat.lt_or_ge i sizes.length with hi | hi
  · exact hs _ (getD_mem hi 0)
  · rw [getD_of_ge hi]; exact Rat.le_refl

theorem packRun_inv (sizes : List Rat) (cap : Rat) (useBest dec : Bool) (hs : ∀ s ∈ sizes, 0 ≤ s ∧ s ≤ cap) :
    PInv sizes cap (packOrder ratOps sizes dec) (packRun ratOps sizes cap useBest dec) := by
  have hperm := packOrder_perm sizes dec
  have inv0 : PInv sizes cap [] ⟨[], List.replicate sizes.length 0⟩ :=
    ⟨by simp, nofun, nofun, nofun, nofun, nofun⟩
  exact foldl_place_inv sizes cap useBest hs (packOrder ratOps sizes dec) [] _ inv0
    (by simpa using hperm.nodup_iff.2 List.nodup_range)
    (fun j hj => List.mem_range.1 (hperm.mem_iff.1 hj))

theorem loadOf_eq_pload (sizes : List Rat) (asg : List Nat) (b : Nat) :
    loadOf sizes asg b = pload sizes asg (List.range sizes.length) b := rfl

theorem PInv.load {sizes : List Rat} {cap : Rat} {p : List Nat} {st : PState Rat} (inv : PInv sizes cap p st)
    (hperm : p.Perm (List.range sizes.length)) (b : Nat) (hb : b < st.bins.length) :
    loadOf sizes st.asg b = cap - st.bins.getD b 0 := by
  have h1 := inv.rem b hb
  rw [loadOf_eq_pload, ← pload_perm sizes st.asg hperm b]; grind

theorem PInv.valid {sizes : List Rat} {cap : Rat} {p : List Nat} {st : PState Rat} (inv : PInv sizes cap p st)
    (hperm : p.Perm (List.range sizes.length)) : ValidPack sizes cap st.asg st.bins.length := by
  have hmem : ∀ i, i < sizes.length → i ∈ p := fun i hi => hperm.mem_iff.2 (List.mem_range.2 hi)
  refine ⟨inv.len, fun i hi => inv.lt i (hmem i hi), fun b hb => ?_, fun b hb => ?_⟩
  · obtain ⟨i, hi, hib⟩ := inv.used b hb
    exact ⟨i, List.mem_range.1 (hperm.mem_iff.1 hi), hib⟩
  · have := inv.nonneg b hb
    rw [inv.load hperm b hb]; grind

theorem sum_map_nonneg (l : List Nat) (f : Nat → Rat) (h : ∀ i ∈ l, 0 ≤ f i) : 0 ≤ (l.map f).sum := by
  induction l with
  | nil => exact Rat.le_refl
  | cons a t ih =>
    have := h a List.mem_cons_self
    have := ih (fun i hi => h i (List.mem_cons_of_mem _ hi))
    rw [List.map_cons, List.sum_cons]; grind

theorem pair_sum (cap : Rat) (L : Nat → Rat) : ∀ k, (∀ b, b < k → 0 ≤ L b) → (∀ b, b + 1 < k → cap < L b + L (b + 1)) →
    ((k / 2 : Nat) : Rat) * cap ≤ ((List.range k).map L).sum ∧
    (2 ≤ k → ((k / 2 : Nat) : Rat) * cap < ((List.range k).map L).sum) := by
  have step : ∀ {a S x y : Rat}, a ≤ S → cap < x + y → a + cap < S + x + y := by intros; grind
  intro k
  induction k using Nat.strongRecOn with
  | _ k ih =>
    intro h0 hp
    match k with
    | 0 => exact ⟨by rw [Nat.zero_div, Rat.natCast_ofNat, Rat.zero_mul]; exact Rat.le_refl, fun h => absurd h (by decide)⟩
    | 1 =>
      refine ⟨?_, fun h => absurd h (by decide)⟩
      rw [sum_range_succ, show (1 / 2 : Nat) = 0 from rfl, Rat.natCast_ofNat, Rat.zero_mul]
      have := h0 0 Nat.one_pos
      show (0 : Rat) ≤ 0 + L 0
      rwa [Rat.zero_add]
    | k + 2 =>
      -- pair off the last two loads
      obtain ⟨i1, _⟩ := ih k (Nat.lt_add_of_pos_right (by decide)) (fun b hb => h0 b (Nat.lt_add_right 2 hb))
        (fun b hb => hp b (Nat.lt_add_right 2 hb))
      have hk := hp k (Nat.lt_succ_self _)
      rw [sum_range_succ, sum_range_succ, Nat.add_div_right k (by decide : 0 < 2), Rat.natCast_add, Rat.add_mul,
        Rat.natCast_ofNat, Rat.one_mul]
      exact ⟨Rat.le_of_lt (step i1 hk), fun _ => step i1 hk⟩

/-- the load behind the factor-2 bound of every any-fit rule (`pair`, `pair_sum`) -/
theorem PInv.half_lt_sum {sizes : List Rat} {cap : Rat} {p : List Nat} {st : PState Rat} (inv : PInv sizes cap p st)
    (hperm : p.Perm (List.range sizes.length)) (hs : ∀ s ∈ sizes, 0 ≤ s) (hk : 2 ≤ st.bins.length) :
    ((st.bins.length / 2 : Nat) : Rat) * cap < sizes.sum := by
  rw [← sum_loadOf (fun i hi => inv.lt i (hperm.mem_iff.2 (List.mem_range.2 hi)))]
  refine (pair_sum cap (loadOf sizes st.asg) _ (fun b _ => sum_map_nonneg _ _ (fun i _ => getD_nonneg hs i))
    (fun b hb => ?_)).2 hk
  have := inv.pair b (b + 1) (Nat.lt_succ_self b) hb
  rw [inv.load hperm b (Nat.lt_of_succ_lt hb), inv.load hperm (b + 1) hb]
  grind

theorem ceil_le_of_le_mul {s cap : Rat} {k : Nat} (hcap : 0 < cap) (h : s ≤ k * cap) :
    (s / cap).ceil ≤ (k : Int) := by
  rw [Rat.ceil_le_iff]
  apply Rat.not_lt.1
  intro hlt
  have := (Rat.lt_div_iff hcap).1 hlt
  have e : ((k : Int) : Rat) = (k : Rat) := Rat.intCast_natCast k
  rw [e] at this
  grind

end Solvor.Pack
