import Solvor.Pack.Lemmas
/-!
Pack: correctness of the knapsack DP mirror (`passLoop`, `dpPasses`, `backtrack`) at `ratOps`: the
in-place table is the recurrence `dpRec`, the backtrack reads off `btRec`, and on integer instances
`dpRec` is the definitional optimum `knapBestRev` (which is where optimality comes from) and `btRec` attains it
(`btRec_attains`, by the two steps of `Attains`).
Items are `(int_weight, value)`; `done` lists are "last item first".
-/
namespace Solvor.Pack

/-- The two pairs of sums of a selection.  `selW`/`selV` (Model.lean) are the weight and the value over items
`(weight, value)` with rational weights: the specification (`KnapFeasible`, `knapBest`) and every theorem about the
whole mirror speak of them.  `selWN`/`selVN` are the same sums over the DP's items `(int_weight, value)`; among the
theorems of `Theorems.lean` only `knapsack_dp_optimal` is stated in them.  The two meet through `castItems` (the
integer weights read as rationals): `selW_cast`, `selV_cast`, and `castItems_reverse` for the order.  The order:
`dpRec`, `btRec`, `knapBestRev` and `Attains` take the items last item first, so an index in a selection refers to the
list reversed (`Attains.fits`, `Attains.value` are about `ritems.reverse`), while `knapInt`, `selWN items` and the
statements of `Theorems.lean` have the items in input order. -/
def selWN (items : List (Nat × Rat)) (sel : List Nat) : Nat := (sel.map fun i => (items.getD i (0, 0)).1).sum
def selVN (items : List (Nat × Rat)) (sel : List Nat) : Rat := (sel.map fun i => (items.getD i (0, 0)).2).sum

theorem selWN_cons (items : List (Nat × Rat)) (i : Nat) (sel : List Nat) :
    selWN items (i :: sel) = (items.getD i (0, 0)).1 + selWN items sel := by simp [selWN]
theorem selVN_cons (items : List (Nat × Rat)) (i : Nat) (sel : List Nat) :
    selVN items (i :: sel) = (items.getD i (0, 0)).2 + selVN items sel := by simp [selVN]

/-- The simultaneous ("two-table") recurrence of the 0/1 knapsack; items last first. -/
def dpRec : List (Nat × Rat) → Nat → Rat
  | [], _ => 0
  | (wi, vi) :: prev, w =>
    if wi ≤ w ∧ dpRec prev w < dpRec prev (w - wi) + vi then dpRec prev (w - wi) + vi else dpRec prev w

/-- The selection the keep-table backtrack reads off, as a function of the recurrence. -/
def btRec : List (Nat × Rat) → Nat → List Nat
  | [], _ => []
  | (wi, vi) :: prev, w =>
    if wi ≤ w ∧ dpRec prev w < dpRec prev (w - wi) + vi then btRec prev (w - wi) ++ [prev.length]
    else btRec prev w

theorem getD_setIfInBounds {β} (xs : Array β) (i j : Nat) (a d : β) :
    (xs.setIfInBounds i a).getD j d = if i = j ∧ i < xs.size then a else xs.getD j d := by
  simp only [Array.getD_eq_getD_getElem?, Array.getElem?_setIfInBounds]
  by_cases h : i = j
  · subst h
    by_cases h2 : i < xs.size
    · simp [h2]
    · simp [h2]
  · simp [h]

theorem getD_ite_setIfInBounds {β} (p : Prop) [Decidable p] (xs : Array β) (i j : Nat) (a d : β) :
    (if p then xs.setIfInBounds i a else xs).getD j d = if p ∧ i = j ∧ i < xs.size then a else xs.getD j d := by
  by_cases hp : p
  · rw [if_pos hp, getD_setIfInBounds]; simp only [hp, true_and]
  · rw [if_neg hp, if_neg (fun h => hp h.1)]

theorem getD_arrayReplicate_self {β} (n w : Nat) (d : β) : (Array.replicate n d).getD w d = d := by
  simp only [Array.getD_eq_getD_getElem?, Array.getElem?_replicate]
  split <;> rfl

theorem passLoop_succ (wi : Nat) (vi : Rat) (m : Nat) (dp : Array Rat) (keep : Array Bool) :
    passLoop ratOps wi vi (m + 1) dp keep =
      passLoop ratOps wi vi m
        (if dp.getD (wi + m) 0 < dp.getD m 0 + vi then dp.setIfInBounds (wi + m) (dp.getD m 0 + vi) else dp)
        (if dp.getD (wi + m) 0 < dp.getD m 0 + vi then keep.setIfInBounds (wi + m) true else keep) := by
  show (if decide (dp.getD (wi + m) 0 < dp.getD m 0 + vi) = true then _ else _) = _
  by_cases h : dp.getD (wi + m) 0 < dp.getD m 0 + vi
  · rw [if_pos (decide_eq_true h), if_pos h, if_pos h]; rfl
  · rw [if_neg (fun h' => h (of_decide_eq_true h')), if_neg h, if_neg h]

/-- Invariant of the backward in-place loop with `m` iterations to go: the cells below `wi + m` still hold the row of
`done`, the others already the new row. -/
theorem passLoop_dpRec (cap wi : Nat) (vi : Rat) (done : List (Nat × Rat)) :
    ∀ (m : Nat) (dp : Array Rat) (keep : Array Bool), dp.size = cap + 1 → keep.size = cap + 1 →
    -- conditional: for an item heavier than `cap + 1` the loop runs `cap + 1 - wi = 0` times
    (m ≠ 0 → wi + m ≤ cap + 1) →
    (∀ w, w ≤ cap → dp.getD w 0 = if w < wi + m then dpRec done w else dpRec ((wi, vi) :: done) w) →
    (∀ w, w ≤ cap → keep.getD w false =
      if w < wi + m then false else decide (wi ≤ w ∧ dpRec done w < dpRec done (w - wi) + vi)) →
    (passLoop ratOps wi vi m dp keep).1.size = cap + 1 ∧
    (∀ w, w ≤ cap → (passLoop ratOps wi vi m dp keep).1.getD w 0 = dpRec ((wi, vi) :: done) w) ∧
    (∀ w, w ≤ cap → (passLoop ratOps wi vi m dp keep).2.getD w false =
      decide (wi ≤ w ∧ dpRec done w < dpRec done (w - wi) + vi)) := by
  intro m
  induction m with
  | zero =>
    intro dp keep hs _ _ hdp hkp
    refine ⟨hs, fun w hw => ?_, fun w hw => ?_⟩
    · rw [show (passLoop ratOps wi vi 0 dp keep).1 = dp from rfl, hdp w hw]
      by_cases h : w < wi + 0
      · rw [if_pos h, dpRec, if_neg (fun h' => Nat.lt_irrefl _ (Nat.lt_of_lt_of_le h h'.1))]
      · rw [if_neg h]
    · rw [show (passLoop ratOps wi vi 0 dp keep).2 = keep from rfl, hkp w hw]
      by_cases h : w < wi + 0
      · rw [if_pos h]; exact (decide_eq_false (fun h' => Nat.lt_irrefl _ (Nat.lt_of_lt_of_le h h'.1))).symm
      · rw [if_neg h]
  | succ m ih =>
    intro dp keep hs hks hm hdp hkp
    have hm' : wi + m ≤ cap := Nat.le_of_succ_le_succ (hm (Nat.succ_ne_zero m))
    rw [passLoop_succ]
    -- both cells the comparison reads still hold the old row, so it is the recurrence's decision
    have e1 : dp.getD (wi + m) 0 = dpRec done (wi + m) := by rw [hdp _ hm', if_pos (show wi + m < wi + (m + 1) from Nat.lt_succ_self _)]
    have e2 : dp.getD m 0 = dpRec done m := by
      rw [hdp m (Nat.le_trans (Nat.le_add_left m wi) hm'), if_pos (show m < wi + (m + 1) from Nat.lt_succ_of_le (Nat.le_add_left m wi))]
    have e3 : wi + m - wi = m := Nat.add_sub_cancel_left wi m
    have hlt : ∀ w, wi + m ≠ w → (w < wi + (m + 1) ↔ w < wi + m) := fun w hwm =>
      ⟨fun h => Nat.lt_of_le_of_ne (Nat.le_of_lt_succ h) (Ne.symm hwm), Nat.lt_succ_of_lt⟩
    rw [e1, e2]
    refine ih _ _ (by simp only [apply_ite Array.size, Array.size_setIfInBounds, ite_self]; exact hs)
      (by simp only [apply_ite Array.size, Array.size_setIfInBounds, ite_self]; exact hks)
      (fun _ => Nat.le_succ_of_le hm') (fun w hw => ?_) (fun w hw => ?_)
    · rw [getD_ite_setIfInBounds]
      by_cases hwm : wi + m = w
      · subst hwm
        rw [if_neg (Nat.lt_irrefl _), dpRec, e3, e1]
        simp only [true_and, hs, Nat.le_add_right, Nat.lt_succ_of_le hm', and_true]
      · rw [if_neg (fun h => hwm h.2.1), hdp w hw]
        simp only [hlt w hwm]
    · rw [getD_ite_setIfInBounds]
      by_cases hwm : wi + m = w
      · subst hwm
        rw [if_neg (Nat.lt_irrefl _), hkp _ hm', if_pos (show wi + m < wi + (m + 1) from Nat.lt_succ_self _), e3]
        simp only [true_and, hks, Nat.le_add_right, Nat.lt_succ_of_le hm', and_true]
        by_cases hc : dpRec done (wi + m) < dpRec done m + vi
        · rw [if_pos hc]; exact (decide_eq_true hc).symm
        · rw [if_neg hc]; exact (decide_eq_false hc).symm
      · rw [if_neg (fun h => hwm h.2.1), hkp w hw]
        simp only [hlt w hwm]

/-- the keep rows (last item first) hold, for every `w ≤ cap`, the take/skip decision of the recurrence `dpRec` -/
inductive KeepsOK (cap : Nat) : List (Array Bool) → List (Nat × Rat) → Prop
  | nil : KeepsOK cap [] []
  | cons {k : Array Bool} {ks : List (Array Bool)} {wi : Nat} {vi : Rat} {prev : List (Nat × Rat)} :
      (∀ w, w ≤ cap → k.getD w false = decide (wi ≤ w ∧ dpRec prev w < dpRec prev (w - wi) + vi)) →
      KeepsOK cap ks prev → KeepsOK cap (k :: ks) ((wi, vi) :: prev)

theorem KeepsOK.length {cap : Nat} {ks : List (Array Bool)} {done : List (Nat × Rat)} (h : KeepsOK cap ks done) :
    ks.length = done.length := by
  induction h with
  | nil => rfl
  | cons _ _ ih => simp [ih]

theorem dpPasses_spec (cap : Nat) (items : List (Nat × Rat)) :
    ∀ (done : List (Nat × Rat)) (dp : Array Rat) (keeps : List (Array Bool)),
    dp.size = cap + 1 → (∀ w, w ≤ cap → dp.getD w 0 = dpRec done w) → KeepsOK cap keeps done →
    (∀ w, w ≤ cap → (dpPasses ratOps cap items dp keeps).1.getD w 0 = dpRec (items.reverse ++ done) w) ∧
    KeepsOK cap (dpPasses ratOps cap items dp keeps).2 (items.reverse ++ done) := by
  induction items with
  | nil => intro done dp keeps _ hdp hk; exact ⟨by simpa [dpPasses] using hdp, by simpa [dpPasses] using hk⟩
  | cons x rest ih =>
    intro done dp keeps hs hdp hk
    obtain ⟨wi, vi⟩ := x
    have hlt : ∀ w, w ≤ cap → w < wi + (cap + 1 - wi) := fun w hw => by omega
    obtain ⟨s1, h1, h2⟩ := passLoop_dpRec cap wi vi done (cap + 1 - wi) dp (Array.replicate (cap + 1) false) hs
      (by simp) (fun _ => by omega) (fun w hw => by rw [if_pos (hlt w hw)]; exact hdp w hw)
      (fun w hw => by rw [if_pos (hlt w hw)]; exact getD_arrayReplicate_self _ w false)
    simp only [dpPasses, List.reverse_cons, List.append_assoc, List.singleton_append]
    exact ih ((wi, vi) :: done) _ _ s1 h1 (KeepsOK.cons h2 hk)

theorem dpRun_spec (items : List (Nat × Rat)) (cap : Nat) :
    (∀ w, w ≤ cap → (dpRun ratOps items cap).1.getD w 0 = dpRec items.reverse w) ∧
    KeepsOK cap (dpRun ratOps items cap).2 items.reverse := by
  have := dpPasses_spec cap items [] (Array.replicate (cap + 1) 0) [] (by simp)
    (fun w _ => getD_arrayReplicate_self _ w 0) KeepsOK.nil
  simpa [dpRun, ratOps] using this

theorem backtrack_eq {cap : Nat} {keeps : List (Array Bool)} {done : List (Nat × Rat)} (h : KeepsOK cap keeps done) :
    ∀ w, w ≤ cap → ∀ acc, backtrack (keeps.zip (done.map (·.1))) w acc = btRec done w ++ acc := by
  induction h with
  | nil => intro w _ acc; simp [backtrack, btRec]
  | cons hk hks ih =>
    rename_i k ks wi vi prev
    intro w hw acc
    have hl : (ks.zip (prev.map (·.1))).length = prev.length := by simp [hks.length]
    simp only [List.map_cons, List.zip_cons_cons, backtrack, btRec, hk w hw, decide_eq_true_eq]
    split
    · rw [ih (w - wi) (Nat.le_trans (Nat.sub_le _ _) hw), hl]; simp
    · rw [ih w hw]

def castItems (items : List (Nat × Rat)) : List (Rat × Rat) := items.map fun p => ((p.1 : Rat), p.2)

theorem getD_castItems (items : List (Nat × Rat)) (i : Nat) :
    (castItems items).getD i (0, 0) = (((items.getD i (0, 0)).1 : Rat), (items.getD i (0, 0)).2) := by
  unfold castItems
  simp only [List.getD_eq_getElem?_getD, List.getElem?_map]
  cases items[i]? <;> simp

theorem selW_cast (items : List (Nat × Rat)) (sel : List Nat) :
    selW (castItems items) sel = ((selWN items sel : Nat) : Rat) := by
  induction sel with
  | nil => simp [selW, selWN]
  | cons i s ih => rw [selW_cons, selWN_cons, ih, getD_castItems, Rat.natCast_add]

theorem selV_cast (items : List (Nat × Rat)) (sel : List Nat) :
    selV (castItems items) sel = selVN items sel := by
  simp only [selV, selVN, getD_castItems]

theorem castItems_reverse (items : List (Nat × Rat)) : castItems items.reverse = (castItems items).reverse :=
  List.map_reverse

theorem knapBestRev_neg (items : List (Nat × Rat)) : ∀ c : Rat, c < 0 → knapBestRev (castItems items) c = none := by
  induction items with
  | nil => intro c hc; exact if_neg (Rat.not_le.2 hc)
  | cons x prev ih =>
    intro c hc
    have hx : (0 : Rat) ≤ (x.1 : Nat) := Rat.natCast_nonneg
    show optMax (knapBestRev (castItems prev) c) ((knapBestRev (castItems prev) (c - (x.1 : Nat))).map _) = none
    rw [ih c hc, ih _ (by grind)]; rfl

theorem natCast_sub_rat {wi w : Nat} (h : wi ≤ w) : ((w : Nat) : Rat) - (wi : Nat) = ((w - wi : Nat) : Rat) := by
  have := Rat.natCast_add (w - wi) wi
  rw [Nat.sub_add_cancel h] at this
  grind

theorem knapBestRev_cast (done : List (Nat × Rat)) : ∀ w : Nat,
    knapBestRev (castItems done) (w : Rat) = some (dpRec done w) := by
  induction done with
  | nil => intro w; exact if_pos Rat.natCast_nonneg
  | cons x prev ih =>
    intro w
    obtain ⟨wi, vi⟩ := x
    show optMax (knapBestRev (castItems prev) w) ((knapBestRev (castItems prev) ((w : Nat) - (wi : Nat))).map (· + vi)) = _
    rw [ih w, dpRec]
    by_cases hle : wi ≤ w
    · rw [natCast_sub_rat hle, ih (w - wi)]
      simp only [hle, true_and, Option.map_some, optMax]
    · rw [knapBestRev_neg prev _ (by have := Rat.natCast_lt_natCast.2 (Nat.lt_of_not_le hle); grind),
        if_neg (fun h => hle h.1)]
      rfl

theorem btRec_attains (done : List (Nat × Rat)) : ∀ w : Nat,
    Attains (castItems done) w (dpRec done w) (btRec done w) := by
  induction done with
  | nil => intro w; exact ⟨.nil, nofun, Rat.natCast_nonneg, rfl⟩
  | cons x prev ih =>
    intro w
    obtain ⟨wi, vi⟩ := x
    simp only [btRec, dpRec]
    split
    · rename_i hc
      have := (natCast_sub_rat hc.1 ▸ ih (w - wi) : Attains (castItems prev) ((w : Rat) - ((wi : Nat) : Rat)) _ _).take (x := ((wi : Rat), vi))
      rwa [show (castItems prev).length = prev.length from List.length_map _] at this
    · exact (ih w).skip _

theorem btRec_spec (done : List (Nat × Rat)) (w : Nat) :
    (btRec done w).Pairwise (· < ·) ∧ (∀ i ∈ btRec done w, i < done.length) ∧
    selWN done.reverse (btRec done w) ≤ w ∧ selVN done.reverse (btRec done w) = dpRec done w := by
  have h := btRec_attains done w
  refine ⟨h.sorted, fun i hi => by simpa [castItems] using h.inRange i hi, ?_, ?_⟩
  · have := h.fits; rw [← castItems_reverse, selW_cast] at this; exact Rat.natCast_le_natCast.1 this
  · have := h.value; rwa [← castItems_reverse, selV_cast] at this

theorem dpRec_ge (done : List (Nat × Rat)) (w : Nat) (sel : List Nat) (hnd : sel.Nodup)
    (hr : ∀ i ∈ sel, i < done.length) (hw : selWN done.reverse sel ≤ w) : selVN done.reverse sel ≤ dpRec done w := by
  obtain ⟨b, hb, hle⟩ := knapBestRev_ge (castItems done) w sel hnd (by rwa [castItems, List.length_map])
    (by rw [← castItems_reverse, selW_cast]; exact Rat.natCast_le_natCast.2 hw)
  rw [knapBestRev_cast] at hb
  cases hb
  rwa [← castItems_reverse, selV_cast] at hle

end Solvor.Pack
