import Solvor.Pack.KnapDP
/-!
Pack: lemmas about the front end of `solve_knapsack` (`_scaled`, `_to_int_capacity`, CPython's
`sum`) at `ratOps`, and what an answer of `knapMirror` is.
-/
namespace Solvor.Pack
-- the lemmas speak of `getD` as the model does; this simp lemma would rewrite it away
attribute [-simp] List.getD_eq_getElem?_getD

theorem pySum_rat (xs : List (Rat × Bool)) : pySum ratOps xs = (xs.map (·.1)).sum := by
  have key : ∀ step : Rat × Rat × Bool → Rat × Bool → Rat × Rat × Bool,
      (∀ f s p, ∃ s', step (f, 0, s) p = (f + p.1, 0, s')) →
      (if ratOps.isZero (xs.foldl step (ratOps.zero, ratOps.zero, false)).2.1 = true
        then (xs.foldl step (ratOps.zero, ratOps.zero, false)).1
        else ratOps.add (xs.foldl step (ratOps.zero, ratOps.zero, false)).1
          (xs.foldl step (ratOps.zero, ratOps.zero, false)).2.1) = (xs.map (·.1)).sum := by
    intro step h
    have fold : ∀ (xs : List (Rat × Bool)) f s,
        ∃ s', xs.foldl step (f, 0, s) = (f + (xs.map (·.1)).sum, 0, s') := by
      intro xs
      induction xs with
      | nil => intro f s; exact ⟨s, by simp [Rat.add_zero]⟩
      | cons p ps ih =>
        intro f s
        obtain ⟨s1, h1⟩ := h f s p
        obtain ⟨s2, h2⟩ := ih (f + p.1) s1
        exact ⟨s2, by rw [List.foldl_cons, h1, h2, List.map_cons, List.sum_cons, Rat.add_assoc]⟩
    obtain ⟨s', h⟩ := fold xs 0 false
    rw [ratOps_zero, h, if_pos (by simp)]
    exact Rat.zero_add _
  refine key _ (fun f s p => ?_)
  obtain ⟨x, b⟩ := p
  -- in exact arithmetic both of Neumaier's compensation terms vanish
  have e1 : (0 : Rat) + (f - (f + x) + x) = 0 := by grind
  have e2 : (0 : Rat) + (x - (f + x) + f) = 0 := by grind
  cases b <;> cases s <;> simp [e1, e2]

theorem sumAt_rat (xs : List Rat) (fl : List Bool) (sel : List Nat) (h : xs.length ≤ fl.length) :
    sumAt ratOps (xs.zip fl) sel = (sel.map fun i => xs.getD i 0).sum := by
  unfold sumAt
  rw [pySum_rat, List.map_map]
  exact congrArg List.sum (List.map_congr_left fun i _ => getD_zip_fst 0 true xs fl i h)

theorem selW_zip (ws vs : List Rat) (sel : List Nat) (h : ws.length = vs.length) :
    selW (ws.zip vs) sel = (sel.map fun i => ws.getD i 0).sum :=
  congrArg List.sum (List.map_congr_left fun i _ => getD_zip_fst 0 0 ws vs i (Nat.le_of_eq h))

theorem selV_zip (ws vs : List Rat) (sel : List Nat) (h : ws.length = vs.length) :
    selV (ws.zip vs) sel = (sel.map fun i => vs.getD i 0).sum :=
  congrArg List.sum (List.map_congr_left fun i _ => getD_zip_snd 0 0 ws vs i (Nat.le_of_eq h.symm))

/-- hypotheses on the literals of `knapsack.py` that the source's values satisfy -/
structure GoodConsts (c : KConsts Rat) : Prop where
  one : c.one = 1
  maxCapacity : 0 < c.maxCapacity
  maxScale : 0 < c.maxScale
  weightTol : 0 ≤ c.weightTol
  scaleTolNonneg : 0 ≤ c.scaleTol

/-- ... plus a zero scaling tolerance (the source has `1e-9`, to absorb float noise): the
hypotheses of the exact-arithmetic statements -/
structure ExactConsts (c : KConsts Rat) : Prop extends GoodConsts c where
  scaleTol : c.scaleTol = 0

theorem add_le_add_rat {a b c d : Rat} (h1 : a ≤ b) (h2 : c ≤ d) : a + c ≤ b + d :=
  Rat.le_trans (Rat.add_le_add_right.2 h1) (Rat.add_le_add_left.2 h2)

theorem add_add_add_comm_rat (a b c d : Rat) : a + b + (c + d) = a + c + (b + d) := by
  rw [Rat.add_assoc, Rat.add_left_comm b, ← Rat.add_assoc]

/-- `|a - b| ≤ τ`, written as two sums so that the lemmas about it are `add_le_add_rat` and transitivity -/
def Near (τ a b : Rat) : Prop := a ≤ b + τ ∧ b ≤ a + τ

theorem near_refl {τ : Rat} (h : 0 ≤ τ) (a : Rat) : Near τ a a := ⟨le_add_of_nonneg_rat h, le_add_of_nonneg_rat h⟩

theorem near_add {τ σ a b a' b' : Rat} (h : Near τ a b) (h' : Near σ a' b') : Near (τ + σ) (a + a') (b + b') :=
  ⟨add_add_add_comm_rat b b' τ σ ▸ add_le_add_rat h.1 h'.1, add_add_add_comm_rat a a' τ σ ▸ add_le_add_rat h.2 h'.2⟩

/-- `slack` is what the capacity and a selection of `k ≤ n` weights can be off by when each number is scaled by
`scale` up to an error `τ`: with `w`, `cap` the weight and capacity before scaling and `wN`, `capN` the integers
after it, fitting after scaling gives `w ≤ cap + slack`, and `w ≤ cap - slack` gives fitting after scaling. -/
theorem slack_bounds {scale τ n k w wN cap capN slack : Rat} (hs : 0 < scale) (hτ : 0 ≤ τ)
    (hsl : slack * scale = (n + 1) * τ) (hcap : Near τ (cap * scale) capN) (hk : k ≤ n)
    (hw : Near (k * τ) (w * scale) wN) :
    (wN ≤ capN → w ≤ cap + slack) ∧ (w ≤ cap - slack → wN ≤ capN) := by
  have hkτ := Rat.mul_le_mul_of_nonneg_right hk hτ
  have e : (n + 1) * τ = τ + n * τ := by rw [Rat.add_mul, Rat.one_mul, Rat.add_comm]
  refine ⟨fun hfit => Rat.le_of_mul_le_mul_right ?_ hs, fun hle => ?_⟩
  · -- w·scale ≤ wN + k·τ ≤ capN + n·τ ≤ cap·scale + τ + n·τ
    rw [Rat.add_mul, hsl, e, ← Rat.add_assoc]
    exact Rat.le_trans hw.1 (add_le_add_rat (Rat.le_trans hfit hcap.2) hkτ)
  · -- wN ≤ w·scale + k·τ ≤ (cap - slack)·scale + n·τ = cap·scale - τ ≤ capN
    have h1 := Rat.mul_le_mul_of_nonneg_right hle (Rat.le_of_lt hs)
    rw [Rat.sub_eq_add_neg, Rat.add_mul, Rat.neg_mul, ← Rat.sub_eq_add_neg, hsl, e] at h1
    have h2 := Rat.le_trans hw.2 (add_le_add_rat h1 hkτ)
    have e2 : cap * scale - (τ + n * τ) + n * τ = cap * scale - τ := by
      rw [Rat.sub_eq_add_neg, Rat.neg_add, ← Rat.add_assoc, Rat.add_assoc, Rat.neg_add_cancel, Rat.add_zero,
        ← Rat.sub_eq_add_neg]
    rw [e2] at h2
    exact Rat.le_trans h2 (Rat.sub_right_le_iff_le_add.2 hcap.1)

theorem near_of_abs_le {a b t : Rat} (h : ratOps.le (ratOps.abs (ratOps.sub a b)) t = true) : Near t a b := by
  have h' : (if a - b < 0 then -(a - b) else a - b) ≤ t := (ratOps_le _ _).mp h
  by_cases hn : a - b < 0
  · -- `b - a ≤ t` is one half; it also makes `t` non-negative, and `a ≤ b` gives the other
    rw [if_pos hn, Rat.neg_sub] at h'
    have hab : a ≤ b := Rat.le_of_lt (by have := Rat.sub_lt_iff.1 hn; rwa [Rat.zero_add] at this)
    have ht : 0 ≤ t := Rat.le_trans ((Rat.le_iff_sub_nonneg _ _).1 hab) h'
    exact ⟨Rat.le_trans hab (le_add_of_nonneg_rat ht), Rat.add_comm a t ▸ Rat.sub_right_le_iff_le_add.1 h'⟩
  · rw [if_neg hn] at h'
    have hba : b ≤ a := (Rat.le_iff_sub_nonneg _ _).2 (Rat.not_lt.1 hn)
    have ht : 0 ≤ t := Rat.le_trans (Rat.not_lt.1 hn) h'
    exact ⟨Rat.add_comm b t ▸ Rat.sub_right_le_iff_le_add.1 h', Rat.le_trans hba (le_add_of_nonneg_rat ht)⟩

theorem scaled_near (c : KConsts Rat) (x scale : Rat) (h : (scaled ratOps c x scale).2 = true) :
    Near c.scaleTol (x * scale) ((scaled ratOps c x scale).1 : Nat) := by
  unfold scaled at h ⊢
  simp only at h ⊢
  split
  · rename_i hle; exact near_of_abs_le hle
  · rename_i hle; rw [if_neg hle] at h; cases h

theorem toIntCapacity_cases (c : KConsts Rat) (cap : Rat) (wts : List Rat) :
    (ratOps.isInt cap = true ∧ toIntCapacity ratOps c cap wts = (cap.floor.toNat, c.one)) ∨
    (cap ≤ 0 ∧ toIntCapacity ratOps c cap wts = (0, c.one)) ∨
    (0 < cap ∧ ∃ s, (s = c.maxScale ∨ s = c.maxCapacity / cap) ∧
      toIntCapacity ratOps c cap wts = ((scaled ratOps c cap s).1, s)) := by
  unfold toIntCapacity
  split
  · rename_i hall
    exact .inl ⟨List.all_eq_true.1 hall cap List.mem_cons_self, rfl⟩
  · split
    · rename_i hle
      exact .inr (.inl ⟨(ratOps_le _ _).mp hle, rfl⟩)
    · rename_i hle
      refine .inr (.inr ⟨Rat.not_le.1 (fun h => hle ((ratOps_le _ _).mpr h)), _, ?_, rfl⟩)
      unfold pyMin
      split
      · exact .inl rfl
      · exact .inr rfl

theorem toIntCapacity_scale_pos (c : KConsts Rat) (hc : GoodConsts c) (cap : Rat) (wts : List Rat) :
    0 < (toIntCapacity ratOps c cap wts).2 := by
  have one : (0 : Rat) < c.one := by rw [hc.one]; decide
  rcases toIntCapacity_cases c cap wts with ⟨_, e⟩ | ⟨_, e⟩ | ⟨hcap, s, rfl | rfl, e⟩ <;> rw [e]
  · exact one
  · exact one
  · exact hc.maxScale
  · rw [Rat.div_def]; exact Rat.mul_pos hc.maxCapacity (Rat.inv_pos.2 hcap)

theorem toIntCapacity_near (c : KConsts Rat) (hc : GoodConsts c) (cap : Rat) (hcap : 0 ≤ cap) (wts : List Rat)
    (h : (scaled ratOps c cap (toIntCapacity ratOps c cap wts).2).2 = true) :
    Near c.scaleTol (cap * (toIntCapacity ratOps c cap wts).2) ((toIntCapacity ratOps c cap wts).1 : Nat) := by
  rcases toIntCapacity_cases c cap wts with ⟨hi, e⟩ | ⟨hle, e⟩ | ⟨_, s, _, e⟩
  · have hfl : ((cap.floor : Int) : Rat) = cap := of_decide_eq_true hi
    have h0 : 0 ≤ cap.floor := Rat.le_floor_iff.2 (by simpa using hcap)
    rw [e, hc.one, Rat.mul_one]
    show Near _ cap ((cap.floor.toNat : Nat) : Rat)
    rw [← Rat.intCast_natCast, Int.toNat_of_nonneg h0, hfl]
    exact near_refl hc.scaleTolNonneg cap
  · have : cap = 0 := Rat.le_antisymm hle hcap
    subst this
    rw [e, Rat.zero_mul]
    exact near_refl hc.scaleTolNonneg 0
  · rw [e] at h ⊢
    exact scaled_near c cap s h

theorem scaleWeights_length (c : KConsts Rat) (wts : List Rat) (scale : Rat) :
    ((scaleWeights ratOps c wts scale).map (·.1)).length = wts.length := by
  simp [scaleWeights]

theorem scaleWeights_near (c : KConsts Rat) (hc : GoodConsts c) (wts : List Rat) (hw : ∀ w ∈ wts, 0 ≤ w)
    (scale : Rat) (h : (scaleWeights ratOps c wts scale).all (·.2) = true) :
    ∀ i, i < wts.length →
      Near c.scaleTol (wts.getD i 0 * scale) ((((scaleWeights ratOps c wts scale).map (·.1)).getD i 0 : Nat) : Rat) := by
  intro i hi
  have hget : wts.getD i 0 = wts[i] := getD_of_lt hi 0
  have hmem : wts[i] ∈ wts := List.getElem_mem hi
  unfold scaleWeights at h ⊢
  have hall := List.all_eq_true.1 h _ (List.mem_map.2 ⟨wts[i], hmem, rfl⟩)
  have key : ∀ (f : Rat → Nat × Bool), ((wts.map f).map (·.1)).getD i 0 = (f wts[i]).1 := by
    intro f; simp [List.getD_eq_getElem?_getD, hi]
  rw [key, hget]
  by_cases hpos : ratOps.lt ratOps.zero wts[i] = true
  · -- a positive weight is scaled; `lossless` also says the integer was not raised to 1
    simp only [hpos, if_true] at hall ⊢
    simp only [Bool.and_eq_true, decide_eq_true_eq] at hall
    rw [Nat.max_eq_right hall.2]
    exact scaled_near c wts[i] scale hall.1
  · simp only [hpos, Bool.false_eq_true, if_false]
    have : wts[i] = 0 := Rat.le_antisymm (Rat.not_lt.1 (fun h => hpos ((ratOps_lt _ _).mpr h))) (hw _ hmem)
    rw [this, Rat.zero_mul]
    exact near_refl hc.scaleTolNonneg 0

theorem scaled_sums_near (items : List (Rat × Rat)) (scale τ : Rat) (iw : List Nat) (hlen : iw.length = items.length)
    (hw : ∀ i, i < items.length → Near τ ((items.getD i (0, 0)).1 * scale) ((iw.getD i 0 : Nat) : Rat)) :
    ∀ sel : List Nat, (∀ i ∈ sel, i < items.length) →
      Near ((sel.length : Nat) * τ) (selW items sel * scale) ((selWN (iw.zip (items.map (·.2))) sel : Nat) : Rat) ∧
      selVN (iw.zip (items.map (·.2))) sel = selV items sel := by
  intro sel
  induction sel with
  | nil => intro _; exact ⟨by rw [show selW items [] = 0 from rfl, Rat.zero_mul]; exact near_refl (by simp) 0, rfl⟩
  | cons i s ih =>
    intro h
    obtain ⟨a, b⟩ := ih (fun j hj => h j (List.mem_cons_of_mem _ hj))
    have e : (iw.zip (items.map (·.2))).getD i (0, 0) = (iw.getD i 0, (items.getD i (0, 0)).2) := by
      rw [getD_zip 0 0 _ _ i (by simpa using hlen)]; exact congrArg _ (getD_map (·.2) items i (0, 0))
    have hn := near_add (hw i (h i List.mem_cons_self)) a
    rw [selWN_cons, selVN_cons, selW_cons, selV_cons, e, b, Rat.natCast_add, Rat.add_mul, List.length_cons,
      Rat.natCast_add, Rat.add_mul, Rat.add_comm ((s.length : Nat) * τ)]
    exact ⟨by simpa using hn, rfl⟩

/-- the selection the DP branch of `knapMirror` returns -/
def mirrorSel (c : KConsts Rat) (vals wts : List Rat) (cap : Rat) (minimize : Bool) : List Nat :=
  (knapInt ratOps (((scaleWeights ratOps c wts (toIntCapacity ratOps c cap wts).2).map (·.1)).zip
    (vals.map fun v => if minimize then 0 - v else v)) (toIntCapacity ratOps c cap wts).1).1

structure GreedyAnswer (vals wts : List Rat) (cap : Rat) (minimize : Bool) (r : KnapRes Rat) : Prop where
  len : wts.length = vals.length
  obj : r.objective = selV (wts.zip vals) r.sel
  status : r.status = .FEASIBLE
  sel : r.sel = greedyFallback ratOps (wts.zip vals) cap minimize

/-- the DP return of `knapMirror`: the selection passed the weight re-check (`fit`) and is labelled OPTIMAL only when
every scaling was reported exact (`exact`) -/
structure DpAnswer (c : KConsts Rat) (vals wts : List Rat) (cap : Rat) (minimize : Bool) (r : KnapRes Rat) : Prop where
  len : wts.length = vals.length
  obj : r.objective = selV (wts.zip vals) r.sel
  fallback : r.fallback = false
  sel : r.sel = mirrorSel c vals wts cap minimize
  fit : selW (wts.zip vals) r.sel ≤ cap + c.weightTol
  exact : r.status = .OPTIMAL → (scaled ratOps c cap (toIntCapacity ratOps c cap wts).2).2 = true ∧
    (scaleWeights ratOps c wts (toIntCapacity ratOps c cap wts).2).all (·.2) = true

/-- What a normal return `r` of `knapMirror` on a non-negative capacity is: the trivial answer on no items, the
greedy fallback, or the DP selection.  The reported objective is the value of the selection. -/
inductive MirrorAnswer (c : KConsts Rat) (vals wts : List Rat) (cap : Rat) (minimize : Bool) (r : KnapRes Rat) : Prop
  | empty : vals = [] → r.sel = [] → r.objective = 0 → r.fallback = false → MirrorAnswer c vals wts cap minimize r
  | greedy : GreedyAnswer vals wts cap minimize r → MirrorAnswer c vals wts cap minimize r
  | dp : DpAnswer c vals wts cap minimize r → MirrorAnswer c vals wts cap minimize r

theorem knapMirror_ok {c : KConsts Rat} {vals wts : List Rat} {vInt wInt : List Bool} {cap : Rat} {minimize : Bool}
    {r : KnapRes Rat} (hcap : 0 ≤ cap) (hr : knapMirror ratOps c vals wts vInt wInt cap minimize = .ok r) :
    MirrorAnswer c vals wts cap minimize r := by
  unfold knapMirror at hr
  by_cases hn : vals.length = 0
  · rw [if_pos hn] at hr
    cases hr
    exact .empty (List.eq_nil_of_length_eq_zero hn) rfl rfl rfl
  · rw [if_neg hn] at hr
    by_cases hlen : wts.length = vals.length
    · rw [if_neg (fun h => h hlen), if_neg (fun h => Rat.not_lt.2 hcap ((ratOps_lt cap ratOps.zero).mp h))] at hr
      have hl1 : wts.length ≤ (wInt ++ List.replicate wts.length false).length := by simp
      have hl2 : vals.length ≤ (vInt ++ List.replicate vals.length false).length := by simp
      have hobj : ∀ sel, sumAt ratOps (vals.zip (vInt ++ List.replicate vals.length false)) sel =
          selV (wts.zip vals) sel := fun sel => (sumAt_rat vals _ sel hl2).trans (selV_zip wts vals sel hlen).symm
      change (if ratOps.lt (ratOps.add cap c.weightTol) (sumAt ratOps _ (mirrorSel c vals wts cap minimize)) = true
        then _ else _) = _ at hr
      rw [sumAt_rat _ _ _ hl1, ← selW_zip _ _ _ hlen] at hr
      split at hr
      · cases hr
        exact .greedy { len := hlen, obj := hobj _, status := rfl, sel := rfl }
      · rename_i hchk
        cases hr
        refine .dp { len := hlen, obj := hobj _, fallback := rfl, sel := rfl, fit := ?_, exact := fun hopt => ?_ }
        · exact Rat.not_lt.1 (fun h => hchk ((ratOps_lt _ _).mpr h))
        · rw [← Bool.and_eq_true]
          by_cases hl : ((scaled ratOps c cap (toIntCapacity ratOps c cap wts).2).2 &&
              (scaleWeights ratOps c wts (toIntCapacity ratOps c cap wts).2).all (·.2)) = true
          · exact hl
          · rw [if_neg hl] at hopt; cases hopt
    · rw [if_pos hlen] at hr
      cases hr

end Solvor.Pack
