import Solvor.Pack.Front
import Solvor.Pack.BinOpt
/-!
Pack: the property theorems of C16.  Spec vocabulary: knapsack items are `(weight, value)` pairs and a selection is a
list of item indices (`KnapFeasible`, in `Lemmas.lean`: distinct, in range, within the capacity); a packing is a bin
index per item with a bin count `k` (`ValidPack`, in `BinLemmas.lean`: all indices below `k`, every bin in use, exact
loads within the capacity).  The hypotheses on the constants of `knapsack.py`, `GoodConsts` and `ExactConsts`, are in
`Front.lean`; the sums `selW`/`selV` and their integer-weight versions `selWN`/`selVN` are set side by side at `selWN` in
`KnapDP.lean`.
-/
namespace Solvor.Pack
open Solvor.Gen (Status)
attribute [-simp] List.getD_eq_getElem?_getD

theorem chkSel_iff (items : List (Rat × Rat)) (cap : Rat) (sel : List Nat) :
    chkSel items cap sel = true ↔ KnapFeasible items cap sel := by
  unfold chkSel
  simp only [Bool.and_eq_true, nodupB_iff, List.all_eq_true, decide_eq_true_eq]
  exact ⟨fun ⟨⟨a, b⟩, c⟩ => ⟨a, b, c⟩, fun h => ⟨⟨h.nodup, h.inRange⟩, h.fits⟩⟩

theorem chkKnapsack_iff (items : List (Rat × Rat)) (cap : Rat) (sel : List Nat) (obj : Rat) :
    chkKnapsack items cap sel obj = true ↔ KnapFeasible items cap sel ∧ selV items sel = obj := by
  unfold chkKnapsack
  simp only [Bool.and_eq_true, chkSel_iff, decide_eq_true_eq]

/-- The definitional optimum `knapBest` (exhaustive take/skip enumeration on exact rationals) is the optimum.
(`knapBest = none` exactly when nothing – not even the empty selection – is feasible.) -/
theorem knapBest_optimal (items : List (Rat × Rat)) (cap : Rat) :
    (∀ sel, KnapFeasible items cap sel → ∃ b, knapBest items cap = some b ∧ selV items sel ≤ b) ∧
    (∀ b, knapBest items cap = some b → ∃ sel, KnapFeasible items cap sel ∧ selV items sel = b) := by
  constructor
  · intro sel h
    have := knapBestRev_ge items.reverse cap sel h.nodup (by simpa using h.inRange)
      (by simpa using h.fits)
    simpa [knapBest] using this
  · intro b hb
    obtain ⟨sel, h⟩ := knapBestRev_attained items.reverse cap b hb
    exact ⟨sel, ⟨h.sorted.imp Nat.ne_of_lt, by simpa using h.inRange, by simpa using h.fits⟩, by simpa using h.value⟩

/-- The mirror of `solve_knapsack`'s DP on items `(int_weight, value)` with rational values of any sign (`minimize` runs
the same DP on negated values): (1) the in-place, backward-traversed table is the simultaneous recurrence `dpRec`
(`dp[w] = max(dp'[w], dp'[w - w_i] + v_i)` with the strict `>` of the source); (2) the keep-table backtrack returns
increasing in-range indices within the capacity whose total value is `dp[cap]`; (3) `dp[cap]` is optimal among all
selections of distinct in-range indices within the capacity. -/
theorem knapsack_dp_optimal (items : List (Nat × Rat)) (cap : Nat) :
    (∀ w, w ≤ cap → (dpRun ratOps items cap).1.getD w 0 = dpRec items.reverse w) ∧
    (knapInt ratOps items cap).1.Pairwise (· < ·) ∧
    (∀ i ∈ (knapInt ratOps items cap).1, i < items.length) ∧
    selWN items (knapInt ratOps items cap).1 ≤ cap ∧
    selVN items (knapInt ratOps items cap).1 = (knapInt ratOps items cap).2 ∧
    ∀ sel : List Nat, sel.Nodup → (∀ i ∈ sel, i < items.length) → selWN items sel ≤ cap →
      selVN items sel ≤ (knapInt ratOps items cap).2 := by
  obtain ⟨hdp, hk⟩ := dpRun_spec items cap
  have hsel : (knapInt ratOps items cap).1 = btRec items.reverse cap := by
    have := backtrack_eq hk cap (Nat.le_refl _) []
    simpa [knapInt] using this
  have hval : (knapInt ratOps items cap).2 = dpRec items.reverse cap := by
    simpa [knapInt, ratOps] using hdp cap (Nat.le_refl _)
  obtain ⟨p1, p2, p3, p4⟩ := btRec_spec items.reverse cap
  simp only [List.reverse_reverse, List.length_reverse] at p2 p3 p4
  refine ⟨hdp, by rw [hsel]; exact p1, by rw [hsel]; exact p2, by rw [hsel]; exact p3,
    by rw [hsel, hval]; exact p4, fun sel h1 h2 h3 => ?_⟩
  rw [hval]
  have := dpRec_ge items.reverse cap sel h1 (by simpa using h2) (by simpa using h3)
  simpa using this

/-- For integer weights and capacity, `dp[cap]` of the DP is the definitional optimum `knapBest` of the same instance
read over the rationals (the optimum the check compares every OPTIMAL answer with). -/
theorem knapsack_dp_eq_knapBest (items : List (Nat × Rat)) (cap : Nat) :
    knapBest (castItems items) (cap : Rat) = some (knapInt ratOps items cap).2 := by
  have hval : (knapInt ratOps items cap).2 = dpRec items.reverse cap := (knapsack_dp_optimal items cap).1 cap (Nat.le_refl _)
  rw [knapBest, ← castItems_reverse, knapBestRev_cast, hval]

/-- `_greedy_fallback` (the branch taken when scaling made the DP answer overweight) returns a
feasible selection whatever the ratios and the sort did. -/
theorem greedy_fallback_valid (items : List (Rat × Rat)) (cap : Rat) (minimize : Bool) (hcap : 0 ≤ cap) :
    KnapFeasible items cap (greedyFallback ratOps items cap minimize) := by
  unfold greedyFallback
  simp only
  generalize hord : (List.range items.length).mergeSort _ = order
  have hperm : order.Perm (List.range items.length) := by rw [← hord]; exact List.mergeSort_perm _ _
  obtain ⟨p, h1, h2, h3, h4⟩ := greedyScan_spec items order cap [] hcap
  simp only [List.reverse_nil, List.nil_append] at h1
  rw [h1]
  have hp := List.mergeSort_perm p (fun i j => decide (i ≤ j))
  refine ⟨hp.nodup_iff.2 (h2.nodup (hperm.nodup_iff.2 List.nodup_range)), ?_, ?_⟩
  · intro i hi; exact h3 i (hp.mem_iff.1 hi)
  · rw [selW_perm items hp]; exact h4

/-- scaling that is exact only up to `τ` per number keeps the DP answer optimal up to a capacity
slack of `(n+1)·τ/scale` -/
theorem knapsack_near_scaled_optimal (items : List (Rat × Rat)) (cap scale τ slack : Rat) (hs : 0 < scale)
    (hτ : 0 ≤ τ) (hsl : slack * scale = ((items.length + 1 : Nat) : Rat) * τ)
    (iw : List Nat) (icap : Nat) (hlen : iw.length = items.length)
    (hw : ∀ i, i < items.length → Near τ ((items.getD i (0, 0)).1 * scale) ((iw.getD i 0 : Nat) : Rat))
    (hc : Near τ (cap * scale) (icap : Rat)) :
    (knapInt ratOps (iw.zip (items.map (·.2))) icap).1.Nodup ∧
    (∀ i ∈ (knapInt ratOps (iw.zip (items.map (·.2))) icap).1, i < items.length) ∧
    selW items (knapInt ratOps (iw.zip (items.map (·.2))) icap).1 ≤ cap + slack ∧
    ∀ sel : List Nat, sel.Nodup → (∀ i ∈ sel, i < items.length) → selW items sel ≤ cap - slack →
      selV items sel ≤ selV items (knapInt ratOps (iw.zip (items.map (·.2))) icap).1 := by
  obtain ⟨_, p1, p2, p3, p4, p5⟩ := knapsack_dp_optimal (iw.zip (items.map (·.2))) icap
  have hl : (iw.zip (items.map (·.2))).length = items.length := by simp [hlen]
  rw [hl] at p2 p5
  have hss := scaled_sums_near items scale τ iw hlen hw
  have hnd := p1.imp (fun h => Nat.ne_of_lt h)
  have len_le : ∀ sel : List Nat, sel.Nodup → (∀ i ∈ sel, i < items.length) →
      ((sel.length : Nat) : Rat) ≤ ((items.length : Nat) : Rat) := fun sel h1 h2 =>
    Rat.natCast_le_natCast.2
      (List.length_range (n := items.length) ▸ h1.length_le_of_subset fun i hi => List.mem_range.2 (h2 i hi))
  have hsl' : slack * scale = (((items.length : Nat) : Rat) + 1) * τ := by rw [hsl, Rat.natCast_add]; simp
  refine ⟨hnd, p2, ?_, fun sel h1 h2 h3 => ?_⟩
  · exact (slack_bounds hs hτ hsl' hc (len_le _ hnd p2) (hss _ p2).1).1 (Rat.natCast_le_natCast.2 p3)
  · have hfit := Rat.natCast_le_natCast.1 ((slack_bounds hs hτ hsl' hc (len_le sel h1 h2) (hss sel h2).1).2 h3)
    rw [← (hss _ p2).2, ← (hss sel h2).2, p4]
    exact p5 sel h1 h2 hfit

/-- Exact scaling keeps optimality: if the integers handed to the DP are the rational weights / capacity times a
positive scale (the situation in which the repaired `solve_knapsack` reports OPTIMAL), the DP's selection is feasible
and optimal for the original instance. -/
theorem knapsack_scaled_optimal (items : List (Rat × Rat)) (cap scale : Rat) (hs : 0 < scale)
    (iw : List Nat) (icap : Nat) (hlen : iw.length = items.length)
    (hw : ∀ i, i < items.length → ((iw.getD i 0 : Nat) : Rat) = (items.getD i (0, 0)).1 * scale)
    (hc : (icap : Rat) = cap * scale) :
    KnapFeasible items cap (knapInt ratOps (iw.zip (items.map (·.2))) icap).1 ∧
    ∀ sel, KnapFeasible items cap sel →
      selV items sel ≤ selV items (knapInt ratOps (iw.zip (items.map (·.2))) icap).1 := by
  obtain ⟨h1, h2, h3, h4⟩ := knapsack_near_scaled_optimal items cap scale 0 0 hs Rat.le_refl
    (by rw [Rat.zero_mul, Rat.mul_zero]) iw icap hlen
    (fun i hi => by rw [hw i hi]; exact near_refl Rat.le_refl _) (by rw [hc]; exact near_refl Rat.le_refl _)
  rw [Rat.add_zero] at h3
  exact ⟨⟨h1, h2, h3⟩, fun sel hf => h4 sel hf.nodup hf.inRange (by rw [Rat.sub_eq_add_neg, Rat.neg_zero, Rat.add_zero]; exact hf.fits)⟩

/-- Whatever the tolerances, the scale and the branch taken (DP or greedy fallback), the selection the mirror returns is
within `capacity + weightTol` (within `capacity` on the fallback branch) and the reported objective is the sum of its
values. -/
theorem knapsack_mirror_feasible (c : KConsts Rat) (htol : 0 ≤ c.weightTol) (vals wts : List Rat)
    (vInt wInt : List Bool) (cap : Rat) (minimize : Bool) (hcap : 0 ≤ cap) (r : KnapRes Rat)
    (hr : knapMirror ratOps c vals wts vInt wInt cap minimize = .ok r) :
    r.sel.Nodup ∧ (∀ i ∈ r.sel, i < vals.length) ∧ selW (wts.zip vals) r.sel ≤ cap + c.weightTol ∧
    r.objective = selV (wts.zip vals) r.sel ∧ (r.fallback = true → selW (wts.zip vals) r.sel ≤ cap) := by
  have hct : cap ≤ cap + c.weightTol := le_add_of_nonneg_rat htol
  have hzl : wts.length = vals.length → (wts.zip vals).length = vals.length := fun hlen => by
    rw [List.length_zip, hlen, Nat.min_self]
  rcases knapMirror_ok hcap hr with ⟨_, hsel, hobj, hfb⟩ | g | d
  · rw [hsel, hobj, hfb]
    exact ⟨List.nodup_nil, nofun, Rat.add_nonneg hcap htol, rfl, nofun⟩
  · have hf := greedy_fallback_valid (wts.zip vals) cap minimize hcap
    rw [← g.sel] at hf
    exact ⟨hf.nodup, fun i hi => hzl g.len ▸ hf.inRange i hi, Rat.le_trans hf.fits hct, g.obj, fun _ => hf.fits⟩
  · obtain ⟨_, p1, p2, _⟩ := knapsack_dp_optimal
      (((scaleWeights ratOps c wts (toIntCapacity ratOps c cap wts).2).map (·.1)).zip
        (vals.map fun v => if minimize then 0 - v else v)) (toIntCapacity ratOps c cap wts).1
    rw [show r.sel = _ from d.sel]
    refine ⟨p1.imp (fun h => Nat.ne_of_lt h), fun i hi => ?_, d.sel ▸ d.fit, d.sel ▸ d.obj, fun h => ?_⟩
    · have := p2 i hi
      simp only [List.length_zip, List.length_map] at this
      exact Nat.lt_of_lt_of_le this (Nat.min_le_right _ _)
    · rw [d.fallback] at h; cases h

/-- The status rule with the source's tolerance: if `_scaled`
accepts a number as exact when it is within `scaleTol` of an integer (the code: `1e-9`), then an
answer the mirror labels OPTIMAL has weight at most `capacity + slack` and is at least as good
(sign-adjusted) as every selection of weight at most `capacity - slack`, where
`slack = (n + 1) · scaleTol / scale`.  (`scaleTol = 0` gives `knapsack_lossless_optimal`.) -/
theorem knapsack_lossless_near_optimal (c : KConsts Rat) (hc : GoodConsts c) (vals wts : List Rat)
    (vInt wInt : List Bool) (cap : Rat) (minimize : Bool) (hcap : 0 ≤ cap) (hw : ∀ w ∈ wts, 0 ≤ w)
    (r : KnapRes Rat) (hr : knapMirror ratOps c vals wts vInt wInt cap minimize = .ok r)
    (hopt : r.status = .OPTIMAL) :
    r.sel.Nodup ∧ (∀ i ∈ r.sel, i < vals.length) ∧
    selW (wts.zip vals) r.sel ≤
      cap + ((vals.length + 1 : Nat) : Rat) * c.scaleTol / (toIntCapacity ratOps c cap wts).2 ∧
    ∀ sel : List Nat, sel.Nodup → (∀ i ∈ sel, i < vals.length) →
      selW (wts.zip vals) sel ≤
        cap - ((vals.length + 1 : Nat) : Rat) * c.scaleTol / (toIntCapacity ratOps c cap wts).2 →
      selV (wts.zip (vals.map fun v => if minimize then 0 - v else v)) sel ≤
      selV (wts.zip (vals.map fun v => if minimize then 0 - v else v)) r.sel := by
  have hpos := toIntCapacity_scale_pos c hc cap wts
  have hslack : 0 ≤ ((vals.length + 1 : Nat) : Rat) * c.scaleTol / (toIntCapacity ratOps c cap wts).2 := by
    rw [Rat.div_def]
    exact Rat.mul_nonneg (Rat.mul_nonneg Rat.natCast_nonneg hc.scaleTolNonneg) (Rat.le_of_lt (Rat.inv_pos.2 hpos))
  rcases knapMirror_ok hcap hr with ⟨rfl, hsel, _, _⟩ | g | d
  · rw [hsel]
    refine ⟨List.nodup_nil, nofun, Rat.add_nonneg hcap hslack, fun sel _ hf _ => ?_⟩
    cases sel with
    | nil => exact Rat.le_refl
    | cons i s => exact absurd (hf i List.mem_cons_self) (Nat.not_lt_zero _)
  · rw [g.status] at hopt; cases hopt
  · obtain ⟨hl1, hl2⟩ := d.exact hopt
    have hlen := d.len
    have hw' := scaleWeights_near c hc wts hw _ hl2
    have hc' := toIntCapacity_near c hc cap hcap wts hl1
    have hlw := scaleWeights_length c wts (toIntCapacity ratOps c cap wts).2
    rw [d.sel, mirrorSel]
    generalize toIntCapacity ratOps c cap wts = ic at hpos hw' hc' hlw ⊢
    generalize (scaleWeights ratOps c wts ic.2).map (·.1) = iw at hw' hlw ⊢
    generalize hv : (vals.map fun v => if minimize = true then 0 - v else v) = vals'
    have hlen' : wts.length = vals'.length := by rw [← hv, List.length_map]; exact hlen
    have hzl : (wts.zip vals').length = vals.length := by rw [List.length_zip, ← hlen', hlen, Nat.min_self]
    have hmain := knapsack_near_scaled_optimal (wts.zip vals') cap ic.2 c.scaleTol
      (((vals.length + 1 : Nat) : Rat) * c.scaleTol / ic.2) hpos hc.scaleTolNonneg
      (by rw [hzl]; exact Rat.div_mul_cancel (Rat.ne_of_gt hpos)) iw ic.1 (by rw [hlw, hzl, hlen])
      (fun i hi => by rw [getD_zip 0 0 _ _ _ hlen']; exact hw' i (by rw [hlen, ← hzl]; exact hi)) hc'
    rw [List.map_snd_zip (Nat.le_of_eq hlen'.symm), hzl, selW_zip _ _ _ hlen'] at hmain
    rw [selW_zip _ _ _ hlen]
    obtain ⟨m1, m2, m3, m4⟩ := hmain
    refine ⟨m1, m2, m3, fun sel' h1 h2 h3 => m4 sel' h1 h2 ?_⟩
    rwa [selW_zip _ _ _ hlen', ← selW_zip _ _ _ hlen]

/-- The status rule of the repaired `solve_knapsack` is right: in exact arithmetic (scaling tolerance 0), for non-negative
weights and capacity, an answer labelled OPTIMAL (the DP branch with `lossless = True`) is feasible for the original
instance and no feasible selection has a better (sign-adjusted: `minimize` negates) total value. -/
theorem knapsack_lossless_optimal (c : KConsts Rat) (hc : ExactConsts c) (vals wts : List Rat)
    (vInt wInt : List Bool) (cap : Rat) (minimize : Bool) (hcap : 0 ≤ cap) (hw : ∀ w ∈ wts, 0 ≤ w)
    (r : KnapRes Rat) (hr : knapMirror ratOps c vals wts vInt wInt cap minimize = .ok r)
    (hopt : r.status = .OPTIMAL) :
    KnapFeasible (wts.zip vals) cap r.sel ∧
    ∀ sel, KnapFeasible (wts.zip vals) cap sel →
      selV (wts.zip (vals.map fun v => if minimize then 0 - v else v)) sel ≤
      selV (wts.zip (vals.map fun v => if minimize then 0 - v else v)) r.sel := by
  obtain ⟨h1, h2, h3, h4⟩ :=
    knapsack_lossless_near_optimal c hc.toGoodConsts vals wts vInt wInt cap minimize hcap hw r hr hopt
  have hz : ((vals.length + 1 : Nat) : Rat) * c.scaleTol / (toIntCapacity ratOps c cap wts).2 = 0 := by
    rw [hc.scaleTol, Rat.mul_zero, Rat.div_def, Rat.zero_mul]
  rw [hz, Rat.add_zero] at h3
  rw [hz, Rat.sub_eq_add_neg, Rat.neg_zero, Rat.add_zero] at h4
  have hzl : ∀ sel : List Nat, (∀ i ∈ sel, i < (wts.zip vals).length) → ∀ i ∈ sel, i < vals.length := fun sel h i hi =>
    Nat.lt_of_lt_of_le (h i hi) (List.length_zip ▸ Nat.min_le_right _ _)
  refine ⟨⟨h1, ?_, h3⟩, fun sel hf => h4 sel hf.nodup (hzl sel hf.inRange) hf.fits⟩
  rcases knapMirror_ok hcap hr with ⟨_, hsel, _, _⟩ | g | d
  · rw [hsel]; exact nofun
  · rw [List.length_zip, g.len, Nat.min_self]; exact h2
  · rw [List.length_zip, d.len, Nat.min_self]; exact h2

theorem chkPack_iff (sizes : List Rat) (cap : Rat) (asg : List Nat) (k : Nat) :
    chkPack sizes cap asg k = true ↔ ValidPack sizes cap asg k := by
  unfold chkPack
  simp only [Bool.and_eq_true, beq_iff_eq, List.all_eq_true, List.mem_range, decide_eq_true_eq,
    List.any_eq_true]
  constructor
  · rintro ⟨⟨h1, h2⟩, h3⟩
    exact ⟨h1, h2, fun b hb => (h3 b hb).1, fun b hb => (h3 b hb).2⟩
  · intro h
    exact ⟨⟨h.len, h.lt⟩, fun b hb => ⟨h.used b hb, h.load b hb⟩⟩

theorem validPack_lower_bound {sizes : List Rat} {cap : Rat} {asg : List Nat} {k : Nat}
    (h : ValidPack sizes cap asg k) :
    sizes.sum ≤ k * cap ∧ (0 < cap → (sizes.sum / cap).ceil ≤ (k : Int)) ∧ (sizes ≠ [] → 1 ≤ k) := by
  refine ⟨h.sum_le, fun hc => ceil_le_of_le_mul hc h.sum_le, fun hne => ?_⟩
  have : 0 < sizes.length := List.length_pos_iff.2 hne
  have := h.lt 0 this
  omega

theorem pack_ok (sizes : List Rat) (cap : Rat) (useBest dec : Bool)
    (hn : sizes ≠ []) (hcap : 0 < cap) (hs : ∀ s ∈ sizes, 0 ≤ s ∧ s ≤ cap) :
    pack ratOps sizes cap useBest dec =
      .ok ⟨if 1 < (packRun ratOps sizes cap useBest dec).bins.length then .FEASIBLE else .OPTIMAL,
        (packRun ratOps sizes cap useBest dec).asg, (packRun ratOps sizes cap useBest dec).bins.length⟩ := by
  have h0 : sizes.length ≠ 0 := mt List.eq_nil_of_length_eq_zero hn
  have h1 : ¬ ratOps.le cap ratOps.zero = true := fun h => Rat.not_le.2 hcap ((ratOps_le _ _).mp h)
  have h2 : ¬ sizes.any (fun s => ratOps.lt cap s || ratOps.lt s ratOps.zero) = true := by
    rw [List.any_eq_true]
    rintro ⟨s, hs', hbad⟩
    rcases Bool.or_eq_true_iff.1 hbad with h | h
    · exact Rat.not_lt.2 (hs s hs').2 ((ratOps_lt _ _).mp h)
    · exact Rat.not_lt.2 (hs s hs').1 ((ratOps_lt _ _).mp h)
  unfold pack
  rw [if_neg h0, if_neg h1, if_neg h2]

/-- For every non-empty list of sizes in `[0, cap]` (zero sizes included), every positive capacity and each of the four
heuristics (`useBest` = best-fit instead of first-fit, `dec` = the `-decreasing` variant) the mirror of `solve_bin_pack`
returns a valid packing with the reported bin count; the status is OPTIMAL exactly when `k ≤ 1` (the code's rule), and
then `k` is minimal among all valid packings. -/
theorem binpack_valid (sizes : List Rat) (cap : Rat) (useBest dec : Bool)
    (hn : sizes ≠ []) (hcap : 0 < cap) (hs : ∀ s ∈ sizes, 0 ≤ s ∧ s ≤ cap) :
    ∃ r, pack ratOps sizes cap useBest dec = .ok r ∧
      ValidPack sizes cap r.asg r.k ∧ (sizes.sum / cap).ceil ≤ (r.k : Int) ∧ 1 ≤ r.k ∧
      (r.status = .OPTIMAL ∨ r.status = .FEASIBLE) ∧ (r.status = .OPTIMAL ↔ r.k ≤ 1) ∧
      (r.status = .OPTIMAL → ∀ asg' k', ValidPack sizes cap asg' k' → r.k ≤ k') := by
  have hv := (packRun_inv sizes cap useBest dec hs).valid (packOrder_perm sizes dec)
  have hk1 := (validPack_lower_bound hv).2.2 hn
  refine ⟨_, pack_ok sizes cap useBest dec hn hcap hs, hv, (validPack_lower_bound hv).2.1 hcap, hk1, ?_⟩
  by_cases h : 1 < (packRun ratOps sizes cap useBest dec).bins.length
  · simp [h]
  · -- one bin, and a valid packing of a non-empty list needs one
    simp only [h, if_false, true_or, true_iff, true_implies, true_and]
    refine ⟨Nat.le_of_not_lt h, fun asg' k' hv' =>
      Nat.le_trans (Nat.le_of_not_lt h) ((validPack_lower_bound hv').2.2 hn)⟩

/-- The enumerator-based bound `minBinsP` is a lower bound on every valid packing.  (Together with a packing into
`minBinsP` bins accepted by `chkPack` – produced by the fast search and checked on every instance – this certifies the
optimum used for the 11/9 test.) -/
theorem minBinsP_le (sizes : List Rat) (cap : Rat) (hcap : 0 < cap) (hs : ∀ s ∈ sizes, 0 ≤ s)
    {asg : List Nat} {k : Nat} (h : ValidPack sizes cap asg k) : minBinsP sizes cap ≤ k := by
  unfold minBinsP
  simp only
  have hlb : (sizes.sum / cap).ceil.toNat ≤ k := by
    have := ceil_le_of_le_mul hcap h.sum_le
    omega
  refine leastFrom_le _ k ?_ _ _ hlb
  have hperm := itemsDesc_perm sizes
  apply packsInto_complete cap sizes asg (getD_nonneg hs) _ (List.replicate k cap) [] k (by simp)
  · intro i hi
    simpa using h.lt i (List.mem_range.1 (hperm.mem_iff.1 hi))
  · intro b hb
    have hb' : b < k := by simpa using hb
    have e2 : (List.replicate k cap).getD b 0 = cap := by
      simp [List.getD_eq_getElem?_getD, hb']
    rw [e2, pload_perm sizes asg hperm b, ← loadOf_eq_pload]
    exact h.load b hb'

/-- What the two scans of `place` choose: first-fit the first open bin the item fits in, best-fit one with the least
remaining capacity; `none` (a new bin is opened) only when the item fits no open bin. -/
theorem scan_spec (size : Rat) (bins : List Rat) :
    (match firstFit ratOps size bins 0 with
      | some b => b < bins.length ∧ size ≤ bins.getD b 0 ∧ ∀ j, j < b → ¬ size ≤ bins.getD j 0
      | none => ∀ j, j < bins.length → ¬ size ≤ bins.getD j 0) ∧
    (match bestFit ratOps size bins 0 none with
      | some (b, r) => b < bins.length ∧ r = bins.getD b 0 ∧ size ≤ r ∧
          ∀ j, j < bins.length → size ≤ bins.getD j 0 → r ≤ bins.getD j 0
      | none => ∀ j, j < bins.length → ¬ size ≤ bins.getD j 0) :=
  ⟨firstFit_spec size bins, bestFit_top size bins⟩

/-- A proved approximation guarantee for all four heuristics (they are
"any-fit": a bin is opened only when the item fits no open bin, so any two open bins together hold
more than one capacity): the mirror never uses more than `2·k' - 1` bins, where `k'` is the number of
bins of *any* valid packing – in particular of an optimal one.  (The sharper `11/9·OPT + 6/9` of the
decreasing variants is checked per instance, not proved.) -/
theorem binpack_two_approx (sizes : List Rat) (cap : Rat) (useBest dec : Bool)
    (hn : sizes ≠ []) (hcap : 0 < cap) (hs : ∀ s ∈ sizes, 0 ≤ s ∧ s ≤ cap) :
    ∀ r, pack ratOps sizes cap useBest dec = .ok r →
      ∀ asg' k', ValidPack sizes cap asg' k' → r.k ≤ 2 * k' - 1 := by
  intro r hr asg' k' hv'
  rw [pack_ok sizes cap useBest dec hn hcap hs] at hr
  cases hr
  show (packRun ratOps sizes cap useBest dec).bins.length ≤ 2 * k' - 1
  have hk' := (validPack_lower_bound hv').2.2 hn
  by_cases hk2 : 2 ≤ (packRun ratOps sizes cap useBest dec).bins.length
  · -- ⌊k/2⌋·cap < Σ sizes ≤ k'·cap
    have hlt := (packRun_inv sizes cap useBest dec hs).half_lt_sum (packOrder_perm sizes dec) (fun s h => (hs s h).1) hk2
    have hle := hv'.sum_le
    have : (((packRun ratOps sizes cap useBest dec).bins.length / 2 : Nat) : Rat) < (k' : Rat) := by
      apply Rat.not_le.1
      intro hge
      have := Rat.mul_le_mul_of_nonneg_right hge (Rat.le_of_lt hcap)
      grind
    have := Rat.natCast_lt_natCast.1 this
    omega
  · omega

/-- the `-decreasing` variants really process the items largest first (and `packOrder` is a
permutation of the item indices either way) -/
theorem packOrder_sorted (sizes : List Rat) :
    (packOrder ratOps sizes true).Pairwise (fun i j => sizes.getD j 0 ≤ sizes.getD i 0) ∧
    ∀ dec, (packOrder ratOps sizes dec).Perm (List.range sizes.length) := by
  refine ⟨?_, packOrder_perm sizes⟩
  have hle : ∀ i j, (!(ratOps.lt (sizes.getD i ratOps.zero) (sizes.getD j ratOps.zero))) = true ↔
      sizes.getD j 0 ≤ sizes.getD i 0 := fun i j => by
    rw [Bool.not_eq_true', ← Rat.not_lt]; exact decide_eq_false_iff_not
  rw [packOrder, if_pos rfl]
  exact (List.pairwise_mergeSort
    (fun a b c h1 h2 => (hle a c).2 (Rat.le_trans ((hle b c).1 h2) ((hle a b).1 h1)))
    (fun a b => by rw [Bool.or_eq_true, hle, hle]; exact Rat.le_total) _).imp (fun h => (hle _ _).1 h)

/-- The inputs excluded by the hypotheses of `binpack_valid` are exactly those the code rejects or
answers trivially: no items gives `()`, 0 bins, OPTIMAL; a non-positive capacity, an item larger
than the capacity or a negative size raises `ValueError`. -/
theorem pack_excluded (sizes : List Rat) (cap : Rat) (useBest dec : Bool) :
    (sizes = [] → pack ratOps sizes cap useBest dec = .ok ⟨.OPTIMAL, [], 0⟩) ∧
    (sizes ≠ [] → (cap ≤ 0 ∨ ∃ s ∈ sizes, cap < s ∨ s < 0) →
      pack ratOps sizes cap useBest dec = .error "ValueError") := by
  constructor
  · rintro rfl; rfl
  · intro hn h
    have h0 : sizes.length ≠ 0 := mt List.eq_nil_of_length_eq_zero hn
    unfold pack
    rw [if_neg h0]
    by_cases hc : ratOps.le cap ratOps.zero = true
    · rw [if_pos hc]
    · rw [if_neg hc, if_pos]
      rcases h with h | ⟨s, hs, hbad⟩
      · exact absurd ((ratOps_le _ _).mpr h) hc
      · refine List.any_eq_true.2 ⟨s, hs, Bool.or_eq_true_iff.2 ?_⟩
        exact hbad.imp (ratOps_lt _ _).mpr (ratOps_lt _ _).mpr

/-- textbook instance (weights 1,2,3, values 6,10,12, capacity 5): the DP selects items 1,2 -/
example : knapInt ratOps [(1, 6), (2, 10), (3, 12)] 5 = ([1, 2], 22) := by decide +kernel
example : KnapFeasible [(1, 6), (2, 10), (3, 12)] 5 [1, 2] := (chkSel_iff _ _ _).1 (by decide +kernel)
example : knapBest [(1, 6), (2, 10), (3, 12)] 5 = some 22 := by decide +kernel
example : knapBest (castItems [(1, 6), (2, 10), (3, 12)]) ((5 : Nat) : Rat) = some 22 := by
  rw [knapsack_dp_eq_knapBest]; decide +kernel
example : chkKnapsack [((1 : Rat) / 2, 3), (0, 1)] 0 [1] 1 = true := by decide +kernel
/-- exact scaling is possible: weights 0.1, 0.2, 0.3, capacity 0.5, scale 10 -/
example := knapsack_scaled_optimal [((1 : Rat) / 10, 10), ((2 : Rat) / 10, 20), ((3 : Rat) / 10, 30)]
  ((5 : Rat) / 10) 10 (by decide +kernel) [1, 2, 3] 5 rfl (by decide +kernel) (by decide +kernel)
example : KnapFeasible [(3, 5), (2, 4)] 4 (greedyFallback ratOps [(3, 5), (2, 4)] 4 false) :=
  greedy_fallback_valid _ _ _ (by decide +kernel)
/-- constants satisfying `ExactConsts` (scale cap 2 instead of 1000 to keep the example small); in the order of the
fields of `KConsts`: `maxCapacity`, `maxScale`, `weightTol`, `scaleTol`, `half`, `one` -/
def exConsts : KConsts Rat := ⟨100000, 2, 0, 0, (1 : Rat) / 2, 1⟩
example : ExactConsts exConsts :=
  ⟨⟨rfl, by decide +kernel, by decide +kernel, by decide +kernel, by decide +kernel⟩, rfl⟩
/-- weights 0.5, 1.5, capacity 2.5: scaled by 2 without loss, so the mirror says OPTIMAL and takes both -/
example : (knapMirror ratOps exConsts [3, 4] [(1 : Rat) / 2, (3 : Rat) / 2] [] [] ((5 : Rat) / 2) false).toOption.map
    (fun r => (r.status, r.sel, r.objective)) = some (.OPTIMAL, [0, 1], 7) := by decide +kernel
/-- weights 0.5, 1.3: scaling by 2 loses 0.6 -> FEASIBLE -/
example : (knapMirror ratOps exConsts [3, 4] [(1 : Rat) / 2, (13 : Rat) / 10] [] [] ((5 : Rat) / 2) false).toOption.map
    (fun r => r.status) = some .FEASIBLE := by decide +kernel
example : packsInto 10 [8, 4, 4, 1, 0] [] 2 = true ∧ packsInto 10 [8, 4, 4, 1, 0] [] 1 = false := by decide +kernel
example : minBinsP [4, 8, 1, 4, 0] 10 ≤ 2 :=
  minBinsP_le _ _ (by decide +kernel) (by decide +kernel) ((chkPack_iff _ _ [0, 1, 1, 0, 0] 2).1 (by decide +kernel))
example (useBest dec : Bool) := binpack_two_approx [4, 8, 1, 4, 0] 10 useBest dec (by simp) (by decide +kernel)
  (by decide +kernel)
example : firstFit ratOps 3 [2, 5, 3] 0 = some 1 ∧ (bestFit ratOps 3 [2, 5, 3] 0 none).map (·.1) = some 2 := by
  decide +kernel
example : (pack ratOps [4, 8, 1, 4, 0] 10 true false).toOption.map (fun r => (r.asg, r.k)) =
    some ([0, 1, 1, 0, 0], 2) := by decide +kernel
example : ValidPack [4, 8, 1, 4, 0] 10 [0, 1, 1, 0, 0] 2 := (chkPack_iff _ _ _ _).1 (by decide +kernel)
example (useBest dec : Bool) := binpack_valid [4, 8, 1, 4, 0] 10 useBest dec (by simp) (by decide +kernel)
  (by decide +kernel)

end Solvor.Pack
