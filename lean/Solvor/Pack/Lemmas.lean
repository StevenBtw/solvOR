import Solvor.Pack.Model
import Solvor.Common.ListLemmas
/-!
Pack: what `ratOps` computes, selections of knapsack items, the exhaustive optimum `knapBestRev`, what a take/skip
recursion attains (`Attains`: one induction step for `knapBestRev` and for the backtrack `btRec`), the greedy fallback
scan.  Like the model, every proof module of Pack imports core Lean only, so order and sum facts about `Rat` that a
library would supply are proved where they are needed.
-/
namespace Solvor.Pack

@[simp] theorem ratOps_zero : ratOps.zero = 0 := rfl
@[simp] theorem ratOps_add (a b : Rat) : ratOps.add a b = a + b := rfl
@[simp] theorem ratOps_sub (a b : Rat) : ratOps.sub a b = a - b := rfl
@[simp] theorem ratOps_lt (a b : Rat) : (ratOps.lt a b = true) = (a < b) := decide_eq_true_eq
@[simp] theorem ratOps_le (a b : Rat) : (ratOps.le a b = true) = (a ≤ b) := decide_eq_true_eq
@[simp] theorem ratOps_isZero (a : Rat) : (ratOps.isZero a = true) = (a = 0) := decide_eq_true_eq

theorem le_add_of_nonneg_rat {a t : Rat} (h : 0 ≤ t) : a ≤ a + t := by
  have := (Rat.add_le_add_left (c := a)).2 h
  rwa [Rat.add_zero] at this

theorem perm_sum_rat {l₁ l₂ : List Rat} (h : l₁.Perm l₂) : l₁.sum = l₂.sum := by
  induction h with
  | nil => rfl
  | cons a _ ih => simp [ih]
  | swap a b l => simp only [List.sum_cons]; grind
  | trans _ _ ih1 ih2 => exact ih1.trans ih2

theorem nodupB_iff (l : List Nat) : nodupB l = true ↔ l.Nodup := by
  induction l with
  | nil => simp [nodupB]
  | cons a l ih => simp [nodupB, ih, List.nodup_cons]

/-- specification predicate of C16: what the knapsack statements of `Theorems.lean` call a feasible selection -/
structure KnapFeasible (items : List (Rat × Rat)) (cap : Rat) (sel : List Nat) : Prop where
  nodup : sel.Nodup
  inRange : ∀ i ∈ sel, i < items.length
  fits : selW items sel ≤ cap

theorem selW_cons (items : List (Rat × Rat)) (i : Nat) (sel : List Nat) :
    selW items (i :: sel) = (items.getD i (0, 0)).1 + selW items sel := by simp [selW]
theorem selV_cons (items : List (Rat × Rat)) (i : Nat) (sel : List Nat) :
    selV items (i :: sel) = (items.getD i (0, 0)).2 + selV items sel := by simp [selV]

theorem selW_perm (items : List (Rat × Rat)) {s t : List Nat} (h : s.Perm t) : selW items s = selW items t :=
  perm_sum_rat (h.map _)
theorem selV_perm (items : List (Rat × Rat)) {s t : List Nat} (h : s.Perm t) : selV items s = selV items t :=
  perm_sum_rat (h.map _)

theorem getD_zip_fst {β γ} (a : β) (b : γ) : ∀ (xs : List β) (ys : List γ) (i : Nat), xs.length ≤ ys.length →
    ((xs.zip ys).getD i (a, b)).1 = xs.getD i a
  | [], _, _, _ => rfl
  | _ :: _, [], _, h => absurd h (Nat.not_succ_le_zero _)
  | _ :: _, _ :: _, 0, _ => rfl
  | _ :: xs, _ :: ys, i + 1, h => getD_zip_fst a b xs ys i (Nat.le_of_succ_le_succ h)

theorem getD_zip_snd {β γ} (a : β) (b : γ) : ∀ (xs : List β) (ys : List γ) (i : Nat), ys.length ≤ xs.length →
    ((xs.zip ys).getD i (a, b)).2 = ys.getD i b
  | _, [], _, _ => by rw [List.zip_nil_right]; rfl
  | [], _ :: _, _, h => absurd h (Nat.not_succ_le_zero _)
  | _ :: _, _ :: _, 0, _ => rfl
  | _ :: xs, _ :: ys, i + 1, h => getD_zip_snd a b xs ys i (Nat.le_of_succ_le_succ h)

theorem getD_zip {β γ} (a : β) (b : γ) (xs : List β) (ys : List γ) (i : Nat) (h : xs.length = ys.length) :
    (xs.zip ys).getD i (a, b) = (xs.getD i a, ys.getD i b) :=
  Prod.ext (getD_zip_fst a b xs ys i (Nat.le_of_eq h)) (getD_zip_snd a b xs ys i (Nat.le_of_eq h.symm))

theorem map_getD_append_lt {β γ} (l l' : List β) (d : β) (g : β → γ) {sel : List Nat} (h : ∀ i ∈ sel, i < l.length) :
    (sel.map fun i => g ((l ++ l').getD i d)) = sel.map fun i => g (l.getD i d) :=
  List.map_congr_left fun i hi => by rw [getD_append_lt l l' d (h i hi)]

theorem selW_append_lt (l l' : List (Rat × Rat)) (sel : List Nat) (h : ∀ i ∈ sel, i < l.length) :
    selW (l ++ l') sel = selW l sel :=
  congrArg List.sum (map_getD_append_lt l l' _ (·.1) h)
theorem selV_append_lt (l l' : List (Rat × Rat)) (sel : List Nat) (h : ∀ i ∈ sel, i < l.length) :
    selV (l ++ l') sel = selV l sel :=
  congrArg List.sum (map_getD_append_lt l l' _ (·.2) h)

theorem selW_snoc_last {l : List (Rat × Rat)} {n : Nat} (hn : l.length = n) (x : Rat × Rat) (sel : List Nat)
    (h : ∀ i ∈ sel, i < n) : selW (l ++ [x]) (n :: sel) = x.1 + selW l sel := by
  subst hn; rw [selW_cons, selW_append_lt _ _ _ h, getD_append_len]
theorem selV_snoc_last {l : List (Rat × Rat)} {n : Nat} (hn : l.length = n) (x : Rat × Rat) (sel : List Nat)
    (h : ∀ i ∈ sel, i < n) : selV (l ++ [x]) (n :: sel) = x.2 + selV l sel := by
  subst hn; rw [selV_cons, selV_append_lt _ _ _ h, getD_append_len]

theorem sel_lt_of_not_mem {n : Nat} {sel : List Nat} (hr : ∀ i ∈ sel, i < n + 1) (hm : n ∉ sel) :
    ∀ i ∈ sel, i < n := by
  intro i hi
  exact Nat.lt_of_le_of_ne (Nat.le_of_lt_succ (hr i hi)) fun h => hm (h ▸ hi)

theorem sel_split {n : Nat} {sel : List Nat} (hnd : sel.Nodup) (hr : ∀ i ∈ sel, i < n + 1) (hm : n ∈ sel) :
    sel.Perm (n :: sel.erase n) ∧ (sel.erase n).Nodup ∧ ∀ i ∈ sel.erase n, i < n :=
  ⟨List.perm_cons_erase hm, hnd.erase n,
    sel_lt_of_not_mem (fun i hi => hr i (List.mem_of_mem_erase hi)) hnd.not_mem_erase⟩

theorem le_optMax {a b : Option Rat} {x : Rat} (h : a = some x ∨ b = some x) : ∃ m, optMax a b = some m ∧ x ≤ m := by
  cases a <;> cases b <;> simp only [optMax]
  · rcases h with h | h <;> cases h
  · rcases h with h | h <;> cases h; exact ⟨x, rfl, Rat.le_refl⟩
  · rcases h with h | h <;> cases h; exact ⟨x, rfl, Rat.le_refl⟩
  · rename_i p q
    split
    · rename_i hlt
      exact ⟨q, rfl, by rcases h with h | h <;> cases h; exact Rat.le_of_lt hlt; exact Rat.le_refl⟩
    · rename_i hlt
      exact ⟨p, rfl, by rcases h with h | h <;> cases h; exact Rat.le_refl; exact Rat.not_lt.1 hlt⟩

theorem optMax_some {a b : Option Rat} {m : Rat} (h : optMax a b = some m) : a = some m ∨ b = some m := by
  cases a <;> cases b <;> simp only [optMax] at h
  · cases h
  · right; exact h
  · left; exact h
  · split at h
    · right; exact h
    · left; exact h

theorem knapBestRev_ge (ritems : List (Rat × Rat)) : ∀ (c : Rat) (sel : List Nat), sel.Nodup →
    (∀ i ∈ sel, i < ritems.length) → selW ritems.reverse sel ≤ c →
    ∃ b, knapBestRev ritems c = some b ∧ selV ritems.reverse sel ≤ b := by
  induction ritems with
  | nil =>
    intro c sel _ hr hw
    cases sel with
    | nil => exact ⟨0, if_pos hw, Rat.le_refl⟩
    | cons i s => exact absurd (hr i List.mem_cons_self) (Nat.not_lt_zero _)
  | cons x prev ih =>
    intro c sel hnd hr hw
    obtain ⟨w, v⟩ := x
    have hlen : prev.reverse.length = prev.length := List.length_reverse
    rw [List.reverse_cons] at hw ⊢
    show ∃ b, optMax (knapBestRev prev c) ((knapBestRev prev (c - w)).map (· + v)) = some b ∧ _
    by_cases hm : prev.length ∈ sel
    · -- the last item is taken: the rest is a selection among the earlier items within `c - w`
      obtain ⟨hp, hnd', hr'⟩ := sel_split hnd hr hm
      rw [selW_perm _ hp, selW_snoc_last hlen _ _ hr'] at hw
      rw [selV_perm _ hp, selV_snoc_last hlen _ _ hr']
      obtain ⟨b', hb', hle⟩ := ih (c - w) _ hnd' hr' (by grind)
      obtain ⟨m, hm1, hm2⟩ := le_optMax (a := knapBestRev prev c) (x := b' + v) (.inr (congrArg (Option.map (· + v)) hb'))
      exact ⟨m, hm1, by grind⟩
    · have hr' := sel_lt_of_not_mem hr hm
      rw [selW_append_lt _ _ _ (hlen ▸ hr')] at hw
      rw [selV_append_lt _ _ _ (hlen ▸ hr')]
      obtain ⟨b', hb', hle⟩ := ih c sel hnd hr' hw
      obtain ⟨m, hm1, hm2⟩ := le_optMax (b := (knapBestRev prev (c - w)).map (· + v)) (.inl hb')
      exact ⟨m, hm1, Rat.le_trans hle hm2⟩

/-- `sel` is an increasing selection among the items `ritems` (listed last first) within capacity `c` and of total value
`b`: what the take/skip recursions `knapBestRev` and `btRec` attain.  Built by `Attains.skip` and `Attains.take` only. -/
structure Attains (ritems : List (Rat × Rat)) (c b : Rat) (sel : List Nat) : Prop where
  sorted : sel.Pairwise (· < ·)
  inRange : ∀ i ∈ sel, i < ritems.length
  fits : selW ritems.reverse sel ≤ c
  value : selV ritems.reverse sel = b

theorem Attains.skip {prev : List (Rat × Rat)} {c b : Rat} {sel : List Nat} (h : Attains prev c b sel) (x : Rat × Rat) :
    Attains (x :: prev) c b sel := by
  have hr : ∀ i ∈ sel, i < prev.reverse.length := by simpa using h.inRange
  refine ⟨h.sorted, fun i hi => Nat.lt_succ_of_lt (h.inRange i hi), ?_, ?_⟩
  · rw [List.reverse_cons, selW_append_lt _ _ _ hr]; exact h.fits
  · rw [List.reverse_cons, selV_append_lt _ _ _ hr]; exact h.value

theorem Attains.take {prev : List (Rat × Rat)} {c b : Rat} {sel : List Nat} {x : Rat × Rat}
    (h : Attains prev (c - x.1) b sel) : Attains (x :: prev) c (b + x.2) (sel ++ [prev.length]) := by
  have hlen : prev.reverse.length = prev.length := List.length_reverse
  refine ⟨List.pairwise_append.2 ⟨h.sorted, List.pairwise_singleton _ _, fun a ha b hb => ?_⟩, fun i hi => ?_, ?_, ?_⟩
  · rw [List.mem_singleton.1 hb]; exact h.inRange a ha
  · rcases List.mem_append.1 hi with hi | hi
    · exact Nat.lt_succ_of_lt (h.inRange i hi)
    · rw [List.mem_singleton.1 hi]; exact Nat.lt_succ_self _
  · rw [List.reverse_cons, selW_perm _ (List.perm_append_singleton _ _), selW_snoc_last hlen _ _ h.inRange]
    have := h.fits; grind
  · rw [List.reverse_cons, selV_perm _ (List.perm_append_singleton _ _), selV_snoc_last hlen _ _ h.inRange, h.value]
    exact Rat.add_comm _ _

theorem knapBestRev_attained (ritems : List (Rat × Rat)) : ∀ (c b : Rat), knapBestRev ritems c = some b →
    ∃ sel, Attains ritems c b sel := by
  induction ritems with
  | nil =>
    intro c b h
    by_cases hc : 0 ≤ c
    · rw [knapBestRev, if_pos hc] at h
      cases h; exact ⟨[], .nil, nofun, hc, rfl⟩
    · rw [knapBestRev, if_neg hc] at h; cases h
  | cons x prev ih =>
    intro c b h
    rcases optMax_some (h : optMax (knapBestRev prev c) ((knapBestRev prev (c - x.1)).map (· + x.2)) = some b) with h | h
    · obtain ⟨sel, hs⟩ := ih c b h
      exact ⟨sel, hs.skip x⟩
    · obtain ⟨b', hb, rfl⟩ := Option.map_eq_some_iff.1 h
      obtain ⟨sel, hs⟩ := ih (c - x.1) b' hb
      exact ⟨_, hs.take⟩

theorem greedyScan_spec (items : List (Rat × Rat)) : ∀ (order : List Nat) (rem : Rat) (acc : List Nat), 0 ≤ rem →
    ∃ picked, greedyScan ratOps items order rem acc = acc.reverse ++ picked ∧ picked.Sublist order ∧
      (∀ i ∈ picked, i < items.length) ∧ selW items picked ≤ rem := by
  intro order
  induction order with
  | nil => intro rem acc h; exact ⟨[], by simp [greedyScan], List.Sublist.refl _, by simp, by simpa [selW] using h⟩
  | cons i rest ih =>
    intro rem acc h
    have skip := (ih rem acc h).imp fun _ => And.imp_right (And.imp_left (List.Sublist.cons i))
    unfold greedyScan
    cases hi : items[i]? with
    | none => exact skip
    | some x =>
      obtain ⟨w, v⟩ := x
      simp only [ratOps_le, ratOps_sub]
      by_cases hw : w ≤ rem
      · rw [if_pos hw]
        obtain ⟨p, h1, h2, h3, h4⟩ := ih (rem - w) (i :: acc) (by grind)
        obtain ⟨hil, hget⟩ := List.getElem?_eq_some_iff.1 hi
        refine ⟨i :: p, by rw [h1]; simp, h2.cons_cons _, List.forall_mem_cons.2 ⟨hil, h3⟩, ?_⟩
        have : items.getD i (0, 0) = (w, v) := by rw [List.getD_eq_getElem?_getD, hi]; rfl
        rw [selW_cons, this]; grind
      · rw [if_neg hw]; exact skip

end Solvor.Pack
