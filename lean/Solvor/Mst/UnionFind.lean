import Solvor.Mst.Spec
/-!
Mst: the parent/rank mirror of `UnionFind` (recursive `find` with path compression, union by rank)
refines the label model: the two Kruskal loops return the same (`uloop_sim`; `kruskalUF_eq` in Theorems.lean follows).
Nothing in here needs `Conn`.  Ds models the same Python class once more, over `Batteries.UnionFind`; the two
developments share only `relabel_eq_iff`.
-/
namespace Solvor.Mst

/-- `r` is the root above `i` in the parent array (reachability in the graph is `Conn`) -/
inductive Reach (par : List Nat) : Nat → Nat → Prop
  | root {r : Nat} : par.getD r r = r → Reach par r r
  | step {i r : Nat} : par.getD i i ≠ i → Reach par (par.getD i i) r → Reach par i r

theorem Reach.step' {par : List Nat} {i p r : Nat} (hp : par.getD i i = p) (hne : p ≠ i) (h : Reach par p r) :
    Reach par i r := by
  subst hp; exact Reach.step hne h

theorem Reach.is_root {par : List Nat} {i r : Nat} (h : Reach par i r) : par.getD r r = r := by
  induction h with
  | root h => exact h
  | step _ _ ih => exact ih

theorem Reach.det {par : List Nat} {i r r' : Nat} (h : Reach par i r) (h' : Reach par i r') : r = r' := by
  induction h with
  | root hr =>
    cases h' with
    | root _ => rfl
    | step hne _ => exact absurd hr hne
  | step hne _ ih =>
    cases h' with
    | root hr => exact absurd hr hne
    | step _ h2 => exact ih h2

theorem Reach.reparent {par : List Nat} {x r : Nat} (hx : Reach par x r) {i ri : Nat} (h : Reach par i ri) :
    Reach (par.set x r) i ri := by
  induction h with
  | @root ri hr =>
    refine Reach.root ?_
    rw [getD_set]
    split
    · rename_i hc
      rw [hc.1] at hx
      exact hx.det (Reach.root hr)
    · exact hr
  | @step i ri hne hreach ih =>
    by_cases hix : x = i
    · subst hix
      obtain rfl := (Reach.step hne hreach).det hx
      have hrx : ri ≠ x := fun e => hne (e ▸ hreach.is_root)
      have hlt : x < par.length := Decidable.byContradiction fun hn => hne (getD_of_ge (Nat.le_of_not_lt hn) _)
      exact Reach.step' (getD_set_self hlt _ _) hrx
        (Reach.root (by rw [getD_set_ne hrx.symm]; exact hreach.is_root))
    · exact Reach.step' (getD_set_ne hix _ _) hne ih

theorem Reach.link {par : List Nat} {c p : Nat} (hcp : c ≠ p) (hc : par.getD c c = c) (hp : par.getD p p = p)
    (hlt : c < par.length) {i ri : Nat} (h : Reach par i ri) :
    Reach (par.set c p) i (if ri = c then p else ri) := by
  induction h with
  | @root ri hr =>
    by_cases hri : ri = c
    · subst hri
      rw [if_pos rfl]
      exact Reach.step' (getD_set_self hlt _ _) hcp.symm (Reach.root (by rw [getD_set_ne hcp]; exact hp))
    · rw [if_neg hri]
      exact Reach.root (by rw [getD_set_ne (Ne.symm hri)]; exact hr)
  | @step i ri hne _ ih =>
    have hic : c ≠ i := fun e => hne (e ▸ hc)
    exact Reach.step' (getD_set_ne hic _ _) hne ih

/-- ranks increase along parent pointers and stay `≤ k`, which is what makes `n` units of fuel enough for `find`;
`k` is only a bound here (`WF.mono`), in `SimSt` it is the number of unions so far -/
structure WF (n k : Nat) (uf : UF) : Prop where
  plen : uf.parent.length = n
  rlen : uf.rank.length = n
  plt : ∀ i, i < n → uf.parent.getD i i < n
  rk : ∀ i, i < n → uf.parent.getD i i ≠ i → uf.rank.getD i 0 < uf.rank.getD (uf.parent.getD i i) 0
  bound : ∀ i, i < n → uf.rank.getD i 0 ≤ k

theorem WF.mono {n k k' : Nat} {uf : UF} (h : WF n k uf) (hk : k ≤ k') : WF n k' uf :=
  { h with bound := fun i hi => Nat.le_trans (h.bound i hi) hk }

theorem Reach.lt {n k : Nat} {uf : UF} (hw : WF n k uf) {i r : Nat} (h : Reach uf.parent i r) (hi : i < n) : r < n := by
  induction h with
  | root _ => exact hi
  | step _ _ ih => exact ih (hw.plt _ hi)

theorem Reach.rank_le {n k : Nat} {uf : UF} (hw : WF n k uf) {i r : Nat} (h : Reach uf.parent i r) (hi : i < n) :
    uf.rank.getD i 0 ≤ uf.rank.getD r 0 := by
  induction h with
  | root _ => exact Nat.le_refl _
  | step hne _ ih => exact Nat.le_trans (Nat.le_of_lt (hw.rk _ hi hne)) (ih (hw.plt _ hi))

theorem WF.top_root {n k : Nat} {uf : UF} (hw : WF n k uf) {i : Nat} (hi : i < n) (h : k ≤ uf.rank.getD i 0) :
    uf.parent.getD i i = i := by
  apply Decidable.byContradiction
  intro hne
  have h1 := hw.rk i hi hne
  have h2 := hw.bound _ (hw.plt i hi)
  omega

theorem WF.exists_root {n k : Nat} {uf : UF} (hw : WF n k uf) : ∀ (d i : Nat), i < n → k ≤ d + uf.rank.getD i 0 →
    ∃ r, Reach uf.parent i r := by
  intro d
  induction d with
  | zero => intro i hi hd; exact ⟨i, Reach.root (hw.top_root hi (by rwa [Nat.zero_add] at hd))⟩
  | succ d ih =>
    intro i hi hd
    by_cases hp : uf.parent.getD i i = i
    · exact ⟨i, Reach.root hp⟩
    · have h1 := hw.rk i hi hp
      obtain ⟨r, hr⟩ := ih _ (hw.plt i hi) (by omega)
      exact ⟨r, Reach.step hp hr⟩

theorem WF.root_of {n k : Nat} {uf : UF} (hw : WF n k uf) {i : Nat} (hi : i < n) : ∃ r, Reach uf.parent i r :=
  hw.exists_root k i hi (Nat.le_add_right _ _)

theorem WF.setParent {n k : Nat} {uf : UF} (hw : WF n k uf) {x r : Nat} (hr : r < n)
    (hrk : uf.rank.getD x 0 < uf.rank.getD r 0) : WF n k { uf with parent := uf.parent.set x r } :=
  { hw with
    plen := by simp [hw.plen]
    plt := by
      intro i hi
      simp only [getD_set]
      split
      · exact hr
      · exact hw.plt i hi
    rk := by
      intro i hi
      simp only [getD_set]
      split
      · rename_i hc; rw [← hc.1]; exact fun _ => hrk
      · exact hw.rk i hi }

theorem WF.bump {n k : Nat} {uf : UF} (hw : WF n k uf) {p : Nat} (hp : uf.parent.getD p p = p) :
    WF n (k + 1) { uf with rank := uf.rank.set p (uf.rank.getD p 0 + 1) } :=
  { hw with
    rlen := by simp [hw.rlen]
    rk := by
      intro i hi hne
      have hip : p ≠ i := fun e => hne (e ▸ hp)
      have := hw.rk i hi hne
      show (uf.rank.set p _).getD i 0 < (uf.rank.set p _).getD (uf.parent.getD i i) 0
      rw [getD_set_ne hip, getD_set]
      split
      · rename_i hc; rw [hc.1]; omega
      · exact this
    bound := by
      intro i hi
      have := hw.bound i hi
      simp only [getD_set]
      split
      · rename_i hc; rw [hc.1]; omega
      · omega }

theorem WF.link {n k : Nat} {uf : UF} (hw : WF n k uf) {c p : Nat} (hcp : c ≠ p) (hpn : p < n)
    (hp : uf.parent.getD p p = p) (hle : uf.rank.getD c 0 ≤ uf.rank.getD p 0) : WF n (k + 1) (uf.link c p) := by
  unfold UF.link
  by_cases heq : uf.rank.getD p 0 = uf.rank.getD c 0
  · rw [if_pos heq]
    refine (hw.bump hp).setParent hpn ?_
    show (uf.rank.set p _).getD c 0 < (uf.rank.set p _).getD p 0
    rw [getD_set_ne hcp.symm, getD_set_self (by rw [hw.rlen]; exact hpn)]
    omega
  · rw [if_neg heq]
    exact (hw.mono (Nat.le_succ k)).setParent hpn (by omega)

theorem UF.find_root {uf : UF} {x : Nat} (h : uf.parent.getD x x = x) (fuel : Nat) : UF.find fuel uf x = (uf, x) := by
  cases fuel with
  | zero => show (uf, uf.parent.getD x x) = (uf, x); rw [h]
  | succ fuel => unfold UF.find; simp only [ne_eq, h, not_true_eq_false, if_false]

theorem UF.find_succ {uf uf' : UF} {x r : Nat} (h : uf.parent.getD x x ≠ x) {fuel : Nat}
    (hr : UF.find fuel uf (uf.parent.getD x x) = (uf', r)) :
    UF.find (fuel + 1) uf x = ({ uf' with parent := uf'.parent.set x r }, r) := by
  conv => lhs; unfold UF.find
  simp only [ne_eq, h, not_false_eq_true, if_true, hr]

theorem find_spec {n k : Nat} {uf : UF} (hw : WF n k uf) : ∀ (fuel x : Nat), x < n → k ≤ fuel + uf.rank.getD x 0 →
    Reach uf.parent x (UF.find fuel uf x).2 ∧ WF n k (UF.find fuel uf x).1 ∧
    (UF.find fuel uf x).1.rank = uf.rank ∧
    ∀ i ri, Reach uf.parent i ri → Reach (UF.find fuel uf x).1.parent i ri := by
  intro fuel
  induction fuel with
  | zero =>
    intro x hx hf
    have hroot := hw.top_root hx (by rwa [Nat.zero_add] at hf)
    rw [UF.find_root hroot]
    exact ⟨Reach.root hroot, hw, rfl, fun _ _ h => h⟩
  | succ fuel ih =>
    intro x hx hf
    by_cases hp : uf.parent.getD x x = x
    · rw [UF.find_root hp]
      exact ⟨Reach.root hp, hw, rfl, fun _ _ h => h⟩
    · have hrk := hw.rk x hx hp
      have hplt := hw.plt x hx
      obtain ⟨h1, h2, h3, h4⟩ := ih (uf.parent.getD x x) hplt (by omega)
      generalize hfr : UF.find fuel uf (uf.parent.getD x x) = fr at h1 h2 h3 h4
      obtain ⟨uf1, r⟩ := fr
      rw [UF.find_succ hp hfr]
      have hxr : Reach uf.parent x r := Reach.step hp h1
      refine ⟨hxr, h2.setParent (hxr.lt hw hx) ?_, h3, fun i ri h => (h4 _ _ hxr).reparent (h4 i ri h)⟩
      show uf1.rank.getD x 0 < uf1.rank.getD r 0
      rw [show uf1.rank = uf.rank from h3]
      exact Nat.lt_of_lt_of_le hrk (h1.rank_le hw hplt)

/-- the parent/rank structure and the labels describe the same partition of `0 … n-1` -/
structure SimUF (n k : Nat) (uf : UF) (lab : Lab) : Prop where
  wf : WF n k uf
  same : ∀ i j ri rj, i < n → j < n → Reach uf.parent i ri → Reach uf.parent j rj → (ri = rj ↔ lab.f i = lab.f j)

theorem simUF_init (n : Nat) : SimUF n 0 (UF.init n) Lab.id := by
  have hroot : ∀ i, (List.range n).getD i i = i := by
    intro i
    by_cases hi : i < n
    · rw [getD_of_lt (by rw [List.length_range]; exact hi), List.getElem_range]
    · exact getD_of_ge (by rw [List.length_range]; exact Nat.le_of_not_lt hi) _
  refine ⟨{ plen := by simp [UF.init], rlen := by simp [UF.init], plt := ?_, rk := ?_, bound := ?_ }, ?_⟩
  · intro i hi; simp only [UF.init, hroot]; exact hi
  · intro i _ hne; exact absurd (hroot i) hne
  · intro i hi
    simp [UF.init, List.getD_eq_getElem?_getD, hi]
  · intro i j ri rj _ _ hi hj
    obtain rfl := hi.det (Reach.root (hroot i))
    obtain rfl := hj.det (Reach.root (hroot j))
    rw [Lab.id_f, Lab.id_f]

theorem SimUF.step {n k k' : Nat} {uf uf' : UF} {lab lab' : Lab} (h : SimUF n k uf lab) (hw : WF n k' uf')
    {φ : Nat → Nat} (hpres : ∀ i ri, Reach uf.parent i ri → Reach uf'.parent i (φ ri))
    (hlab : ∀ i j ri rj, i < n → j < n → Reach uf.parent i ri → Reach uf.parent j rj →
      (φ ri = φ rj ↔ lab'.f i = lab'.f j)) : SimUF n k' uf' lab' := by
  refine ⟨hw, fun i j ri rj hi hj hri hrj => ?_⟩
  obtain ⟨ri0, h1⟩ := h.wf.root_of hi
  obtain ⟨rj0, h2⟩ := h.wf.root_of hj
  obtain rfl := (hpres _ _ h1).det hri
  obtain rfl := (hpres _ _ h2).det hrj
  exact hlab i j _ _ hi hj h1 h2

theorem SimUF.merge {n k : Nat} {uf uf' : UF} {lab : Lab} (h : SimUF n k uf lab) {x y rx ry : Nat}
    (hx : x < n) (hy : y < n) (hrx : Reach uf.parent x rx) (hry : Reach uf.parent y ry)
    (hw : WF n (k + 1) uf') {c p : Nat} (hcp : (c = ry ∧ p = rx) ∨ (c = rx ∧ p = ry))
    (hpres : ∀ i ri, Reach uf.parent i ri → Reach uf'.parent i (if ri = c then p else ri)) :
    SimUF n (k + 1) uf' (union lab x y) := by
  refine h.step hw hpres fun i j ri rj hi hj hri hrj => ?_
  rw [union_f, union_f, relabel_eq_iff, relabel_eq_iff, ← h.same i j _ _ hi hj hri hrj,
    ← h.same i x _ _ hi hx hri hrx, ← h.same y j _ _ hy hj hry hrj, ← h.same i y _ _ hi hy hri hry,
    ← h.same x j _ _ hx hj hrx hrj]
  rcases hcp with ⟨rfl, rfl⟩ | ⟨rfl, rfl⟩
  · exact Iff.rfl
  · exact or_congr Iff.rfl Or.comm

theorem simUF_union {n k fuel : Nat} {uf : UF} {lab : Lab} (h : SimUF n k uf lab) {x y : Nat} (hx : x < n)
    (hy : y < n) (hf : k ≤ fuel) :
    if lab.f x = lab.f y then (UF.union fuel uf x y).2 = false ∧ SimUF n k (UF.union fuel uf x y).1 lab
    else (UF.union fuel uf x y).2 = true ∧ SimUF n (k + 1) (UF.union fuel uf x y).1 (union lab x y) := by
  obtain ⟨rx, hrx⟩ := h.wf.root_of hx
  obtain ⟨ry, hry⟩ := h.wf.root_of hy
  have hsame := h.same x y rx ry hx hy hrx hry
  obtain ⟨a1, a2, _, a4⟩ := find_spec h.wf fuel x hx (Nat.le_trans hf (Nat.le_add_right _ _))
  generalize hf1 : UF.find fuel uf x = f1 at a1 a2 a4
  obtain ⟨uf1, rx'⟩ := f1
  obtain rfl : rx = rx' := hrx.det a1
  obtain ⟨b1, b2, _, b4⟩ := find_spec a2 fuel y hy (Nat.le_trans hf (Nat.le_add_right _ _))
  generalize hf2 : UF.find fuel uf1 y = f2 at b1 b2 b4
  obtain ⟨uf2, ry'⟩ := f2
  obtain rfl : ry = ry' := (a4 _ _ hry).det b1
  have hpres : ∀ i ri, Reach uf.parent i ri → Reach uf2.parent i ri := fun i ri h => b4 i ri (a4 i ri h)
  have hrxn : rx < n := hrx.lt h.wf hx
  have hryn : ry < n := hry.lt h.wf hy
  have hrootx : uf2.parent.getD rx rx = rx := (hpres _ _ hrx).is_root
  have hrooty : uf2.parent.getD ry ry = ry := (hpres _ _ hry).is_root
  unfold UF.union
  simp only [hf1, hf2]
  by_cases heq : rx = ry
  · rw [if_pos heq, if_pos (hsame.1 heq)]
    exact ⟨rfl, h.step (φ := id) b2 hpres h.same⟩
  · rw [if_neg heq, if_neg (mt hsame.2 heq)]
    by_cases hlt : uf2.rank.getD rx 0 < uf2.rank.getD ry 0
    · rw [if_pos hlt]
      exact ⟨rfl, h.merge hx hy hrx hry (b2.link heq hryn hrooty (Nat.le_of_lt hlt)) (Or.inr ⟨rfl, rfl⟩)
        fun i ri hh => (hpres i ri hh).link heq hrootx hrooty (by rw [b2.plen]; exact hrxn)⟩
    · rw [if_neg hlt]
      exact ⟨rfl, h.merge hx hy hrx hry (b2.link (Ne.symm heq) hrxn hrootx (Nat.le_of_not_lt hlt))
        (Or.inl ⟨rfl, rfl⟩)
        fun i ri hh => (hpres i ri hh).link (Ne.symm heq) hrooty hrootx (by rw [b2.plen]; exact hryn)⟩

/-- `len`: the loop stops at the `n - 1`-st union, so while it runs there were at most `n - 2`, which keeps `n`
units of fuel enough -/
structure SimSt (n : Nat) (su : UState) (sk : KState) : Prop where
  acc : su.acc = sk.acc
  total : su.total = sk.total
  iters : su.iters = sk.iters
  sim : SimUF n sk.acc.length su.uf sk.lab
  len : sk.acc.length ≤ n - 2

theorem uloop_sim {n : Nat} (rest : List Edge) : ∀ (su : UState) (sk : KState), SimSt n su sk →
    Valid n rest →
    (uloop n rest su).acc = (kloop n rest sk).acc ∧ (uloop n rest su).total = (kloop n rest sk).total ∧
    (uloop n rest su).iters = (kloop n rest sk).iters := by
  induction rest with
  | nil => intro su sk h _; exact ⟨h.acc, h.total, h.iters⟩
  | cons e rest ih =>
    intro su sk h hv
    obtain ⟨hu, hv'⟩ := hv e List.mem_cons_self
    have hrest : Valid n rest := fun x hx => hv x (List.mem_cons_of_mem _ hx)
    have hspec := simUF_union h.sim hu hv' (Nat.le_trans h.len (Nat.sub_le n 2))
    -- two distinct nodes below `n`, and no `break` at this union: room for one more
    have hnext : e.u ≠ e.v → ¬ sk.acc.length + 1 + 1 = n → sk.acc.length + 1 ≤ n - 2 := by
      have := h.len
      omega
    unfold uloop kloop
    rw [breakOff_eq]
    generalize UF.union n su.uf e.u e.v = pr at hspec
    obtain ⟨uf', merged⟩ := pr
    by_cases hl : sk.lab.f e.u = sk.lab.f e.v
    · rw [if_pos hl] at hspec
      obtain ⟨hm, hsim⟩ := hspec
      obtain rfl : merged = false := hm
      simp only [Bool.not_false, if_true, hl]
      exact ih _ _ { acc := h.acc, total := h.total, iters := congrArg (· + 1) h.iters, sim := hsim, len := h.len } hrest
    · rw [if_neg hl] at hspec
      obtain ⟨hm, hsim⟩ := hspec
      obtain rfl : merged = true := hm
      simp only [Bool.not_true, Bool.false_eq_true, if_false, hl]
      rw [h.acc, h.total, h.iters]
      split
      · exact ⟨rfl, rfl, rfl⟩
      · rename_i hnb
        refine ih _ _ { acc := rfl, total := rfl, iters := rfl, sim := by simpa using hsim, len := ?_ } hrest
        simp only [List.length_append, List.length_singleton] at hnb ⊢
        exact hnext (fun e' => hl (e' ▸ rfl)) hnb

end Solvor.Mst
