import Solvor.Mst.Orient
import Solvor.Mst.UnionFind
/-! Mst: the property theorems of C13: first the checkers that the driver evaluates on the implementation's
own output, then the models `kruskal`, `kruskalUF` and `prim` on every input. -/
namespace Solvor.Mst
open Solvor.Gen (Status)

/-- The Bool checker the driver runs on the implementation's edge list decides "is a spanning tree". -/
theorem chkSpanningTree_iff (n : Nat) (E T : List Edge) :
    chkSpanningTree n E T = true ↔ IsSpanningTree n E T := by
  simp only [chkSpanningTree, Bool.and_eq_true, beq_iff_eq, subsetB_iff, connectedB_iff]
  exact ⟨fun ⟨⟨h1, h2⟩, h3⟩ => ⟨h1, h2, h3⟩, fun h => ⟨⟨h.sub, h.card⟩, h.conn⟩⟩

-- the graph drawn in the module docstring of `solvor/mst.py`, here and in the examples below
example : IsSpanningTree 4 [⟨0, 1, 4⟩, ⟨0, 2, 3⟩, ⟨1, 2, 2⟩, ⟨1, 3, 5⟩, ⟨2, 3, 6⟩]
    [⟨1, 2, 2⟩, ⟨0, 2, 3⟩, ⟨1, 3, 5⟩] := (chkSpanningTree_iff _ _ _).1 (by decide)

/-- Why `IsSpanningTree` has no clause "without a cycle": `n-1` edges that join `n` nodes have none, self loops
and parallel pairs included. -/
theorem spanningTree_acyclic {n : Nat} {E T : List Edge} (hE : Valid n E) (h : IsSpanningTree n E T) :
    Acyclic T := by
  have hn : 0 < n := by have := h.card; omega
  have hc := (connected_iff_comps hn T).1 h.conn
  exact tight_acyclic (valid_of_sub hE h.sub) (by have := h.card; omega)

example : Acyclic [⟨1, 2, 2⟩, ⟨0, 2, 3⟩, ⟨1, 3, 5⟩] :=
  spanningTree_acyclic (n := 4) (E := [⟨0, 1, 4⟩, ⟨0, 2, 3⟩, ⟨1, 2, 2⟩, ⟨1, 3, 5⟩, ⟨2, 3, 6⟩])
    (validB_iff.1 (by decide)) ((chkSpanningTree_iff _ _ _).1 (by decide))

/-- The Bool checker for `allow_forest` results decides "is a spanning forest of the input". -/
theorem chkSpanningForest_iff (E T : List Edge) : chkSpanningForest E T = true ↔ IsSpanningForest E T := by
  simp only [chkSpanningForest, Bool.and_eq_true, subsetB_iff, forestB_iff, spansB_iff]
  exact ⟨fun ⟨⟨h1, h2⟩, h3⟩ => ⟨h1, h2, h3⟩, fun h => ⟨⟨h.sub, h.acyclic⟩, h.spans⟩⟩

example : IsSpanningForest [⟨0, 1, 4⟩, ⟨2, 3, 1⟩, ⟨2, 2, -1⟩, ⟨3, 2, 7⟩] [⟨2, 3, 1⟩, ⟨0, 1, 4⟩] :=
  (chkSpanningForest_iff _ _).1 (by decide)

/-- The connectivity test the driver uses to decide which clause of the property applies. -/
theorem connectedB_correct (n : Nat) (F : List Edge) : connectedB n F = true ↔ Connected n F := connectedB_iff

example : ¬ Connected 4 [⟨0, 1, 4⟩, ⟨2, 3, 1⟩, ⟨2, 2, -1⟩] := by
  rw [← connectedB_correct]; decide

/-- The two input-shape tests the driver evaluates on every `prim` case decide the hypotheses `GoodAdj` (of
`prim_tree`, `prim_minimal`) and `SameGraph` (of `kruskal_prim_agree`). -/
theorem inputShape_correct (adj : Adj) (E : List Edge) :
    (goodAdjB adj = true ↔ GoodAdj adj) ∧ (sameGraphB E (arcs adj) = true ↔ SameGraph E (arcs adj)) :=
  ⟨goodAdjB_iff, sameGraphB_iff⟩

example : ¬ GoodAdj [[(1, 4)], []] := by rw [← goodAdjB_iff]; decide

theorem IsSpanningTree.forest {n : Nat} {E T : List Edge} (hE : Valid n E) (h : IsSpanningTree n E T) :
    IsSpanningForest E T where
  sub := h.sub
  acyclic := spanningTree_acyclic hE h
  spans := by
    intro a b hab
    by_cases heq : a = b
    · subst heq; exact Conn.refl _
    · have := hab.lt_of_valid hE heq
      exact h.conn a b this.1 this.2

/-- A spanning forest of the input on which the driver's check `chkMinCert` passes weighs no more than any spanning
forest of the input.  The check is the cycle property: no tree path has an edge heavier than a non-tree edge
closing it. -/
theorem msf_cycle_cert {E T T' : List Edge} (hT : IsSpanningForest E T) (hcert : chkMinCert E T = true)
    (hT' : IsSpanningForest E T') : weight T ≤ weight T' :=
  (chkMinCert_iff.1 hcert).weight_le hT hT'

example : IsSpanningForest [⟨0, 1, 4⟩, ⟨2, 3, 1⟩, ⟨2, 2, -1⟩, ⟨3, 2, 7⟩] [⟨2, 3, 1⟩, ⟨0, 1, 4⟩] ∧
    chkMinCert [⟨0, 1, 4⟩, ⟨2, 3, 1⟩, ⟨2, 2, -1⟩, ⟨3, 2, 7⟩] [⟨2, 3, 1⟩, ⟨0, 1, 4⟩] = true ∧
    IsSpanningForest [⟨0, 1, 4⟩, ⟨2, 3, 1⟩, ⟨2, 2, -1⟩, ⟨3, 2, 7⟩] [⟨0, 1, 4⟩, ⟨3, 2, 7⟩] :=
  ⟨(chkSpanningForest_iff _ _).1 (by decide), by decide, (chkSpanningForest_iff _ _).1 (by decide)⟩

theorem mst_cycle_cert {n : Nat} {E T T' : List Edge} (hE : Valid n E) (hT : IsSpanningTree n E T)
    (hcert : chkMinCert E T = true) (hT' : IsSpanningTree n E T') : weight T ≤ weight T' :=
  msf_cycle_cert (hT.forest hE) hcert (hT'.forest hE)

example : weight [⟨1, 2, 2⟩, ⟨0, 2, 3⟩, ⟨1, 3, 5⟩] ≤ weight [⟨0, 1, 4⟩, ⟨0, 2, 3⟩, ⟨2, 3, 6⟩] :=
  mst_cycle_cert (n := 4) (E := [⟨0, 1, 4⟩, ⟨0, 2, 3⟩, ⟨1, 2, 2⟩, ⟨1, 3, 5⟩, ⟨2, 3, 6⟩])
    (validB_iff.1 (by decide)) ((chkSpanningTree_iff _ _ _).1 (by decide)) (by decide)
    ((chkSpanningTree_iff _ _ _).1 (by decide))

/-- C13, what `kruskal` returns (`n ≥ 1`, endpoints `< n`: other inputs raise): a spanning forest `acc` of the
input, taken from it with multiplicity (`Subperm`); `OPTIMAL` with `acc` on a connected input, otherwise `FEASIBLE`
with `acc` under `allow_forest` and `INFEASIBLE` without.  `numComps` counts components without the label model. -/
theorem kruskal_forest (n : Nat) (E : List Edge) (af : Bool) (hn : 0 < n) (hE : Valid n E) :
    ∃ acc : List Edge,
      acc.Subperm E ∧ Acyclic acc ∧ (∀ a b, Conn acc a b ↔ Conn E a b) ∧ acc.length + numComps n E = n ∧
      (Connected n E → acc.length + 1 = n ∧ (kruskal n E af).status = .OPTIMAL ∧
        (kruskal n E af).sol = some acc ∧ (kruskal n E af).obj = some (weight acc)) ∧
      (¬ Connected n E → af = true → (kruskal n E af).status = .FEASIBLE ∧
        (kruskal n E af).sol = some acc ∧ (kruskal n E af).obj = some (weight acc)) ∧
      (¬ Connected n E → af = false → (kruskal n E af).status = .INFEASIBLE ∧
        (kruskal n E af).sol = none ∧ (kruskal n E af).obj = none) := by
  obtain ⟨acc, iters, hk, hsub, hfor, _⟩ := kruskal_spec hE af
  have hcnt := hfor.length_add_comps hE
  have hshort : acc.length + 1 < n ↔ ¬ Connected n E := by
    have := comps_pos hn E
    rw [connected_iff_comps hn]; omega
  rw [hk]
  refine ⟨acc, hsub, hfor.acyclic, fun a b => ⟨Conn.mono hfor.sub, hfor.spans a b⟩,
    by rw [← comps_eq_numComps]; exact hcnt, fun hc => ?_, fun hc haf => ?_, fun hc haf => ?_⟩
  · have hfull : ¬ acc.length + 1 < n := fun h => hshort.1 h hc
    rw [kfinish_full hfull]
    exact ⟨by have := (connected_iff_comps hn E).1 hc; omega, rfl, rfl, rfl⟩
  · rw [kfinish_short (hshort.2 hc), haf]; exact ⟨rfl, rfl, rfl⟩
  · rw [kfinish_short (hshort.2 hc), haf]; exact ⟨rfl, rfl, rfl⟩

example : (kruskal 4 [⟨0, 1, 4⟩, ⟨0, 2, 3⟩, ⟨1, 2, 2⟩, ⟨1, 3, 5⟩, ⟨2, 3, 6⟩] false).sol
    = some [⟨1, 2, 2⟩, ⟨0, 2, 3⟩, ⟨1, 3, 5⟩] := by decide
example : 0 < 4 ∧ Valid 4 [⟨0, 1, 4⟩, ⟨0, 2, 3⟩, ⟨1, 2, 2⟩, ⟨1, 3, 5⟩, ⟨2, 3, 6⟩] :=
  ⟨by omega, validB_iff.1 (by decide)⟩
example : (kruskal 4 [⟨0, 1, 4⟩, ⟨2, 3, 1⟩, ⟨2, 2, -1⟩] true).status = .FEASIBLE := by decide

/-- C13, minimality of what `kruskal` returns, be it a tree or (under `allow_forest`) a forest; the objective it
reports is that weight. -/
theorem kruskal_minimal (n : Nat) (E : List Edge) (af : Bool) (hn : 0 < n) (hE : Valid n E)
    (acc : List Edge) (hsol : (kruskal n E af).sol = some acc) :
    (kruskal n E af).obj = some (weight acc) ∧
    (∀ T', IsSpanningForest E T' → weight acc ≤ weight T') ∧
    (∀ T', IsSpanningTree n E T' → weight acc ≤ weight T') := by
  obtain ⟨acc', iters, hk, _, hfor, hcert⟩ := kruskal_spec hE af
  rw [hk] at hsol ⊢
  obtain ⟨rfl, hobj⟩ := kfinish_sol hsol
  exact ⟨hobj, fun T' hT' => hcert.weight_le hfor hT', fun T' hT' => hcert.weight_le hfor (hT'.forest hE)⟩

example : (kruskal 4 [⟨0, 1, 4⟩, ⟨0, 2, 3⟩, ⟨1, 2, 2⟩, ⟨1, 3, 5⟩, ⟨2, 3, 6⟩] false).obj = some 10 ∧
    IsSpanningTree 4 [⟨0, 1, 4⟩, ⟨0, 2, 3⟩, ⟨1, 2, 2⟩, ⟨1, 3, 5⟩, ⟨2, 3, 6⟩] [⟨0, 1, 4⟩, ⟨0, 2, 3⟩, ⟨2, 3, 6⟩] :=
  ⟨by decide, (chkSpanningTree_iff _ _ _).1 (by decide)⟩

/-- The Kruskal loop over the literal mirror of `solvor.utils.UnionFind` (parent and rank arrays, recursive `find`
with path compression, union by rank) returns what the label model returns, iteration count included: every
theorem above is one about `kruskalUF` as well. -/
theorem kruskalUF_eq (n : Nat) (E : List Edge) (af : Bool) (hE : Valid n E) :
    kruskalUF n E af = kruskal n E af := by
  obtain ⟨h1, h2, h3⟩ := uloop_sim (sortEdges E) ⟨UF.init n, [], 0, 0⟩ kinit
    { acc := rfl, total := rfl, iters := rfl, sim := simUF_init n, len := Nat.zero_le _ }
    fun e he => hE e (mem_sortEdges.1 he)
  simp only [kruskalUF, kruskal, h1, h2, h3]

example : kruskalUF 4 [⟨0, 1, 4⟩, ⟨0, 2, 3⟩, ⟨1, 2, 2⟩, ⟨1, 3, 5⟩, ⟨2, 3, 6⟩] false
    = ⟨.OPTIMAL, some [⟨1, 2, 2⟩, ⟨0, 2, 3⟩, ⟨1, 3, 5⟩], some 10, 4, 5⟩ := by decide

/-- C13, what `prim` returns on an undirected graph given as adjacency lists (`GoodAdj`), from any start node:
`OPTIMAL` with a spanning tree on a connected graph, `INFEASIBLE` without solution otherwise. -/
theorem prim_tree (adj : Adj) (start : Nat) (hg : GoodAdj adj) (hs : start < adj.length) :
    (Connected adj.length (arcs adj) → ∃ acc, (prim adj start).status = .OPTIMAL ∧
        (prim adj start).sol = some acc ∧ (prim adj start).obj = some (weight acc) ∧
        IsSpanningTree adj.length (arcs adj) acc ∧ Acyclic acc) ∧
    (¬ Connected adj.length (arcs adj) → (prim adj start).status = .INFEASIBLE ∧
        (prim adj start).sol = none ∧ (prim adj start).obj = none) := by
  obtain ⟨_, _, ⟨acc, hp, htree, _⟩ | ⟨hp, hnc⟩⟩ := prim_cases hg hs
  · have hc : Connected adj.length (arcs adj) := fun a b ha hb => Conn.mono htree.sub (htree.conn a b ha hb)
    refine ⟨fun _ => ⟨acc, ?_, ?_, ?_, htree, spanningTree_acyclic hg.valid htree⟩, fun h => absurd hc h⟩ <;> rw [hp]
  · refine ⟨fun h => absurd h hnc, fun _ => ?_⟩
    rw [hp]; exact ⟨rfl, rfl, rfl⟩

example : GoodAdj [[(1, 4), (2, 3)], [(0, 4), (2, 2), (3, 5)], [(0, 3), (1, 2), (3, 6)], [(1, 5), (2, 6)]] ∧
    (prim [[(1, 4), (2, 3)], [(0, 4), (2, 2), (3, 5)], [(0, 3), (1, 2), (3, 6)], [(1, 5), (2, 6)]] 3).sol
      = some [⟨3, 1, 5⟩, ⟨1, 2, 2⟩, ⟨2, 0, 3⟩] := by
  exact ⟨goodAdjB_iff.1 (by decide), by decide⟩

/-- C13, minimality of the tree `prim` returns (the cut argument is the clause `bott` of the loop invariant). -/
theorem prim_minimal (adj : Adj) (start : Nat) (hg : GoodAdj adj) (hs : start < adj.length)
    (acc : List Edge) (hsol : (prim adj start).sol = some acc) :
    (prim adj start).obj = some (weight acc) ∧
    (∀ T', IsSpanningTree adj.length (arcs adj) T' → weight acc ≤ weight T') ∧
    (∀ T', IsSpanningForest (arcs adj) T' → weight acc ≤ weight T') := by
  obtain ⟨_, _, ⟨acc', hp, htree, hcert⟩ | ⟨hp, _⟩⟩ := prim_cases hg hs
  · rw [hp] at hsol ⊢
    simp only [Option.some.injEq] at hsol
    subst hsol
    have hmin : ∀ T', IsSpanningForest (arcs adj) T' → weight acc' ≤ weight T' := fun T' hT' =>
      hcert.weight_le (htree.forest hg.valid) hT'
    exact ⟨rfl, fun T' hT' => hmin T' (hT'.forest hg.valid), hmin⟩
  · rw [hp] at hsol; simp at hsol

example : (prim [[(1, 4), (2, 3)], [(0, 4), (2, 2), (3, 5)], [(0, 3), (1, 2), (3, 6)], [(1, 5), (2, 6)]] 3).obj
    = some 10 := by decide

/-- C13, the two agree on a connected graph: `kruskal` is given each undirected edge once, in some orientation,
`prim` the adjacency lists of the same graph (`SameGraph`, decided by `sameGraphB`). -/
theorem kruskal_prim_agree (n : Nat) (E : List Edge) (af : Bool) (adj : Adj) (start : Nat)
    (hn : 0 < n) (hE : Valid n E) (hg : GoodAdj adj) (hs : start < adj.length) (hlen : adj.length = n)
    (hsame : SameGraph E (arcs adj)) (hc : Connected n E) :
    (kruskal n E af).obj = (prim adj start).obj ∧ (prim adj start).obj ≠ none := by
  subst hlen
  have hcA : Connected adj.length (arcs adj) := fun a b ha hb => hsame.1.conn (hc a b ha hb)
  obtain ⟨accK, itK, hk, _, hforK, hcertK⟩ := kruskal_spec hE af
  obtain ⟨_, _, ⟨accP, hp, htreeP, hcertP⟩ | ⟨_, hnc⟩⟩ := prim_cases hg hs
  · have hforP := htreeP.forest hg.valid
    -- each of the two certified forests, re-oriented, is a spanning forest of the other edge list
    obtain ⟨f1, w1⟩ := forest_transfer hsame hforP
    obtain ⟨f2, w2⟩ := forest_transfer hsame.symm hforK
    have h1 := hcertK.weight_le hforK f1
    have h2 := hcertP.weight_le hforP f2
    have hfull : ¬ accK.length + 1 < adj.length := by
      have := hforK.length_add_comps hE
      have := (connected_iff_comps hn E).1 hc
      omega
    rw [hk, kfinish_full hfull, hp]
    exact ⟨by rw [show weight accK = weight accP by omega], by simp⟩
  · exact absurd hcA hnc

example : SameGraph [⟨0, 1, 4⟩, ⟨0, 2, 3⟩, ⟨1, 2, 2⟩, ⟨1, 3, 5⟩, ⟨2, 3, 6⟩]
      (arcs [[(1, 4), (2, 3)], [(0, 4), (2, 2), (3, 5)], [(0, 3), (1, 2), (3, 6)], [(1, 5), (2, 6)]]) ∧
    GoodAdj [[(1, 4), (2, 3)], [(0, 4), (2, 2), (3, 5)], [(0, 3), (1, 2), (3, 6)], [(1, 5), (2, 6)]] ∧
    Connected 4 [⟨0, 1, 4⟩, ⟨0, 2, 3⟩, ⟨1, 2, 2⟩, ⟨1, 3, 5⟩, ⟨2, 3, 6⟩] :=
  ⟨sameGraphB_iff.1 (by decide), goodAdjB_iff.1 (by decide), connectedB_iff.1 (by decide)⟩

end Solvor.Mst
