import Solvor.Mst.KruskalLemmas
/-!
Mst: the loop invariant of the Prim mirror.
-/
namespace Solvor.Mst

theorem hLe_iff {a b : HItem} : hLe a b = true ↔ a.w < b.w ∨ (a.w = b.w ∧ a.c ≤ b.c) := by
  simp [hLe]

theorem hLe_refl (a : HItem) : hLe a a = true := hLe_iff.2 (Or.inr ⟨rfl, Nat.le_refl _⟩)

theorem hLe_trans {a b c : HItem} (h1 : hLe a b = true) (h2 : hLe b c = true) : hLe a c = true := by
  rw [hLe_iff] at *
  omega

theorem hLe_total (a b : HItem) : hLe a b = true ∨ hLe b a = true := by
  rw [hLe_iff, hLe_iff]
  omega

theorem hLe_w {a b : HItem} (h : hLe a b = true) : a.w ≤ b.w := by
  rw [hLe_iff] at h
  omega

theorem popMin_none {h : List HItem} : popMin h = none ↔ h = [] := by
  cases h with
  | nil => simp [popMin]
  | cons x xs =>
    simp only [popMin]
    cases popMin xs with
    | none => simp
    | some p => obtain ⟨m, r⟩ := p; simp only; split <;> simp

theorem popMin_some : ∀ {h : List HItem} {m : HItem} {r : List HItem}, popMin h = some (m, r) →
    h.Perm (m :: r) ∧ ∀ x ∈ h, hLe m x = true := by
  intro h
  induction h with
  | nil => intro m r hp; cases hp
  | cons x xs ih =>
    intro m r hp
    rw [popMin] at hp
    cases hq : popMin xs with
    | none =>
      obtain rfl := popMin_none.1 hq
      cases hp
      exact ⟨.refl _, fun y hy => List.mem_singleton.1 hy ▸ hLe_refl _⟩
    | some p =>
      obtain ⟨hperm, hmin⟩ := ih hq
      rw [hq] at hp
      dsimp only at hp
      split at hp <;> cases hp
      · rename_i hle
        exact ⟨hperm.cons _, fun y hy => (List.mem_cons.1 hy).elim (· ▸ hLe_refl _) fun hy => hLe_trans hle (hmin y hy)⟩
      · rename_i hnle
        exact ⟨(hperm.cons x).trans (.swap ..),
          fun y hy => (List.mem_cons.1 hy).elim (· ▸ (hLe_total _ _).resolve_left hnle) (hmin y)⟩

theorem mkItems_arcs (src c : Nat) (nb : List (Nat × Int)) :
    (mkItems src c nb).map (fun it => (it.u, it.v, it.w)) = nb.map fun p => (src, p.1, p.2) := by
  induction nb generalizing c with
  | nil => rfl
  | cons p nb ih => simp [mkItems, ih]

theorem mkItems_length (src c : Nat) (nb : List (Nat × Int)) : (mkItems src c nb).length = nb.length := by
  rw [← List.length_map (f := fun it => (it.u, it.v, it.w)), mkItems_arcs, List.length_map]

theorem mkItems_complete (src : Nat) (nb : List (Nat × Int)) (c : Nat) (p : Nat × Int) (hp : p ∈ nb) :
    ∃ it ∈ mkItems src c nb, it.w = p.2 ∧ it.v = p.1 := by
  have := List.mem_map_of_mem (f := fun p : Nat × Int => (src, p.1, p.2)) hp
  rw [← mkItems_arcs src c, List.mem_map] at this
  obtain ⟨it, hit, h⟩ := this
  simp only [Prod.mk.injEq] at h
  exact ⟨it, hit, h.2.2, h.2.1⟩

theorem mkItems_sound (src : Nat) (nb : List (Nat × Int)) (c : Nat) (it : HItem) (hit : it ∈ mkItems src c nb) :
    it.u = src ∧ (it.v, it.w) ∈ nb := by
  have := List.mem_map_of_mem (f := fun it : HItem => (it.u, it.v, it.w)) hit
  rw [mkItems_arcs, List.mem_map] at this
  obtain ⟨p, hp, h⟩ := this
  simp only [Prod.mk.injEq] at h
  exact ⟨h.1.symm, h.2.1 ▸ h.2.2 ▸ hp⟩

/-- assumed of `prim`'s input; the driver decides it (`goodAdjB`) on every case it is sent -/
structure GoodAdj (adj : Adj) : Prop where
  wf : ∀ u, ∀ p ∈ adj.nbrs u, p.1 < adj.length
  sym : ∀ u, ∀ p ∈ adj.nbrs u, (u, p.2) ∈ adj.nbrs p.1

theorem mem_arcsFrom (adj : Adj) : ∀ (u0 : Nat) (e : Edge),
    e ∈ arcsFrom u0 adj ↔ ∃ k, e.u = u0 + k ∧ (e.v, e.w) ∈ adj.getD k [] := by
  induction adj with
  | nil => intro u0 e; simp [arcsFrom]
  | cons nb rest ih =>
    intro u0 e
    rw [arcsFrom, List.mem_append, ih, List.mem_map]
    constructor
    · rintro (⟨p, hp, rfl⟩ | ⟨k, h1, h2⟩)
      · exact ⟨0, rfl, hp⟩
      · exact ⟨k + 1, by omega, h2⟩
    · rintro ⟨k, h1, h2⟩
      cases k with
      | zero => obtain ⟨u, v, w⟩ := e; cases h1; exact Or.inl ⟨(v, w), h2, rfl⟩
      | succ k => exact Or.inr ⟨k, by omega, h2⟩

theorem mem_arcs {adj : Adj} {e : Edge} : e ∈ arcs adj ↔ (e.v, e.w) ∈ adj.nbrs e.u := by
  rw [arcs, mem_arcsFrom]
  constructor
  · rintro ⟨k, h1, h2⟩; rw [Nat.zero_add] at h1; rw [h1]; exact h2
  · intro h; exact ⟨e.u, (Nat.zero_add _).symm, h⟩

theorem nbrs_lt {adj : Adj} {u : Nat} {p : Nat × Int} (h : p ∈ adj.nbrs u) : u < adj.length := by
  apply Decidable.byContradiction
  intro hu
  rw [Adj.nbrs, getD_of_ge (Nat.le_of_not_lt hu)] at h
  cases h

theorem GoodAdj.valid {adj : Adj} (h : GoodAdj adj) : Valid adj.length (arcs adj) :=
  fun _ he => ⟨nbrs_lt (mem_arcs.1 he), h.wf _ _ (mem_arcs.1 he)⟩

theorem GoodAdj.rev {adj : Adj} (h : GoodAdj adj) {e : Edge} (he : e ∈ arcs adj) : e.rev ∈ arcs adj :=
  mem_arcs.2 (h.sym _ _ (mem_arcs.1 he))

theorem Conn.cross {F : List Edge} {P : Nat → Prop} {a b : Nat} (h : Conn F a b) (ha : P a) (hb : ¬ P b) :
    ∃ e ∈ F, ∃ p q, ((e.u = p ∧ e.v = q) ∨ (e.v = p ∧ e.u = q)) ∧ P p ∧ ¬ P q ∧ Conn F a p ∧ Conn F q b := by
  induction h with
  | refl => exact absurd ha hb
  | @fwd e he hc ih =>
    by_cases hp : P e.u
    · exact ⟨e, he, e.u, e.v, Or.inl ⟨rfl, rfl⟩, hp, hb, hc, Conn.refl _⟩
    · obtain ⟨e', he', p, q, hpq, h1, h2, h3, h4⟩ := ih hp
      exact ⟨e', he', p, q, hpq, h1, h2, h3, Conn.fwd he h4⟩
  | @bwd e he hc ih =>
    by_cases hp : P e.v
    · exact ⟨e, he, e.v, e.u, Or.inr ⟨rfl, rfl⟩, hp, hb, hc, Conn.refl _⟩
    · obtain ⟨e', he', p, q, hpq, h1, h2, h3, h4⟩ := ih hp
      exact ⟨e', he', p, q, hpq, h1, h2, h3, Conn.bwd he h4⟩

theorem sum_le_of_sublist {l₁ l₂ : List Nat} (h : l₁.Sublist l₂) : l₁.sum ≤ l₂.sum := by
  induction h with
  | slnil => exact Nat.le_refl _
  | cons a _ ih => rw [List.sum_cons]; omega
  | cons_cons a _ ih => rw [List.sum_cons, List.sum_cons]; omega

def degSum (adj : Adj) (l : List Nat) : Nat := (l.map fun u => (adj.nbrs u).length).sum

theorem degSum_cons (adj : Adj) (v : Nat) (l : List Nat) :
    degSum adj (v :: l) = (adj.nbrs v).length + degSum adj l := rfl

theorem degSum_le {adj : Adj} {l : List Nat} (hnd : l.Nodup) (hlt : ∀ x ∈ l, x < adj.length) :
    degSum adj l ≤ adj.size := by
  obtain ⟨l', hp, hs⟩ := List.subperm_of_subset hnd fun x hx => List.mem_range.2 (hlt x hx)
  have hall : (List.range adj.length).map (fun u => (adj.nbrs u).length) = adj.map List.length :=
    List.ext_getElem (by simp) fun i _ h2 => by
      simp [Adj.nbrs, List.getElem?_eq_getElem (show i < adj.length by simpa using h2)]
  unfold degSum Adj.size
  rw [← (hp.map _).sum_nat, ← hall]
  exact sum_le_of_sublist (hs.map _)

/-- the usual tree invariant, and the bottleneck clause `bott`, which on the full node set is `MinCert`; `bott`
survives a step because the entry popped is a least-weight arc leaving `in_mst` -/
structure PInv (adj : Adj) (start : Nat) (s : PState) : Prop where
  nodup : s.inT.Nodup
  lt : ∀ x ∈ s.inT, x < adj.length
  start_mem : start ∈ s.inT
  sub : ∀ e ∈ s.acc, e ∈ arcs adj
  conn : ∀ a ∈ s.inT, Conn s.acc start a
  card : s.acc.length + 1 = s.inT.length
  total : s.total = weight s.acc
  heap_complete : ∀ x ∈ s.inT, ∀ p ∈ adj.nbrs x, p.1 ∉ s.inT → ∃ it ∈ s.heap, it.w = p.2 ∧ it.v = p.1
  heap_sound : ∀ it ∈ s.heap, it.u ∈ s.inT ∧ (it.v, it.w) ∈ adj.nbrs it.u
  bott : ∀ x ∈ s.inT, ∀ y ∈ s.inT, ∀ t : Int, Conn (light t (arcs adj)) x y → Conn (light t s.acc) x y

theorem pinv_init {adj : Adj} {start : Nat} (hs : start < adj.length) : PInv adj start (pinit adj start) where
  nodup := List.nodup_singleton _
  lt := fun x hx => List.mem_singleton.1 hx ▸ hs
  start_mem := List.mem_singleton_self _
  sub := fun e he => nomatch he
  conn := fun a ha => List.mem_singleton.1 ha ▸ Conn.refl _
  card := rfl
  total := rfl
  heap_complete := by
    intro x hx p hp _
    obtain rfl := List.mem_singleton.1 hx
    exact mkItems_complete x _ 0 p hp
  heap_sound := by
    intro it hit
    obtain ⟨h1, h2⟩ := mkItems_sound start _ 0 it hit
    exact ⟨List.mem_singleton.2 h1, h1 ▸ h2⟩
  bott := by
    intro x hx y hy t _
    obtain rfl := List.mem_singleton.1 hx
    obtain rfl := List.mem_singleton.1 hy
    exact Conn.refl _

/-- a walk from the tree to a node outside leaves it by an arc that has an entry in the heap; of that arc only
the weight is kept, which is all that either caller reads -/
theorem PInv.exit {adj : Adj} {start : Nat} {s : PState} (hg : GoodAdj adj) (h : PInv adj start s)
    {F : List Edge} (hF : ∀ e ∈ F, e ∈ arcs adj) {a b : Nat} (hc : Conn F a b) (ha : a ∈ s.inT) (hb : b ∉ s.inT) :
    ∃ p ∈ s.inT, Conn F a p ∧ Conn F p b ∧ ∃ e ∈ F, ∃ it ∈ s.heap, it.w = e.w := by
  obtain ⟨e, he, p, q, hpq, hp, hq, hap, hqb⟩ := Conn.cross (P := fun z => z ∈ s.inT) hc ha hb
  have harc : (q, e.w) ∈ adj.nbrs p ∧ Conn F p q := by
    rcases hpq with ⟨rfl, rfl⟩ | ⟨rfl, rfl⟩
    · exact ⟨mem_arcs.1 (hF e he), Conn.edge he⟩
    · exact ⟨mem_arcs.1 (hg.rev (hF e he)), Conn.edge' he⟩
  obtain ⟨it, hit, hw, _⟩ := h.heap_complete p hp (q, e.w) harc.1 hq
  exact ⟨p, hp, hap, harc.2.trans hqb, e, he, it, hit, hw⟩

theorem pinv_skip {adj : Adj} {start : Nat} {s : PState} (h : PInv adj start s) {it : HItem} {rest : List HItem}
    (hperm : s.heap.Perm (it :: rest)) (hin : it.v ∈ s.inT) :
    PInv adj start { s with heap := rest, iters := s.iters + 1 } :=
  { h with
    heap_complete := by
      intro x hx p hp hnot
      obtain ⟨it', hit', h1, h3⟩ := h.heap_complete x hx p hp hnot
      exact ⟨it', (List.mem_cons.1 (hperm.mem_iff.1 hit')).resolve_left fun e => hnot (h3 ▸ e ▸ hin), h1, h3⟩
    heap_sound := fun it' hit' => h.heap_sound it' (hperm.mem_iff.2 (List.mem_cons_of_mem _ hit')) }

/-- the `else` branch of `ploop` -/
def PState.accept (adj : Adj) (s : PState) (it : HItem) (rest : List HItem) : PState :=
  let inT' := it.v :: s.inT
  let items := mkItems it.v s.counter ((adj.nbrs it.v).filter fun p => !inT'.contains p.1)
  ⟨inT', s.acc ++ [it.edge], s.total + it.w, s.counter + items.length, rest ++ items, s.iters + 1,
    s.evals + items.length⟩

theorem ploop_succ (adj : Adj) (n fuel : Nat) (s : PState) :
    ploop adj n (fuel + 1) s =
      if s.inT.length < n then
        match popMin s.heap with
        | none => s
        | some (it, rest) =>
          if s.inT.contains it.v then ploop adj n fuel { s with heap := rest, iters := s.iters + 1 }
          else ploop adj n fuel (s.accept adj it rest)
      else s := rfl

theorem pinv_accept {adj : Adj} (hg : GoodAdj adj) {start : Nat} {s : PState} (h : PInv adj start s)
    {it : HItem} {rest : List HItem} (hperm : s.heap.Perm (it :: rest)) (hmin : ∀ x ∈ s.heap, hLe it x = true)
    (hnew : it.v ∉ s.inT) : PInv adj start (s.accept adj it rest) := by
  have hit : it ∈ s.heap := hperm.mem_iff.2 List.mem_cons_self
  obtain ⟨hu, harc⟩ := h.heap_sound it hit
  have hf : it.edge ∈ arcs adj := mem_arcs.2 harc
  have hmono : ∀ {t : Int} {a b : Nat}, Conn (light t s.acc) a b →
      Conn (light t (s.acc ++ [it.edge])) a b :=
    conn_light_mono (fun _ he => List.mem_append_left _ he) (Int.le_refl _)
  have key : ∀ x ∈ s.inT, ∀ t : Int, Conn (light t (arcs adj)) x it.v →
      Conn (light t (s.acc ++ [it.edge])) x it.v := by
    intro x hx t hc
    obtain ⟨p, hp, hxp, hpv, e, he, it', hit', hw'⟩ :=
      h.exit hg (fun e he => (mem_light.1 he).1) hc hx hnew
    -- the arc that leaves the tree is in the heap, so the popped entry is no heavier
    have hwle : it.w ≤ t := Int.le_trans (hLe_w (hmin it' hit')) (hw' ▸ (mem_light.1 he).2)
    have hfl : it.edge ∈ light t (arcs adj) := mem_light.2 ⟨hf, hwle⟩
    -- `p` and `it.u` are tree nodes joined, through `it.v`, by light input edges: `bott` applies to them
    have hpu : Conn (light t (arcs adj)) p it.u := hpv.trans (Conn.edge' hfl)
    have hfl' : it.edge ∈ light t (s.acc ++ [it.edge]) :=
      mem_light.2 ⟨by simp, hwle⟩
    exact (hmono ((h.bott x hx p hp t hxp).trans (h.bott p hp it.u hu t hpu))).trans (Conn.edge hfl')
  have m : ∀ {b}, Conn s.acc start b → Conn (s.acc ++ [it.edge]) start b :=
    Conn.mono fun _ hx => List.mem_append_left _ hx
  exact
  { nodup := List.nodup_cons.2 ⟨hnew, h.nodup⟩
    lt := fun x hx => (List.mem_cons.1 hx).elim (· ▸ hg.wf _ _ harc) (h.lt x)
    start_mem := List.mem_cons_of_mem _ h.start_mem
    sub := fun e he => (List.mem_append.1 he).elim (h.sub e) (List.mem_singleton.1 · ▸ hf)
    conn := fun a ha => (List.mem_cons.1 ha).elim
      (· ▸ (m (h.conn _ hu)).trans (Conn.edge (e := it.edge) (by simp))) fun ha => m (h.conn a ha)
    card := by
      show (s.acc ++ [_]).length + 1 = (it.v :: s.inT).length
      simp [h.card]
    total := weight_snoc h.total it.edge
    heap_complete := by
      intro x hx p hp hnot
      have hne : p.1 ≠ it.v := fun heq => hnot (heq ▸ List.mem_cons_self)
      have hnot' : p.1 ∉ s.inT := fun hm => hnot (List.mem_cons_of_mem _ hm)
      rcases List.mem_cons.1 hx with rfl | hx
      · have hpf : p ∈ (adj.nbrs it.v).filter fun p => !(it.v :: s.inT).contains p.1 :=
          List.mem_filter.2 ⟨hp, by simpa using ⟨hne, hnot'⟩⟩
        obtain ⟨it', hit', h'⟩ := mkItems_complete it.v _ s.counter p hpf
        exact ⟨it', List.mem_append_right _ hit', h'⟩
      · obtain ⟨it', hit', h1, h3⟩ := h.heap_complete x hx p hp hnot'
        refine ⟨it', List.mem_append_left _ ?_, h1, h3⟩
        exact (List.mem_cons.1 (hperm.mem_iff.1 hit')).resolve_left fun e => hne (e ▸ h3).symm
    heap_sound := by
      intro it' hit'
      rcases List.mem_append.1 hit' with hr | hn
      · have := h.heap_sound it' (hperm.mem_iff.2 (List.mem_cons_of_mem _ hr))
        exact ⟨List.mem_cons_of_mem _ this.1, this.2⟩
      · obtain ⟨h1, h2⟩ := mkItems_sound it.v _ s.counter it' hn
        exact ⟨h1 ▸ List.mem_cons_self, h1 ▸ (List.mem_filter.1 h2).1⟩
    bott := by
      intro x hx y hy t hc
      rcases List.mem_cons.1 hx with rfl | hx <;> rcases List.mem_cons.1 hy with rfl | hy
      · exact Conn.refl _
      · exact (key y hy t hc.symm).symm
      · exact key x hx t hc
      · exact hmono (h.bott x hx y hy t hc) }

/-- `fuel` covers the entries in the heap plus those that can still be pushed, the arcs at the nodes
outside the tree; written without subtraction -/
theorem ploop_inv {adj : Adj} (hg : GoodAdj adj) {start : Nat} : ∀ (fuel : Nat) (s : PState),
    PInv adj start s → s.heap.length + adj.size ≤ fuel + degSum adj s.inT →
    PInv adj start (ploop adj adj.length fuel s) ∧
      (¬ (ploop adj adj.length fuel s).inT.length < adj.length ∨ (ploop adj adj.length fuel s).heap = []) := by
  intro fuel
  induction fuel with
  | zero =>
    intro s h hmu
    have := degSum_le h.nodup h.lt
    exact ⟨h, Or.inr (List.length_eq_zero_iff.1 (show s.heap.length = 0 by omega))⟩
  | succ fuel ih =>
    intro s h hmu
    rw [ploop_succ]
    split
    · cases hp : popMin s.heap with
      | none => exact ⟨h, Or.inr (popMin_none.1 hp)⟩
      | some pr =>
        obtain ⟨it, rest⟩ := pr
        obtain ⟨hperm, hmin⟩ := popMin_some hp
        have hlen : s.heap.length = rest.length + 1 := by simpa using hperm.length_eq
        simp only
        split
        · rename_i hc
          refine ih _ (pinv_skip h hperm (by simpa using hc)) ?_
          show rest.length + adj.size ≤ fuel + degSum adj s.inT
          omega
        · rename_i hc
          refine ih _ (pinv_accept hg h hperm hmin (by simpa using hc)) ?_
          have hitems : ((adj.nbrs it.v).filter fun p => !(it.v :: s.inT).contains p.1).length
              ≤ (adj.nbrs it.v).length := List.length_filter_le _ _
          simp only [PState.accept, List.length_append, mkItems_length, degSum_cons]
          omega
    · rename_i hlt
      exact ⟨h, Or.inl hlt⟩

theorem pinv_full {adj : Adj} (hg : GoodAdj adj) {start : Nat} {s : PState} (h : PInv adj start s)
    (hfull : ¬ s.inT.length < adj.length) :
    IsSpanningTree adj.length (arcs adj) s.acc ∧ MinCert (arcs adj) s.acc := by
  have hall := fun i => mem_of_nodup_of_le_length h.nodup h.lt (Nat.le_of_not_lt hfull) (i := i)
  have hlen : s.inT.length ≤ adj.length := nodup_length_le h.nodup h.lt
  refine ⟨⟨h.sub, by have := h.card; omega, fun a b ha hb => ?_⟩, fun e he => ?_⟩
  · exact (h.conn a (hall a ha)).symm.trans (h.conn b (hall b hb))
  · have hv := hg.valid e he
    exact h.bott e.u (hall _ hv.1) e.v (hall _ hv.2) e.w (Conn.edge (mem_light.2 ⟨he, Int.le_refl _⟩))

theorem pinv_stuck {adj : Adj} (hg : GoodAdj adj) {start : Nat} {s : PState} (h : PInv adj start s)
    (hlt : s.inT.length < adj.length) (hheap : s.heap = []) : ¬ Connected adj.length (arcs adj) := by
  intro hconn
  obtain ⟨z, hz, hzn⟩ := exists_lt_not_mem hlt
  obtain ⟨-, -, -, -, -, -, it, hit, -⟩ :=
    h.exit hg (fun _ he => he) (hconn start z (h.lt _ h.start_mem) hz) h.start_mem hzn
  rw [hheap] at hit
  cases hit

open Solvor.Gen (Status) in
theorem prim_cases {adj : Adj} (hg : GoodAdj adj) {start : Nat} (hs : start < adj.length) :
    ∃ iters evals,
      (∃ acc, prim adj start = ⟨.OPTIMAL, some acc, some (weight acc), iters, evals⟩ ∧
        IsSpanningTree adj.length (arcs adj) acc ∧ MinCert (arcs adj) acc) ∨
      (prim adj start = ⟨.INFEASIBLE, none, none, iters, evals⟩ ∧ ¬ Connected adj.length (arcs adj)) := by
  obtain ⟨hinv, hfin⟩ := ploop_inv hg (adj.size + 1) _ (pinv_init hs) (by
    show (mkItems start 0 (adj.nbrs start)).length + adj.size ≤ adj.size + 1 + degSum adj [start]
    rw [mkItems_length, degSum_cons]; omega)
  have hne : adj.isEmpty = false := by
    cases adj with
    | nil => cases hs
    | cons _ _ => rfl
  unfold prim
  simp only [hne, Bool.false_eq_true, if_false]
  generalize ploop adj adj.length (adj.size + 1) (pinit adj start) = sf at hinv hfin ⊢
  refine ⟨sf.iters, sf.evals, ?_⟩
  by_cases hlt : sf.inT.length < adj.length
  · exact Or.inr ⟨by simp [hlt], pinv_stuck hg hinv hlt (hfin.resolve_left (not_not_intro hlt))⟩
  · obtain ⟨htree, hcert⟩ := pinv_full hg hinv hlt
    exact Or.inl ⟨_, by simp [hlt, hinv.total], htree, hcert⟩

end Solvor.Mst
