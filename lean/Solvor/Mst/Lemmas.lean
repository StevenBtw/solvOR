import Solvor.Mst.Spec
import Mathlib.Data.Finset.Card
import Mathlib.Data.Finset.Image
import Mathlib.Data.Nat.Find
/-!
Mst: connectivity, component labels, component counting.
-/
namespace Solvor.Mst

/-- how every connectivity fact of the area is proved: name the set `S` of nodes the claim holds for and show that
no edge of `F` leaves it, in either direction -/
theorem Conn.closed {F : List Edge} {a b : Nat} (h : Conn F a b) {S : Nat → Prop} (h0 : S a)
    (hS : ∀ e ∈ F, (S e.u ↔ S e.v)) : S b := by
  induction h with
  | refl => exact h0
  | fwd he _ ih => exact (hS _ he).1 ih
  | bwd he _ ih => exact (hS _ he).2 ih

theorem Conn.trans {F : List Edge} {a b c : Nat} (h₁ : Conn F a b) (h₂ : Conn F b c) : Conn F a c :=
  h₂.closed h₁ fun _ he => ⟨Conn.fwd he, Conn.bwd he⟩

theorem Conn.edge {F : List Edge} {e : Edge} (he : e ∈ F) : Conn F e.u e.v := Conn.fwd he (Conn.refl _)
theorem Conn.edge' {F : List Edge} {e : Edge} (he : e ∈ F) : Conn F e.v e.u := Conn.bwd he (Conn.refl _)

theorem Conn.symm {F : List Edge} {a b : Nat} (h : Conn F a b) : Conn F b a :=
  h.closed (S := fun x => Conn F x a) (Conn.refl _) fun _ he => ⟨(Conn.edge' he).trans, (Conn.edge he).trans⟩

theorem Conn.of_edges {F H : List Edge} (h : ∀ e ∈ F, Conn H e.u e.v) {a b : Nat} (hab : Conn F a b) :
    Conn H a b :=
  hab.closed (Conn.refl _) fun e he => ⟨fun h' => h'.trans (h e he), fun h' => h'.trans (h e he).symm⟩

theorem Conn.mono {F H : List Edge} (h : ∀ e ∈ F, e ∈ H) {a b : Nat} (hab : Conn F a b) : Conn H a b :=
  Conn.of_edges (fun e he => Conn.edge (h e he)) hab

theorem conn_nil {a b : Nat} : Conn [] a b ↔ a = b :=
  ⟨fun h => h.closed (S := fun x => a = x) rfl fun _ he => (nomatch he), fun h => h ▸ Conn.refl _⟩

theorem conn_snoc {F : List Edge} {e : Edge} {a b : Nat} :
    Conn (F ++ [e]) a b ↔
      Conn F a b ∨ (Conn F a e.u ∧ Conn F e.v b) ∨ (Conn F a e.v ∧ Conn F e.u b) := by
  constructor
  · intro h
    let S : Nat → Prop := fun x => Conn F a x ∨ (Conn F a e.u ∧ Conn F e.v x) ∨ (Conn F a e.v ∧ Conn F e.u x)
    refine h.closed (S := S) (Or.inl (Conn.refl _)) fun f hf => ?_
    rcases List.mem_append.1 hf with hF | hE
    · -- an old edge extends each of the three walks at its far end
      have ext : ∀ {x y}, Conn F x y → S x → S y := fun hxy h' =>
        h'.imp (·.trans hxy) (·.imp (·.imp id (·.trans hxy)) (·.imp id (·.trans hxy)))
      exact ⟨ext (Conn.edge hF), ext (Conn.edge' hF)⟩
    · obtain rfl := List.mem_singleton.1 hE
      constructor
      · rintro (h | ⟨h1, h2⟩ | ⟨h1, _⟩)
        · exact Or.inr (Or.inl ⟨h, Conn.refl _⟩)
        · exact Or.inl (h1.trans h2.symm)
        · exact Or.inl h1
      · rintro (h | ⟨h1, _⟩ | ⟨h1, h2⟩)
        · exact Or.inr (Or.inr ⟨h, Conn.refl _⟩)
        · exact Or.inl h1
        · exact Or.inl (h1.trans h2.symm)
  · have m : ∀ {x y}, Conn F x y → Conn (F ++ [e]) x y :=
      fun h => Conn.mono (fun _ h' => List.mem_append_left _ h') h
    have he : e ∈ F ++ [e] := by simp
    rintro (h | ⟨h1, h2⟩ | ⟨h1, h2⟩)
    · exact m h
    · exact ((m h1).trans (Conn.edge he)).trans (m h2)
    · exact ((m h1).trans (Conn.edge' he)).trans (m h2)

theorem Conn.lt_of_valid {n : Nat} {F : List Edge} (hF : Valid n F) {a b : Nat} (h : Conn F a b) (hab : a ≠ b) :
    a < n ∧ b < n := by
  refine (h.closed (S := fun x => a = x ∨ (a < n ∧ x < n)) (Or.inl rfl) fun e he => ?_).resolve_left hab
  obtain ⟨hu, hv⟩ := hF e he
  exact ⟨fun h' => Or.inr ⟨h'.elim (· ▸ hu) (·.1), hv⟩, fun h' => Or.inr ⟨h'.elim (· ▸ hv) (·.1), hu⟩⟩

/-- the labels represent the components of `F`: the one link between the union–find and `Conn` -/
def Rep (lab : Lab) (F : List Edge) : Prop := ∀ i j, lab.f i = lab.f j ↔ Conn F i j

theorem Rep.conn {lab : Lab} {F : List Edge} (h : Rep lab F) {i j : Nat} (e : lab.f i = lab.f j) : Conn F i j :=
  (h i j).1 e

theorem Rep.eq {lab : Lab} {F : List Edge} (h : Rep lab F) {i j : Nat} (c : Conn F i j) : lab.f i = lab.f j :=
  (h i j).2 c

theorem rep_id : Rep Lab.id [] := fun i j => by simp [conn_nil, Lab.id_f]

theorem rep_union {lab : Lab} {F : List Edge} (h : Rep lab F) (e : Edge) :
    Rep (union lab e.u e.v) (F ++ [e]) := by
  intro i j
  rw [conn_snoc, ← h i j, ← h i e.u, ← h e.v j, ← h i e.v, ← h e.u j, union_f, union_f, relabel_eq_iff]

theorem labOf_snoc (F : List Edge) (e : Edge) : labOf (F ++ [e]) = union (labOf F) e.u e.v := by
  simp [labOf, List.foldl_append]

theorem labOf_rep (F : List Edge) : Rep (labOf F) F := by
  induction F using List.reverseRecOn with
  | nil => exact rep_id
  | append_singleton F e ih => rw [labOf_snoc]; exact rep_union ih e

def cnt (n : Nat) (lab : Lab) : Nat := ((Finset.range n).image lab.f).card

theorem cnt_id (n : Nat) : cnt n Lab.id = n := by
  rw [cnt, show Lab.id.f = id from funext Lab.id_f, Finset.image_id, Finset.card_range]

theorem cnt_le (n : Nat) (lab : Lab) : cnt n lab ≤ n := by
  unfold cnt
  exact Finset.card_image_le.trans (by simp)

theorem cnt_pos {n : Nat} (hn : 0 < n) (lab : Lab) : 0 < cnt n lab :=
  Finset.card_pos.2 ⟨lab.f 0, Finset.mem_image.2 ⟨0, Finset.mem_range.2 hn, rfl⟩⟩

theorem union_same {lab : Lab} {a b : Nat} (h : lab.f a = lab.f b) : (union lab a b).f = lab.f := by
  funext i
  simp only [union_f]
  split
  · rename_i h'; rw [h, h']
  · rfl

theorem cnt_union_same {n : Nat} {lab : Lab} {a b : Nat} (h : lab.f a = lab.f b) :
    cnt n (union lab a b) = cnt n lab := by
  unfold cnt; rw [union_same h]

theorem cnt_union_diff {n : Nat} {lab : Lab} {a b : Nat} (ha : a < n) (hb : b < n) (h : lab.f a ≠ lab.f b) :
    cnt n (union lab a b) + 1 = cnt n lab := by
  unfold cnt
  have himg : (Finset.range n).image (union lab a b).f = ((Finset.range n).image lab.f).erase (lab.f b) := by
    ext y
    simp only [Finset.mem_image, Finset.mem_range, Finset.mem_erase, union_f]
    constructor
    · rintro ⟨i, hi, rfl⟩
      split
      · exact ⟨h, a, ha, rfl⟩
      · rename_i h'; exact ⟨h', i, hi, rfl⟩
    · rintro ⟨hy, i, hi, rfl⟩
      exact ⟨i, hi, by rw [if_neg hy]⟩
  rw [himg, Finset.card_erase_add_one (Finset.mem_image.2 ⟨b, Finset.mem_range.2 hb, rfl⟩)]

theorem cnt_mono {n : Nat} {lab lab' : Lab}
    (h : ∀ i j, i < n → j < n → lab.f i = lab.f j → lab'.f i = lab'.f j) : cnt n lab' ≤ cnt n lab := by
  classical
  -- send a label of `lab` to the `lab'`-label of some node carrying it
  refine Finset.card_le_card_of_surjOn
    (fun y => if hy : ∃ i, i < n ∧ lab.f i = y then lab'.f hy.choose else 0) fun y hy => ?_
  obtain ⟨i, hi, rfl⟩ := Finset.mem_image.1 (Finset.mem_coe.1 hy)
  have hex : ∃ k, k < n ∧ lab.f k = lab.f i := ⟨i, Finset.mem_range.1 hi, rfl⟩
  exact ⟨lab.f i, Finset.mem_coe.2 (Finset.mem_image_of_mem _ hi), by
    show dite _ _ _ = _
    rw [dif_pos hex]; exact h _ _ hex.choose_spec.1 (Finset.mem_range.1 hi) hex.choose_spec.2⟩

theorem cnt_eq_one_iff {n : Nat} (hn : 0 < n) (lab : Lab) :
    cnt n lab = 1 ↔ ∀ i j, i < n → j < n → lab.f i = lab.f j := by
  have := cnt_pos hn lab
  rw [show cnt n lab = 1 ↔ cnt n lab ≤ 1 by omega, cnt, Finset.card_le_one]
  simp only [Finset.forall_mem_image, Finset.mem_range]
  exact ⟨fun h i j hi hj => h hi hj, fun h i hi j hj => h i j hi hj⟩

def comps (n : Nat) (F : List Edge) : Nat := cnt n (labOf F)

theorem comps_nil (n : Nat) : comps n [] = n := by
  simp [comps, labOf, cnt_id]

theorem comps_le (n : Nat) (F : List Edge) : comps n F ≤ n := cnt_le _ _

theorem comps_pos {n : Nat} (hn : 0 < n) (F : List Edge) : 0 < comps n F := cnt_pos hn _

theorem comps_mono {n : Nat} {F H : List Edge} (h : ∀ a b, Conn F a b → Conn H a b) : comps n H ≤ comps n F := by
  apply cnt_mono
  intro i j _ _ hij
  exact (labOf_rep H).eq (h _ _ ((labOf_rep F).conn hij))

theorem comps_congr {n : Nat} {F H : List Edge} (h : ∀ a b, Conn F a b ↔ Conn H a b) : comps n F = comps n H :=
  Nat.le_antisymm (comps_mono fun a b hab => (h a b).2 hab) (comps_mono fun a b hab => (h a b).1 hab)

theorem comps_snoc_conn {n : Nat} {F : List Edge} {e : Edge} (h : Conn F e.u e.v) :
    comps n (F ++ [e]) = comps n F := by
  unfold comps
  rw [labOf_snoc]
  exact cnt_union_same ((labOf_rep F).eq h)

theorem comps_snoc_not {n : Nat} {F : List Edge} {e : Edge} (hu : e.u < n) (hv : e.v < n) (h : ¬ Conn F e.u e.v) :
    comps n (F ++ [e]) + 1 = comps n F := by
  unfold comps
  rw [labOf_snoc]
  exact cnt_union_diff hu hv (fun h' => h ((labOf_rep F).conn h'))

theorem comps_snoc_le {n : Nat} {F : List Edge} {e : Edge} (hu : e.u < n) (hv : e.v < n) :
    comps n F ≤ comps n (F ++ [e]) + 1 := by
  by_cases h : Conn F e.u e.v
  · rw [comps_snoc_conn h]; omega
  · rw [← comps_snoc_not hu hv h]

theorem comps_le_append {n : Nat} (G : List Edge) : ∀ (F : List Edge), Valid n G →
    comps n F ≤ comps n (F ++ G) + G.length := by
  induction G with
  | nil => intro F _; simp
  | cons e G ih =>
    intro F hG
    have h1 := ih (F ++ [e]) (fun x hx => hG x (List.mem_cons_of_mem _ hx))
    have h2 := comps_snoc_le (F := F) (hG e List.mem_cons_self).1 (hG e List.mem_cons_self).2
    simp only [List.append_assoc, List.singleton_append, List.length_cons] at h1 ⊢
    omega

theorem comps_add_length_ge {n : Nat} {F : List Edge} (hF : Valid n F) : n ≤ comps n F + F.length := by
  have := comps_le_append F [] hF
  simpa [comps_nil] using this

theorem connected_iff_comps {n : Nat} (hn : 0 < n) (F : List Edge) : Connected n F ↔ comps n F = 1 := by
  rw [comps, cnt_eq_one_iff hn]
  exact forall₄_congr fun i j _ _ => (labOf_rep F i j).symm

/-- "tight": `F.length + comps n F = n`, as few components as the number of edges allows (`comps_add_length_ge`) -/
theorem tight_acyclic {n : Nat} {F : List Edge} (hF : Valid n F) (h : F.length + comps n F = n) : Acyclic F := by
  intro l₁ e l₂ hdec hconn
  subst hdec
  have hmem : ∀ x, x ∈ l₁ ++ e :: l₂ ↔ x = e ∨ x ∈ l₁ ++ l₂ := fun x => by
    simp only [List.mem_append, List.mem_cons]; exact or_left_comm
  -- the edge closes a cycle, so without it as much is joined, by fewer edges than that takes
  have h1 := comps_mono (n := n) (F := l₁ ++ e :: l₂) (H := l₁ ++ l₂) fun a b =>
    Conn.of_edges fun x hx => ((hmem x).1 hx).elim (· ▸ hconn) Conn.edge
  have h2 := comps_add_length_ge (n := n) (F := l₁ ++ l₂) fun x hx => hF x ((hmem x).2 (Or.inr hx))
  simp only [List.length_append, List.length_cons] at h h2
  omega

theorem acyclic_tight {n : Nat} {F : List Edge} (hF : Valid n F) (h : Acyclic F) : F.length + comps n F = n := by
  induction F using List.reverseRecOn with
  | nil => simp [comps_nil]
  | append_singleton F e ih =>
    have hnot : ¬ Conn F e.u e.v := fun hc => h F e [] rfl (by simpa using hc)
    have hac : Acyclic F := fun l₁ x l₂ hdec hc =>
      h l₁ x (l₂ ++ [e]) (by simp [hdec])
        (Conn.mono (fun y hy => by rw [← List.append_assoc]; exact List.mem_append_left _ hy) hc)
    have := ih (fun x hx => hF x (List.mem_append_left _ hx)) hac
    have := comps_snoc_not (n := n) (hF e (by simp)).1 (hF e (by simp)).2 hnot
    simp only [List.length_append, List.length_singleton]
    omega

open Classical in
/-- number of classes of `Conn F` on `0 … n-1`, counted by their least elements -/
noncomputable def numComps (n : Nat) (F : List Edge) : Nat :=
  ((Finset.range n).filter fun i => ∀ j, j < i → ¬ Conn F j i).card

theorem comps_eq_numComps (n : Nat) (F : List Edge) : comps n F = numComps n F := by
  classical
  unfold comps cnt numComps
  have hrep := labOf_rep F
  set lab := labOf F
  set M := (Finset.range n).filter fun i => ∀ j, j < i → ¬ Conn F j i
  have hinj : Set.InjOn lab.f (M : Set Nat) := by
    intro a ha b hb hab
    have ha' := (Finset.mem_filter.1 ha).2
    have hb' := (Finset.mem_filter.1 hb).2
    have hc : Conn F a b := hrep.conn hab
    rcases Nat.lt_trichotomy a b with h | h | h
    · exact absurd hc (hb' a h)
    · exact h
    · exact absurd hc.symm (ha' b h)
  have himg : (Finset.range n).image lab.f = M.image lab.f := by
    apply Finset.Subset.antisymm
    · intro y hy
      obtain ⟨i, hi, rfl⟩ := Finset.mem_image.1 hy
      have hex : ∃ m, Conn F m i := ⟨i, Conn.refl _⟩
      have hmin : ∀ {m : Nat}, m < Nat.find hex → ¬ Conn F m i := fun h => Nat.find_min hex h
      have hspec := Nat.find_spec hex
      have hle : Nat.find hex ≤ i := Nat.find_min' hex (Conn.refl _)
      refine Finset.mem_image.2 ⟨Nat.find hex, ?_, hrep.eq hspec⟩
      refine Finset.mem_filter.2 ⟨Finset.mem_range.2 (Nat.lt_of_le_of_lt hle (Finset.mem_range.1 hi)), ?_⟩
      intro j hj hc
      exact hmin hj (hc.trans hspec)
    · exact Finset.image_subset_image (Finset.filter_subset _ _)
  rw [himg, Finset.card_image_of_injOn hinj]

end Solvor.Mst
