import Solvor.Mst.Lemmas
/-!
Mst: the cycle-property certificate implies minimality, by counting and without paths or cycles: below every
threshold `t` the certified `T` joins what an acyclic `T'` joins, so it has at least as many edges of weight `≤ t`
(`length + comps` against `n`), and two sorted lists of equal length so related compare position by position.
-/
namespace Solvor.Mst

def SortedW (S : List Edge) : Prop := S.Pairwise fun a b => a.w ≤ b.w

theorem insertW_perm (e : Edge) (l : List Edge) : (insertW e l).Perm (e :: l) := by
  induction l with
  | nil => exact List.Perm.refl _
  | cons x xs ih =>
    unfold insertW
    split
    · exact List.Perm.refl _
    · exact (List.Perm.cons x ih).trans (List.Perm.swap e x xs)

theorem insertW_sorted (e : Edge) {l : List Edge} (h : SortedW l) : SortedW (insertW e l) := by
  induction l with
  | nil => exact List.pairwise_singleton _ _
  | cons x xs ih =>
    have hx := List.pairwise_cons.1 h
    unfold insertW
    split
    · rename_i hle
      exact List.pairwise_cons.2
        ⟨fun y hy => (List.mem_cons.1 hy).elim (· ▸ hle) fun hy => Int.le_trans hle (hx.1 y hy), h⟩
    · rename_i hnle
      exact List.pairwise_cons.2 ⟨fun y hy => (List.mem_cons.1 ((insertW_perm e xs).mem_iff.1 hy)).elim
        (· ▸ Int.le_of_lt (Int.lt_of_not_ge hnle)) (hx.1 y), ih hx.2⟩

theorem sortEdges_perm (E : List Edge) : (sortEdges E).Perm E := by
  induction E with
  | nil => exact List.Perm.refl _
  | cons e E ih => exact (insertW_perm e _).trans (List.Perm.cons e ih)

theorem sortEdges_sorted (E : List Edge) : SortedW (sortEdges E) := by
  induction E with
  | nil => simp [sortEdges, SortedW]
  | cons e E ih => exact insertW_sorted e ih

theorem weight_append (A B : List Edge) : weight (A ++ B) = weight A + weight B := by
  induction A with
  | nil => simp [weight]
  | cons a A ih => simp [weight, ih]; omega

theorem weight_snoc {tot : Int} {A : List Edge} (h : tot = weight A) (e : Edge) : tot + e.w = weight (A ++ [e]) := by
  rw [weight_append, h]; simp [weight]

theorem weight_perm {A B : List Edge} (h : A.Perm B) : weight A = weight B := by
  induction h with
  | nil => rfl
  | cons x _ ih => exact congrArg (x.w + ·) ih
  | swap x y l => exact Int.add_left_comm ..
  | trans _ _ ih₁ ih₂ => exact ih₁.trans ih₂

abbrev light (t : Int) (F : List Edge) : List Edge := F.filter fun f => decide (f.w ≤ t)

theorem light_cons_of_le {t : Int} {e : Edge} (h : e.w ≤ t) (F : List Edge) : light t (e :: F) = e :: light t F :=
  List.filter_cons_of_pos (decide_eq_true h)

theorem weight_le_of_sorted {A : List Edge} : ∀ {B : List Edge}, SortedW A → SortedW B → A.length = B.length →
    (∀ t : Int, (light t B).length ≤ (light t A).length) → weight A ≤ weight B := by
  induction A with
  | nil => intro B _ _ hlen _; rw [List.length_eq_zero_iff.1 hlen.symm]
  | cons a A ih =>
    intro B hA hB hlen h
    cases B with
    | nil => cases hlen
    | cons b B =>
    obtain ⟨haA, hA⟩ := List.pairwise_cons.1 hA
    obtain ⟨hbB, hB⟩ := List.pairwise_cons.1 hB
    have hab : a.w ≤ b.w := by
      -- `B` has an edge of weight `≤ b.w`, so `A` has one, and none of `A` is lighter than `a`
      have h1 := h b.w
      rw [light_cons_of_le (Int.le_refl _)] at h1
      obtain ⟨x, hx⟩ := List.exists_mem_of_length_pos (Nat.lt_of_lt_of_le (Nat.succ_pos _) h1)
      obtain ⟨hx, hxw⟩ := List.mem_filter.1 hx
      have hxw : x.w ≤ b.w := of_decide_eq_true hxw
      exact (List.mem_cons.1 hx).elim (· ▸ hxw) fun hx => Int.le_trans (haA x hx) hxw
    refine Int.add_le_add hab (ih hA hB (Nat.succ.inj hlen) fun t => ?_)
    by_cases hbt : b.w ≤ t
    · -- from `b.w` on both counts lose their head
      have h1 := h t
      rw [light_cons_of_le hbt, light_cons_of_le (Int.le_trans hab hbt)] at h1
      exact Nat.le_of_succ_le_succ h1
    · -- below `b.w` the sorted `B` has nothing
      rw [light, List.filter_eq_nil_iff.2 fun x hx hxt => hbt (Int.le_trans (hbB x hx) (of_decide_eq_true hxt))]
      exact Nat.zero_le _

theorem weight_le_of_light {T T' : List Edge} (hlen : T.length = T'.length)
    (h : ∀ t : Int, (light t T').length ≤ (light t T).length) :
    weight T ≤ weight T' := by
  rw [← weight_perm (sortEdges_perm T), ← weight_perm (sortEdges_perm T')]
  refine weight_le_of_sorted (sortEdges_sorted T) (sortEdges_sorted T')
    (by rw [(sortEdges_perm T).length_eq, (sortEdges_perm T').length_eq, hlen]) fun t => ?_
  rw [light, light, ((sortEdges_perm T).filter _).length_eq, ((sortEdges_perm T').filter _).length_eq]
  exact h t

theorem mem_light {t : Int} {F : List Edge} {e : Edge} : e ∈ light t F ↔ e ∈ F ∧ e.w ≤ t := by
  simp [light]

theorem conn_light_mono {t t' : Int} {F G : List Edge} (h : ∀ e ∈ F, e ∈ G) (ht : t ≤ t') {a b : Nat}
    (hc : Conn (light t F) a b) : Conn (light t' G) a b :=
  Conn.mono (fun e he => mem_light.2 ⟨h e (mem_light.1 he).1, Int.le_trans (mem_light.1 he).2 ht⟩) hc

/-- the cycle-property certificate that `chkMinCert` decides -/
def MinCert (E T : List Edge) : Prop := ∀ e ∈ E, Conn (light e.w T) e.u e.v

theorem valid_of_sub {n : Nat} {E T : List Edge} (hE : Valid n E) (h : ∀ e ∈ T, e ∈ E) : Valid n T :=
  fun e he => hE e (h e he)

theorem light_length_add_comps_le {n : Nat} {T' : List Edge} (hv : Valid n T') (ht : T'.length + comps n T' = n) (t : Int) :
    (light t T').length + comps n (light t T') ≤ n := by
  let p : Edge → Bool := fun f => decide (f.w ≤ t)
  have h1 := comps_le_append (n := n) (T'.filter fun f => !p f) (T'.filter p)
    (valid_of_sub hv fun e he => (List.mem_filter.1 he).1)
  have h2 : comps n (T'.filter p ++ T'.filter fun f => !p f) = comps n T' :=
    comps_congr fun a b => ⟨Conn.mono fun e he => (List.filter_append_perm p T').mem_iff.1 he,
      Conn.mono fun e he => (List.filter_append_perm p T').mem_iff.2 he⟩
  have h3 : (T'.filter p).length + (T'.filter fun f => !p f).length = T'.length := by
    simpa using (List.filter_append_perm p T').length_eq
  show (T'.filter p).length + comps n (T'.filter p) ≤ n
  omega

theorem cert_light {n : Nat} {E T T' : List Edge} (hE : Valid n E) (hT : ∀ e ∈ T, e ∈ E)
    (hcert : MinCert E T) (hT' : ∀ e ∈ T', e ∈ E) (htight : T'.length + comps n T' = n) (t : Int) :
    (light t T').length ≤ (light t T).length := by
  have h1 := light_length_add_comps_le (valid_of_sub hE hT') htight t
  have h2 : comps n (light t T) ≤ comps n (light t T') :=
    comps_mono fun a b => Conn.of_edges fun e he =>
      conn_light_mono (fun _ hf => hf) (mem_light.1 he).2 (hcert e (hT' e (mem_light.1 he).1))
  have h3 := comps_add_length_ge (F := light t T) (valid_of_sub hE fun e he => hT e (mem_light.1 he).1)
  omega

theorem exists_valid (E : List Edge) : ∃ n, Valid n E := by
  induction E with
  | nil => exact ⟨0, fun e he => nomatch he⟩
  | cons e E ih =>
    obtain ⟨n, h⟩ := ih
    refine ⟨max n (max e.u e.v + 1), fun x hx => ?_⟩
    rcases List.mem_cons.1 hx with rfl | hx
    · exact ⟨Nat.lt_of_lt_of_le (Nat.lt_succ_of_le (Nat.le_max_left _ _)) (Nat.le_max_right _ _),
        Nat.lt_of_lt_of_le (Nat.lt_succ_of_le (Nat.le_max_right _ _)) (Nat.le_max_right _ _)⟩
    · exact ⟨Nat.lt_of_lt_of_le (h x hx).1 (Nat.le_max_left _ _), Nat.lt_of_lt_of_le (h x hx).2 (Nat.le_max_left _ _)⟩

theorem IsSpanningForest.length_add_comps {n : Nat} {E T : List Edge} (hE : Valid n E) (hT : IsSpanningForest E T) :
    T.length + comps n E = n :=
  comps_congr (n := n) (fun a b => ⟨Conn.mono hT.sub, hT.spans a b⟩) ▸
    acyclic_tight (valid_of_sub hE hT.sub) hT.acyclic

theorem MinCert.weight_le {E T T' : List Edge} (hT : IsSpanningForest E T) (hcert : MinCert E T)
    (hT' : IsSpanningForest E T') : weight T ≤ weight T' := by
  obtain ⟨n, hE⟩ := exists_valid E
  have t1 := hT.length_add_comps hE
  have t2 := hT'.length_add_comps hE
  exact weight_le_of_light (by omega)
    (cert_light hE hT.sub hcert hT'.sub (acyclic_tight (valid_of_sub hE hT'.sub) hT'.acyclic))

end Solvor.Mst
