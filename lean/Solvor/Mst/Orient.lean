import Solvor.Mst.PrimLemmas
/-!
Mst: the same undirected graph as two edge lists: `kruskal` is given each undirected edge once, in some
orientation, `prim`'s adjacency lists carry it in both.  At the end the Bool checkers of the input's shape
(`subGraphB_iff`, `sameGraphB_iff`, and `goodAdjB_iff` for `GoodAdj` of PrimLemmas) decide what they are named after.
-/
namespace Solvor.Mst

def SubGraph (E A : List Edge) : Prop := ∀ e ∈ E, e ∈ A ∨ e.rev ∈ A

def SameGraph (E A : List Edge) : Prop := SubGraph E A ∧ SubGraph A E

theorem SubGraph.conn {E A : List Edge} (h : SubGraph E A) {a b : Nat} (hab : Conn E a b) : Conn A a b := by
  refine Conn.of_edges ?_ hab
  intro e he
  rcases h e he with h1 | h1
  · exact Conn.edge h1
  · exact Conn.edge' (e := e.rev) h1

def orient (E : List Edge) (T : List Edge) : List Edge := T.map fun a => if a ∈ E then a else a.rev

theorem weight_orient (E T : List Edge) : weight (orient E T) = weight T := by
  induction T with
  | nil => rfl
  | cons a T ih =>
    simp only [orient, List.map_cons, weight] at ih ⊢
    rw [ih]
    split <;> rfl

theorem orient_sub {E A T : List Edge} (hA : SubGraph A E) (hT : ∀ e ∈ T, e ∈ A) : ∀ e ∈ orient E T, e ∈ E := by
  intro e he
  obtain ⟨a, ha, rfl⟩ := List.mem_map.1 he
  split
  · assumption
  · rename_i hn
    rcases hA a (hT a ha) with h | h
    · exact absurd h hn
    · exact h

theorem orient_conn (E T : List Edge) (a b : Nat) : Conn (orient E T) a b ↔ Conn T a b := by
  constructor
  · refine Conn.of_edges ?_
    intro e he
    obtain ⟨x, hx, rfl⟩ := List.mem_map.1 he
    split
    · exact Conn.edge hx
    · exact Conn.edge' hx
  · refine Conn.of_edges ?_
    intro x hx
    by_cases hxe : x ∈ E
    · have : x ∈ orient E T := List.mem_map.2 ⟨x, hx, by simp [hxe]⟩
      exact Conn.edge this
    · have : x.rev ∈ orient E T := List.mem_map.2 ⟨x, hx, by simp [hxe]⟩
      exact Conn.edge' (e := x.rev) this

theorem forest_transfer {E A T : List Edge} (h : SameGraph E A) (hT : IsSpanningForest A T) :
    IsSpanningForest E (orient E T) ∧ weight (orient E T) = weight T := by
  refine ⟨⟨orient_sub h.2 hT.sub, ?_, ?_⟩, weight_orient E T⟩
  · obtain ⟨n, hv⟩ := exists_valid (E ++ A)
    have hvE : Valid n E := fun e he => hv e (List.mem_append_left _ he)
    have hvA : Valid n A := fun e he => hv e (List.mem_append_right _ he)
    have t := acyclic_tight (valid_of_sub hvA hT.sub) hT.acyclic
    have hc : comps n (orient E T) = comps n T := comps_congr (orient_conn E T)
    apply tight_acyclic (valid_of_sub hvE (orient_sub h.2 hT.sub))
    simp only [orient, List.length_map] at hc ⊢
    rw [hc]; exact t
  · intro a b hab
    exact (orient_conn E T a b).2 (hT.spans a b (h.1.conn hab))

theorem SameGraph.symm {E A : List Edge} (h : SameGraph E A) : SameGraph A E := ⟨h.2, h.1⟩

theorem subGraphB_iff {E A : List Edge} : subGraphB E A = true ↔ SubGraph E A := by
  simp [subGraphB, SubGraph]

theorem sameGraphB_iff {E A : List Edge} : sameGraphB E A = true ↔ SameGraph E A := by
  simp [sameGraphB, SameGraph, subGraphB_iff]

theorem goodAdjB_iff {adj : Adj} : goodAdjB adj = true ↔ GoodAdj adj := by
  simp only [goodAdjB, List.all_eq_true, List.mem_range, Bool.and_eq_true, decide_eq_true_eq,
    List.contains_iff_mem]
  constructor
  · intro h
    exact ⟨fun u p hp => (h u (nbrs_lt hp) p hp).1, fun u p hp => (h u (nbrs_lt hp) p hp).2⟩
  · intro h u _ p hp
    exact ⟨h.wf u p hp, h.sym u p hp⟩

end Solvor.Mst
