import Solvor.Mst.Minimal
/-!
Mst: the loop invariant of the Kruskal mirror and the Bool checkers.
-/
namespace Solvor.Mst

/-- the state of `kloop` once the edges `S` are dealt with: looked at, or left unread by the `break` -/
structure KPost (n : Nat) (S : List Edge) (s : KState) : Prop where
  rep : Rep s.lab s.acc
  sub : s.acc.Sublist S
  tight : s.acc.length + comps n s.acc = n
  total : s.total = weight s.acc
  cert : MinCert S s.acc

theorem conn_light_of_le {A : List Edge} {t : Int} (h : ∀ f ∈ A, f.w ≤ t) {a b : Nat} (hc : Conn A a b) :
    Conn (light t A) a b := by
  rw [light, List.filter_eq_self.2 fun f hf => by simpa using h f hf]; exact hc


theorem KPost.acc_le {n : Nat} {P R : List Edge} {s : KState} (h : KPost n P s) (hs : SortedW (P ++ R))
    {e : Edge} (he : e ∈ R) : ∀ f ∈ s.acc, f.w ≤ e.w :=
  fun f hf => (List.pairwise_append.1 hs).2.2 f (h.sub.subset hf) e he

theorem KPost.extend {n : Nat} {P R : List Edge} {s : KState} (h : KPost n P s)
    (hR : ∀ e ∈ R, Conn (light e.w s.acc) e.u e.v) : KPost n (P ++ R) s :=
  { h with
    sub := h.sub.trans (List.sublist_append_left _ _)
    cert := fun e he => (List.mem_append.1 he).elim (h.cert e) (hR e) }

theorem KPost.reject {n : Nat} {P : List Edge} {s : KState} (h : KPost n P s) {e : Edge}
    (hle : ∀ f ∈ s.acc, f.w ≤ e.w) (heq : s.lab.f e.u = s.lab.f e.v) :
    KPost n (P ++ [e]) { s with iters := s.iters + 1 } :=
  -- `KPost` does not read `iters`; the empty `with` lets the record update of the state through
  { h.extend fun _ hx => List.mem_singleton.1 hx ▸ conn_light_of_le hle (h.rep.conn heq) with }

theorem KPost.accept {n : Nat} {P : List Edge} {s : KState} (h : KPost n P s) {e : Edge}
    (hu : e.u < n) (hv : e.v < n) (hne : ¬ s.lab.f e.u = s.lab.f e.v) :
    KPost n (P ++ [e]) ⟨union s.lab e.u e.v, s.acc ++ [e], s.total + e.w, s.iters + 1⟩ where
  rep := rep_union h.rep e
  sub := List.Sublist.append h.sub (List.Sublist.refl _)
  tight := by
    have := comps_snoc_not (n := n) hu hv fun hc => hne (h.rep.eq hc)
    have := h.tight
    simp only [List.length_append, List.length_singleton]
    omega
  total := weight_snoc h.total e
  cert := by
    intro x hx
    rcases List.mem_append.1 hx with hp | hx
    · exact conn_light_mono (fun _ hf => List.mem_append_left _ hf) (Int.le_refl _) (h.cert x hp)
    · obtain rfl := List.mem_singleton.1 hx
      exact Conn.edge (mem_light.2 ⟨by simp, Int.le_refl _⟩)

theorem KPost.break {n : Nat} {P R : List Edge} {s : KState} (h : KPost n P s)
    (hlen : s.acc.length + 1 = n) (hs : SortedW (P ++ R)) (hv : Valid n (P ++ R)) : KPost n (P ++ R) s :=
  h.extend fun e hr => by
    have hc : comps n s.acc = 1 := by have := h.tight; omega
    have he := hv e (List.mem_append_right _ hr)
    exact conn_light_of_le (h.acc_le hs hr) ((connected_iff_comps (hlen ▸ Nat.succ_pos _) _).2 hc _ _ he.1 he.2)

theorem kloop_post {n : Nat} (rest : List Edge) : ∀ (pre : List Edge) (s : KState),
    KPost n pre s → SortedW (pre ++ rest) → Valid n (pre ++ rest) → KPost n (pre ++ rest) (kloop n rest s) := by
  induction rest with
  | nil => intro pre s h _ _; simpa [kloop] using h
  | cons e rest ih =>
    intro pre s h hs hv
    have happ : pre ++ e :: rest = (pre ++ [e]) ++ rest := by simp
    obtain ⟨hu, hv'⟩ := hv e (by simp)
    have hle := h.acc_le hs List.mem_cons_self
    unfold kloop
    rw [breakOff_eq]
    rw [happ] at hs hv ⊢
    split
    · rename_i heq
      exact ih _ _ (h.reject hle heq) hs hv
    · rename_i hne
      simp only
      split
      · rename_i hlen
        exact (h.accept hu hv' hne).break hlen hs hv
      · exact ih _ _ (h.accept hu hv' hne) hs hv

theorem mem_sortEdges {E : List Edge} {e : Edge} : e ∈ sortEdges E ↔ e ∈ E := (sortEdges_perm E).mem_iff

theorem kfinish_full {n m : Nat} {af : Bool} {acc : List Edge} {total : Int} {iters : Nat}
    (h : ¬ acc.length + 1 < n) : kfinish n m af acc total iters = ⟨.OPTIMAL, some acc, some total, iters, m⟩ := by
  rw [kfinish, shortOff_eq, if_neg h]

theorem kfinish_short {n m : Nat} {af : Bool} {acc : List Edge} {total : Int} {iters : Nat}
    (h : acc.length + 1 < n) : kfinish n m af acc total iters =
      if af then ⟨.FEASIBLE, some acc, some total, iters, m⟩ else ⟨.INFEASIBLE, none, none, iters, m⟩ := by
  rw [kfinish, shortOff_eq, if_pos h]

theorem kfinish_sol {n m : Nat} {af : Bool} {acc acc' : List Edge} {total : Int} {iters : Nat}
    (h : (kfinish n m af acc total iters).sol = some acc') :
    acc' = acc ∧ (kfinish n m af acc total iters).obj = some total := by
  by_cases hs : acc.length + 1 < n
  · rw [kfinish_short hs] at h ⊢
    cases af
    · exact nomatch h
    · exact ⟨(Option.some.inj h).symm, rfl⟩
  · rw [kfinish_full hs] at h ⊢
    exact ⟨(Option.some.inj h).symm, rfl⟩

theorem kruskal_spec {n : Nat} {E : List Edge} (hE : Valid n E) (af : Bool) :
    ∃ acc iters, kruskal n E af = kfinish n E.length af acc (weight acc) iters ∧
      acc.Subperm E ∧ IsSpanningForest E acc ∧ MinCert E acc := by
  have hp : KPost n (sortEdges E) (kloop n (sortEdges E) kinit) := by
    simpa using kloop_post (sortEdges E) [] kinit
      { rep := rep_id, sub := .refl _, tight := by simp [kinit, comps_nil], total := rfl, cert := fun _ he => nomatch he }
      (by simpa using sortEdges_sorted E)
      fun e he => hE e (mem_sortEdges.1 (by simpa using he))
  have hmem : ∀ e ∈ (kloop n (sortEdges E) kinit).acc, e ∈ E := fun _ he => mem_sortEdges.1 (hp.sub.subset he)
  have hcert : MinCert E (kloop n (sortEdges E) kinit).acc := fun e he => hp.cert e (mem_sortEdges.2 he)
  refine ⟨_, _, by rw [← hp.total]; rfl, hp.sub.subperm.trans (sortEdges_perm E).subperm,
    ⟨hmem, tight_acyclic (valid_of_sub hE hmem) hp.tight, ?_⟩, hcert⟩
  exact fun a b => Conn.of_edges fun e he => Conn.mono (fun f hf => (mem_light.1 hf).1) (hcert e he)

theorem subsetB_iff {T E : List Edge} : subsetB T E = true ↔ ∀ e ∈ T, e ∈ E := by
  simp [subsetB]

theorem validB_iff {n : Nat} {E : List Edge} : validB n E = true ↔ Valid n E := by
  simp [validB, Valid]

theorem connectedB_iff {n : Nat} {F : List Edge} : connectedB n F = true ↔ Connected n F := by
  have hrep := labOf_rep F
  simp only [connectedB, List.all_eq_true, List.mem_range, beq_iff_eq]
  constructor
  · intro h a b ha hb
    exact hrep.conn ((h a ha).trans (h b hb).symm)
  · intro h i hi
    exact hrep.eq (h i 0 hi (by omega))

theorem spansB_iff {E T : List Edge} : spansB E T = true ↔ ∀ a b, Conn E a b → Conn T a b := by
  have hrep := labOf_rep T
  simp only [spansB, List.all_eq_true, beq_iff_eq]
  constructor
  · intro h a b hab
    exact Conn.of_edges (fun e he => hrep.conn (h e he)) hab
  · intro h e he
    exact hrep.eq (h _ _ (Conn.edge he))

theorem chkMinCert_iff {E T : List Edge} : chkMinCert E T = true ↔ MinCert E T := by
  simp only [chkMinCert, List.all_eq_true, beq_iff_eq, MinCert]
  exact forall₂_congr fun e _ => labOf_rep _ _ _

/-- every edge removes at most one component; `forestGo` accepts iff every edge removes one -/
theorem forestGo_iff_tight {n : Nat} (T : List Edge) : ∀ (lab : Lab) (F : List Edge), Rep lab F → Valid n T →
    (forestGo lab T = true ↔ comps n (F ++ T) + T.length = comps n F) := by
  induction T with
  | nil => intro lab F _ _; simp [forestGo]
  | cons e T ih =>
    intro lab F hrep hv
    obtain ⟨hu, hv'⟩ := hv e List.mem_cons_self
    have hT : Valid n T := fun x hx => hv x (List.mem_cons_of_mem _ hx)
    have hle := comps_le_append (n := n) T (F ++ [e]) hT
    simp only [forestGo, Bool.and_eq_true, bne_iff_ne, ne_eq, hrep e.u e.v, ih _ _ (rep_union hrep e) hT,
      List.append_assoc, List.singleton_append, List.length_cons] at hle ⊢
    by_cases hc : Conn F e.u e.v
    · have := comps_snoc_conn (n := n) hc
      simp only [hc, not_true, false_and, false_iff]
      omega
    · have := comps_snoc_not (n := n) hu hv' hc
      simp only [hc, not_false_iff, true_and]
      omega

theorem forestB_iff {T : List Edge} : forestB T = true ↔ Acyclic T := by
  obtain ⟨n, hv⟩ := exists_valid T
  rw [forestB, forestGo_iff_tight T Lab.id [] rep_id hv]
  simp only [List.nil_append, comps_nil]
  exact ⟨fun h => tight_acyclic hv (by omega), fun h => by have := acyclic_tight hv h; omega⟩

end Solvor.Mst
