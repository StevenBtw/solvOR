import Solvor.Gen.Kernels
import Solvor.Gen.MstConsts
import Solvor.Common.ListLemmas
/-!
Mst: executable models (no Mathlib imports) for property C13.

* `kruskal`   – mirror of `solvor.mst.kruskal` (stable sort by weight, union–find, early break,
                `allow_forest`).  The union–find is the *spec-level* one: a component label per
                node (`union` relabels one class).  This is the model the theorems talk about.
* `kruskalUF` – the same loop over a literal mirror of `solvor.utils.UnionFind`
                (parent / rank arrays, recursive `find` with path compression, union by rank).
                `kruskalUF_eq` (Theorems.lean) proves it returns exactly what `kruskal` returns;
                the driver still evaluates both on every input.
* `prim`      – mirror of `solvor.mst.prim` (heap as "pop the least `(weight, counter)`";
                the tuples pushed are `(weight, counter, u, v)` and `counter` is unique, so the
                order never looks at `u`/`v`).
* Bool checkers evaluated by the driver on the implementation's own output:
  `chkSpanningTree`, `chkSpanningForest`, `chkMinCert` (cycle-property certificate of
  minimality), `connectedB`, and the bounded definitional oracle `mstBrute`.
-/
namespace Solvor.Mst
open Solvor.Gen (Status)

structure Edge where
  u : Nat
  v : Nat
  w : Int
  deriving DecidableEq, Repr, Inhabited

/-- total weight of an edge list -/
def weight : List Edge → Int
  | [] => 0
  | e :: es => e.w + weight es

/-! ### spec-level union–find: one label per node -/

/-- a component label for every node: a table for the nodes `0 … lst.length-1` (every entry is
again a node of the table); a node outside the table is its own label.  (A table rather than a
closure chain so that 2500-node inputs run in milliseconds.) -/
structure Lab where
  lst : List Nat
  ok : ∀ x ∈ lst, x < lst.length

/-- the label of node `i` -/
def Lab.f (lab : Lab) (i : Nat) : Nat := lab.lst.getD i i

def Lab.id : Lab := ⟨[], by simp⟩

/-- the same labels with the table extended (by identity) to at least `k` nodes -/
def Lab.grow (lab : Lab) (k : Nat) : Lab :=
  if k ≤ lab.lst.length then lab else
  ⟨lab.lst ++ List.range' lab.lst.length (k - lab.lst.length), by
    intro x hx
    simp only [List.length_append, List.length_range']
    rcases List.mem_append.1 hx with h | h
    · have := lab.ok x h; omega
    · have := List.mem_range'_1.1 h; omega⟩

theorem getD_append_range' (l : List Nat) (m i : Nat) : (l ++ List.range' l.length m).getD i i = l.getD i i := by
  by_cases h1 : i < l.length
  · rw [getD_of_lt (by simp; omega), getD_of_lt h1, List.getElem_append_left h1]
  · rw [getD_of_ge (Nat.le_of_not_lt h1)]
    by_cases h2 : i < l.length + m
    · rw [getD_of_lt (by simpa using h2), List.getElem_append_right (by omega), List.getElem_range']; omega
    · exact getD_of_ge (by simpa using h2) _

theorem getD_map_self (l : List Nat) (φ : Nat → Nat) (i : Nat) (h : l.length ≤ i → φ i = i) :
    (l.map φ).getD i i = φ (l.getD i i) := by
  by_cases hi : i < l.length
  · rw [getD_of_lt (by simpa using hi), List.getElem_map, getD_of_lt hi]
  · rw [getD_of_ge (by simpa using hi), getD_of_ge (Nat.le_of_not_lt hi), h (Nat.le_of_not_lt hi)]

theorem Lab.grow_f (lab : Lab) (k i : Nat) : (lab.grow k).f i = lab.f i := by
  unfold Lab.grow
  split
  · rfl
  · exact getD_append_range' _ _ _

theorem Lab.grow_length (lab : Lab) (k : Nat) : k ≤ (lab.grow k).lst.length := by
  unfold Lab.grow
  split
  · assumption
  · simp only [List.length_append, List.length_range']; omega

theorem Lab.f_lt (lab : Lab) {i : Nat} (h : i < lab.lst.length) : lab.f i < lab.lst.length := by
  unfold Lab.f
  rw [getD_of_lt h]
  exact lab.ok _ (List.getElem_mem h)

/-- merge the class of `b` into the class of `a` -/
def union (lab : Lab) (a b : Nat) : Lab :=
  let g := lab.grow (max a b + 1)
  let la := g.f a
  let lb := g.f b
  ⟨g.lst.map (fun li => if li = lb then la else li), by
    intro x hx
    obtain ⟨li, hli, rfl⟩ := List.mem_map.1 hx
    simp only [List.length_map]
    have hlen : max a b + 1 ≤ g.lst.length := lab.grow_length (max a b + 1)
    split
    · exact g.f_lt (by omega)
    · exact g.ok li hli⟩

theorem Lab.id_f (i : Nat) : Lab.id.f i = i := rfl

/-- all that is used of `union`: the table behind `Lab.f` is read nowhere past this point -/
theorem union_f (lab : Lab) (a b i : Nat) :
    (union lab a b).f i = if lab.f i = lab.f b then lab.f a else lab.f i := by
  have hb : b < (lab.grow (max a b + 1)).lst.length :=
    Nat.lt_of_lt_of_le (by omega) (lab.grow_length (max a b + 1))
  rw [← lab.grow_f (max a b + 1) i, ← lab.grow_f (max a b + 1) a, ← lab.grow_f (max a b + 1) b]
  exact getD_map_self _ _ _ fun hi => if_neg (Nat.ne_of_gt (Nat.lt_of_lt_of_le (Lab.f_lt _ hb) hi))

/-- component labels after joining the endpoints of every edge of `F` -/
def labOf (F : List Edge) : Lab := F.foldl (fun lab e => union lab e.u e.v) Lab.id

/-! ### Kruskal -/

structure KState where
  lab : Lab
  acc : List Edge
  total : Int
  iters : Nat

/-- the `1` of `if len(mst_edges) == n_nodes - 1: break`, read from the source on every run -/
def breakOff : Nat := Solvor.Gen.Mst.kruskalBreakOffset.toNat
/-- the `1` of `if len(mst_edges) < n_nodes - 1:` (disconnected input), read from the source -/
def shortOff : Nat := Solvor.Gen.Mst.kruskalShortOffset.toNat

-- the constants read from `solvor/mst.py` are the ones the proofs are about
theorem breakOff_eq : breakOff = 1 := by decide
theorem shortOff_eq : shortOff = 1 := by decide

/-- the `for u, v, w in sorted_edges` loop, `break` included -/
def kloop (n : Nat) : List Edge → KState → KState
  | [], s => s
  | e :: es, s =>
    if s.lab.f e.u = s.lab.f e.v then kloop n es { s with iters := s.iters + 1 }
    else
      let s' : KState := ⟨union s.lab e.u e.v, s.acc ++ [e], s.total + e.w, s.iters + 1⟩
      if s'.acc.length + breakOff = n then s' else kloop n es s'

structure Result where
  status : Status
  sol : Option (List Edge)
  /-- `none` stands for `float("inf")` -/
  obj : Option Int
  iters : Nat
  evals : Nat
  deriving Repr, DecidableEq

/-- insert `e` in front of the first edge that is not lighter -/
def insertW (e : Edge) : List Edge → List Edge
  | [] => [e]
  | x :: xs => if e.w ≤ x.w then e :: x :: xs else x :: insertW e xs

/-- `sorted(edges, key=lambda e: e[2])`: a stable sort (insertion sort from the right, so that of
two edges of equal weight the one that comes first in the input stays first) -/
def sortEdges (E : List Edge) : List Edge := E.foldr insertW []

def kinit : KState := ⟨Lab.id, [], 0, 0⟩

/-- what `kruskal` returns from the state the loop ended in -/
def kfinish (n : Nat) (m : Nat) (allowForest : Bool) (acc : List Edge) (total : Int) (iters : Nat) : Result :=
  if acc.length + shortOff < n then
    if allowForest then ⟨.FEASIBLE, some acc, some total, iters, m⟩
    else ⟨.INFEASIBLE, none, none, iters, m⟩
  else ⟨.OPTIMAL, some acc, some total, iters, m⟩

/-- `kruskal(n, E, allow_forest=…)` for `n ≥ 1` and endpoints `< n` (other inputs raise). -/
def kruskal (n : Nat) (E : List Edge) (allowForest : Bool) : Result :=
  let s := kloop n (sortEdges E) kinit
  kfinish n E.length allowForest s.acc s.total s.iters

/-! ### literal mirror of `UnionFind` (parent / rank, path compression, union by rank) -/

structure UF where
  parent : List Nat
  rank : List Nat

def UF.init (n : Nat) : UF := ⟨List.range n, List.replicate n 0⟩

/-- `find` with path compression; one unit of fuel per recursive call -/
def UF.find : Nat → UF → Nat → UF × Nat
  | 0, uf, x => (uf, uf.parent.getD x x)
  | fuel + 1, uf, x =>
    let p := uf.parent.getD x x
    if p ≠ x then
      let (uf', r) := UF.find fuel uf p
      ({ uf' with parent := uf'.parent.set x r }, r)
    else (uf, p)

/-- hang the root `c` under the root `p` (`parent[c] = p`; equal ranks: `rank[p] += 1`) -/
def UF.link (uf : UF) (c p : Nat) : UF :=
  ⟨uf.parent.set c p,
   if uf.rank.getD p 0 = uf.rank.getD c 0 then uf.rank.set p (uf.rank.getD p 0 + 1) else uf.rank⟩

/-- `union`: returns the new structure and whether two classes were merged
(`if rank[rx] < rank[ry]: rx, ry = ry, rx` is written as the two orders of `link`) -/
def UF.union (fuel : Nat) (uf : UF) (x y : Nat) : UF × Bool :=
  let f1 := UF.find fuel uf x
  let f2 := UF.find fuel f1.1 y
  if f1.2 = f2.2 then (f2.1, false)
  else if f2.1.rank.getD f1.2 0 < f2.1.rank.getD f2.2 0 then (f2.1.link f1.2 f2.2, true)
  else (f2.1.link f2.2 f1.2, true)

structure UState where
  uf : UF
  acc : List Edge
  total : Int
  iters : Nat

def uloop (n : Nat) : List Edge → UState → UState
  | [], s => s
  | e :: es, s =>
    let (uf', merged) := UF.union n s.uf e.u e.v
    if !merged then uloop n es { s with uf := uf', iters := s.iters + 1 }
    else
      let s' : UState := ⟨uf', s.acc ++ [e], s.total + e.w, s.iters + 1⟩
      if s'.acc.length + breakOff = n then s' else uloop n es s'

def kruskalUF (n : Nat) (E : List Edge) (allowForest : Bool) : Result :=
  let s := uloop n (sortEdges E) ⟨UF.init n, [], 0, 0⟩
  kfinish n E.length allowForest s.acc s.total s.iters

/-! ### Prim -/

/-- heap entry `(weight, counter, u, v)` -/
structure HItem where
  w : Int
  c : Nat
  u : Nat
  v : Nat
  deriving DecidableEq, Repr, Inhabited

/-- the edge a heap entry stands for -/
def HItem.edge (it : HItem) : Edge := ⟨it.u, it.v, it.w⟩

/-- tuple order on `(weight, counter)`; counters are unique so `u`, `v` are never compared -/
def hLe (a b : HItem) : Bool := decide (a.w < b.w) || (decide (a.w = b.w) && decide (a.c ≤ b.c))

/-- `heappop`: the least entry and the remaining ones -/
def popMin : List HItem → Option (HItem × List HItem)
  | [] => none
  | x :: xs =>
    match popMin xs with
    | none => some (x, [])
    | some (m, rest) => if hLe x m then some (x, m :: rest) else some (m, x :: rest)

/-- adjacency: `adj[u]` = list of `(neighbour, weight)` in the order the dict value iterates -/
abbrev Adj := List (List (Nat × Int))

def Adj.nbrs (adj : Adj) (u : Nat) : List (Nat × Int) := adj.getD u []

/-- entries pushed for the neighbours `nb` of `src`, counters `c, c+1, …` -/
def mkItems (src : Nat) (c : Nat) : List (Nat × Int) → List HItem
  | [] => []
  | (y, w) :: nb => ⟨w, c, src, y⟩ :: mkItems src (c + 1) nb

structure PState where
  inT : List Nat
  acc : List Edge
  total : Int
  counter : Nat
  heap : List HItem
  iters : Nat
  evals : Nat

/-- the `while heap and len(in_mst) < len(nodes)` loop; one unit of fuel per iteration -/
def ploop (adj : Adj) (n : Nat) : Nat → PState → PState
  | 0, s => s
  | fuel + 1, s =>
    if s.inT.length < n then
      match popMin s.heap with
      | none => s
      | some (it, rest) =>
        if s.inT.contains it.v then ploop adj n fuel { s with heap := rest, iters := s.iters + 1 }
        else
          let inT' := it.v :: s.inT
          let items := mkItems it.v s.counter ((adj.nbrs it.v).filter fun p => !inT'.contains p.1)
          ploop adj n fuel ⟨inT', s.acc ++ [⟨it.u, it.v, it.w⟩], s.total + it.w, s.counter + items.length,
            rest ++ items, s.iters + 1, s.evals + items.length⟩
    else s

/-- number of arcs (= upper bound on pushes) -/
def Adj.size (adj : Adj) : Nat := (adj.map List.length).sum

def pinit (adj : Adj) (start : Nat) : PState :=
  let items := mkItems start 0 (adj.nbrs start)
  ⟨[start], [], 0, items.length, items, 0, items.length⟩

/-- `prim(graph, start=…)`; nodes are `0 … adj.length-1` in dict-key order, every neighbour is a key -/
def prim (adj : Adj) (start : Nat) : Result :=
  if adj.isEmpty then ⟨.OPTIMAL, some [], some 0, 0, 0⟩
  else
    let n := adj.length
    let s := ploop adj n (adj.size + 1) (pinit adj start)
    if s.inT.length < n then ⟨.INFEASIBLE, none, none, s.iters, s.evals⟩
    else ⟨.OPTIMAL, some s.acc, some s.total, s.iters, s.evals⟩

/-- the undirected edge list an adjacency structure stands for (one entry per listed arc) -/
def arcsFrom : Nat → Adj → List Edge
  | _, [] => []
  | u, nb :: rest => nb.map (fun p => (⟨u, p.1, p.2⟩ : Edge)) ++ arcsFrom (u + 1) rest

def arcs (adj : Adj) : List Edge := arcsFrom 0 adj

/-! ### verified Bool checkers (spec side) -/

def validB (n : Nat) (E : List Edge) : Bool := E.all fun e => decide (e.u < n) && decide (e.v < n)

def subsetB (T E : List Edge) : Bool := T.all fun e => E.contains e

/-- all nodes `< n` in one component of `F` -/
def connectedB (n : Nat) (F : List Edge) : Bool :=
  let lab := labOf F
  (List.range n).all fun i => lab.f i == lab.f 0

/-- every edge joins two different components of the edges before it -/
def forestGo : Lab → List Edge → Bool
  | _, [] => true
  | lab, e :: es => lab.f e.u != lab.f e.v && forestGo (union lab e.u e.v) es

def forestB (T : List Edge) : Bool := forestGo Lab.id T

/-- `T` joins the endpoints of every edge of `E` -/
def spansB (E T : List Edge) : Bool :=
  let lab := labOf T
  E.all fun e => lab.f e.u == lab.f e.v

/-- `T` is a spanning tree of `(n, E)`: edges of the input, `n-1` of them, connecting all nodes -/
def chkSpanningTree (n : Nat) (E T : List Edge) : Bool :=
  subsetB T E && (T.length + 1 == n) && connectedB n T

/-- `T` is a spanning forest of `E`: edges of the input, no cycle, same components as the input -/
def chkSpanningForest (E T : List Edge) : Bool :=
  subsetB T E && forestB T && spansB E T

/-- cycle-property certificate: the endpoints of every input edge `e` are already joined by the
tree edges that are no heavier than `e` -/
def chkMinCert (E T : List Edge) : Bool :=
  E.all fun e => let lab := labOf (T.filter fun f => decide (f.w ≤ e.w)); lab.f e.u == lab.f e.v

/-- number of components among nodes `< n` -/
def compCount (n : Nat) (F : List Edge) : Nat :=
  let lab := labOf F
  ((List.range n).filter fun i => lab.f i == i).length

/-- the same edge with its endpoints swapped -/
def Edge.rev (e : Edge) : Edge := ⟨e.v, e.u, e.w⟩

/-- every edge of `E` occurs in `A`, possibly with its endpoints swapped -/
def subGraphB (E A : List Edge) : Bool := E.all fun e => A.contains e || A.contains e.rev

/-- two edge lists describing the same undirected weighted graph -/
def sameGraphB (E A : List Edge) : Bool := subGraphB E A && subGraphB A E

/-- adjacency lists of an undirected graph: every neighbour is a key and every edge is listed
from both ends with the same weight -/
def goodAdjB (adj : Adj) : Bool :=
  (List.range adj.length).all fun u => (adj.nbrs u).all fun p =>
    decide (p.1 < adj.length) && (adj.nbrs p.1).contains (u, p.2)

/-! ### bounded definitional oracle -/

def subsetsLen : Nat → List Edge → List (List Edge)
  | 0, _ => [[]]
  | _ + 1, [] => []
  | k + 1, e :: es => (subsetsLen k es).map (e :: ·) ++ subsetsLen (k + 1) es

def minOpt : List Int → Option Int
  | [] => none
  | x :: xs => match minOpt xs with
    | none => some x
    | some m => some (if x ≤ m then x else m)

/-- least weight over all `(n - components)`-subsets of `E` that join everything `E` joins -/
def mstBrute (n : Nat) (E : List Edge) : Option Int :=
  minOpt (((subsetsLen (n - compCount n E) E).filter fun T => spansB E T).map weight)

end Solvor.Mst
