import Solvor.Backend.Model
import Solvor.Common.ListLemmas
/-! Backend: walks and reachability; the closure computation `reachGo` decides reachability on valid inputs. -/
namespace Solvor.Backend

theorem Walk.mono {es es' : List WEdge} (h : ∀ e ∈ es, e ∈ es') {u v : Nat} {x : Int}
    (w : Walk es u v x) : Walk es' u v x := by
  induction w with
  | nil => exact Walk.nil _
  | snoc _ he ih => exact Walk.snoc ih (h _ he)

theorem Walk.preserves {es : List WEdge} {P : Nat → Prop} (hstep : ∀ e ∈ es, P e.1 → P e.2.1) {u v : Nat} {x : Int}
    (w : Walk es u v x) (hu : P u) : P v := by
  induction w with
  | nil => exact hu
  | snoc _ he ih => exact hstep _ he ih

theorem Walk.edge {es : List WEdge} {u v : Nat} {w : Int} (h : (u, v, w) ∈ es) : Walk es u v w := by
  have := Walk.snoc (Walk.nil (es := es) u) h
  simpa using this

theorem Walk.trans {es : List WEdge} {a b c : Nat} {x y : Int}
    (p : Walk es a b x) (q : Walk es b c y) : Walk es a c (x + y) := by
  induction q with
  | nil => simpa using p
  | snoc _ he ih =>
    have := Walk.snoc ih he
    rwa [Int.add_assoc] at this

theorem Walk.cons {es : List WEdge} {u v t : Nat} {w x : Int}
    (h : (u, v, w) ∈ es) (p : Walk es v t x) : Walk es u t (w + x) :=
  Walk.trans (Walk.edge h) p

theorem Reach.refl (es : List WEdge) (u : Nat) : Reach es u u := ⟨0, Walk.nil u⟩

theorem Reach.step {es : List WEdge} {s u v : Nat} {w : Int} (h : Reach es s u) (he : (u, v, w) ∈ es) :
    Reach es s v := by
  obtain ⟨x, hx⟩ := h
  exact ⟨x + w, Walk.snoc hx he⟩

theorem Reach.trans {es : List WEdge} {a b c : Nat} (h : Reach es a b) (h' : Reach es b c) : Reach es a c := by
  obtain ⟨x, hx⟩ := h
  obtain ⟨y, hy⟩ := h'
  exact ⟨x + y, hx.trans hy⟩

theorem Reach.mono {es es' : List WEdge} (h : ∀ e ∈ es, e ∈ es') {u v : Nat} (r : Reach es u v) :
    Reach es' u v := by
  obtain ⟨x, hx⟩ := r
  exact ⟨x, hx.mono h⟩

theorem isDist_unique {es : List WEdge} {s v : Nat} {o o' : Option Int}
    (h : IsDist es s v o) (h' : IsDist es s v o') : o = o' := by
  cases o with
  | none =>
    cases o' with
    | none => rfl
    | some y => exact absurd ⟨y, h'.1⟩ h
  | some x =>
    cases o' with
    | none => exact absurd ⟨x, h.1⟩ h'
    | some y =>
      have h1 := h.2 y h'.1
      have h2 := h'.2 x h.1
      congr 1
      omega

theorem isDist_congr {es es' : List WEdge} (h : ∀ e, e ∈ es ↔ e ∈ es') {s v : Nat} {o : Option Int} :
    IsDist es s v o ↔ IsDist es' s v o := by
  have w : ∀ a b x, Walk es a b x ↔ Walk es' a b x :=
    fun a b x => ⟨Walk.mono fun e he => (h e).1 he, Walk.mono fun e he => (h e).2 he⟩
  cases o with
  | none => simp only [IsDist, Reach, w]
  | some x => simp only [IsDist, w]

theorem isSome_eq_of_exclusive {α : Type} {acc : Option α → Prop}
    (hex : ∀ a, acc (some a) → acc none → False) :
    ∀ {o1 o2 : Option α}, acc o1 → acc o2 → o1.isSome = o2.isSome
  | none, none, _, _ => rfl
  | some _, some _, _, _ => rfl
  | some a, none, h1, h2 => (hex a h1 h2).elim
  | none, some a, h1, h2 => (hex a h2 h1).elim

theorem validW_iff {n : Nat} {es : List WEdge} :
    validW n es = true ↔ ∀ e ∈ es, e.1 < n ∧ e.2.1 < n := by
  simp only [validW, List.all_eq_true, Bool.and_eq_true, decide_eq_true_eq]

theorem Walk.lt_of_valid {n : Nat} {es : List WEdge} (hv : validW n es = true) {s v : Nat} {x : Int}
    (hs : s < n) (w : Walk es s v x) : v < n :=
  w.preserves (P := (· < n)) (fun e he _ => ((validW_iff.1 hv) e he).2) hs

/-- the fuel measure of `reachGo` and of the BFS mirror -/
def missing (n : Nat) (R : List Nat) : Nat := ((List.range n).filter fun v => !R.contains v).length

theorem filter_not_contains_cons (l out : List Nat) (u : Nat) :
    (l.filter fun x => !(u :: out).contains x) = (l.filter fun x => !out.contains x).filter (· != u) := by
  rw [List.filter_filter]
  apply List.filter_congr
  intro x _
  rw [List.contains_cons, Bool.not_or]
  rfl

theorem missing_cons_lt {n : Nat} {R : List Nat} {v : Nat} (hv : v < n) (hnot : R.contains v = false) :
    missing n (v :: R) < missing n R := by
  unfold missing
  rw [filter_not_contains_cons]
  refine List.length_filter_lt_length_iff_exists.2 ⟨v, List.mem_filter.2 ⟨List.mem_range.2 hv, ?_⟩, ?_⟩
  · rw [hnot]; rfl
  · simp

theorem missing_le (n : Nat) (R : List Nat) : missing n R ≤ n := by
  unfold missing
  exact Nat.le_trans (List.length_filter_le _ _) (by simp)

theorem reachGo_inv {es : List WEdge} {Inv : List Nat → Prop}
    (hstep : ∀ R e, e ∈ es → e.1 ∈ R → Inv R → Inv (e.2.1 :: R)) :
    ∀ (fuel : Nat) (R : List Nat), Inv R → Inv (reachGo es fuel R) := by
  intro fuel
  induction fuel with
  | zero => intro R h; exact h
  | succ k ih =>
    intro R h
    unfold reachGo
    split
    · exact h
    · rename_i e he
      have hp := List.find?_some he
      simp only [Bool.and_eq_true, List.contains_eq_mem, decide_eq_true_eq] at hp
      exact ih _ (hstep R e (List.mem_of_find?_eq_some he) hp.1 h)

theorem reachGo_subset (es : List WEdge) (fuel : Nat) (R : List Nat) : ∀ r ∈ R, r ∈ reachGo es fuel R :=
  fun r => reachGo_inv (Inv := (r ∈ ·)) (fun _ _ _ _ h => List.mem_cons_of_mem _ h) fuel R

theorem reachGo_sound (es : List WEdge) (s : Nat) (fuel : Nat) (R : List Nat)
    (hR : ∀ r ∈ R, Reach es s r) : ∀ r ∈ reachGo es fuel R, Reach es s r := by
  refine reachGo_inv (Inv := fun R => ∀ r ∈ R, Reach es s r) ?_ fuel R hR
  intro R e he h1 hR r hr
  rcases List.mem_cons.1 hr with rfl | hr
  · exact (hR _ h1).step (w := e.2.2) he
  · exact hR r hr

theorem reachGo_closed (n : Nat) (es : List WEdge) (hv : validW n es = true) (fuel : Nat) (R : List Nat)
    (hfuel : missing n R ≤ fuel) :
    ∀ e ∈ es, e.1 ∈ reachGo es fuel R → e.2.1 ∈ reachGo es fuel R := by
  induction fuel generalizing R with
  | zero =>
    intro e he h1
    simp only [reachGo] at h1 ⊢
    -- no node `< n` is missing, and `e.2.1 < n`
    have hlt := ((validW_iff.1 hv) e he).2
    have h0 : missing n R = 0 := Nat.le_zero.1 hfuel
    unfold missing at h0
    have := List.length_eq_zero_iff.1 h0
    have hnot := List.filter_eq_nil_iff.1 this e.2.1 (List.mem_range.2 hlt)
    simpa using hnot
  | succ k ih =>
    intro e he
    unfold reachGo
    split
    · rename_i hnone
      intro h1
      have := List.find?_eq_none.1 hnone e he
      simp only [Bool.and_eq_true, List.contains_eq_mem, decide_eq_true_eq, Bool.not_eq_true',
        decide_eq_false_iff_not, not_and, Decidable.not_not] at this
      exact this h1
    · rename_i e' he'
      have hmem := List.mem_of_find?_eq_some he'
      have hp := List.find?_some he'
      simp only [Bool.and_eq_true, Bool.not_eq_true'] at hp
      have hlt := ((validW_iff.1 hv) e' hmem).2
      have := missing_cons_lt (n := n) hlt hp.2
      exact ih _ (by omega) e he

theorem mem_iff_reach_of_closed {es : List WEdge} {R : List Nat} {s : Nat} (hs : s ∈ R)
    (hr : ∀ v ∈ R, Reach es s v) (hcl : ∀ e ∈ es, e.1 ∈ R → e.2.1 ∈ R) (v : Nat) :
    v ∈ R ↔ Reach es s v :=
  ⟨hr v, fun ⟨_, hx⟩ => hx.preserves (P := (· ∈ R)) hcl hs⟩

theorem mem_reachList_iff {n : Nat} {es : List WEdge} (hv : validW n es = true) {s v : Nat} :
    v ∈ reachList n es s ↔ Reach es s v :=
  mem_iff_reach_of_closed (reachGo_subset es n [s] s (List.mem_singleton.2 rfl))
    (reachGo_sound es s n [s] fun _ hr => List.mem_singleton.1 hr ▸ Reach.refl es s)
    (reachGo_closed n es hv n [s] (missing_le n [s])) v

theorem reachB_iff {n : Nat} {es : List WEdge} (hv : validW n es = true) {s v : Nat} :
    reachB n es s v = true ↔ Reach es s v := by
  unfold reachB
  rw [List.contains_eq_mem, decide_eq_true_eq]
  exact mem_reachList_iff hv

end Solvor.Backend
