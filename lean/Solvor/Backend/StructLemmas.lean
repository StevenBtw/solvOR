import Solvor.Backend.DistLemmas
/-! Backend: sublists / spanning forests, SCC classes, topological orders, sorted lists. -/
namespace Solvor.Backend

theorem mem_sublists {α} {l G : List α} : G ∈ sublists l ↔ G.Sublist l := by
  induction l generalizing G with
  | nil => simp [sublists]
  | cons a l ih =>
    simp only [sublists, List.mem_append, List.mem_map, List.sublist_cons_iff, ih]
    constructor
    · rintro (h | ⟨r, hr, rfl⟩)
      · exact Or.inl h
      · exact Or.inr ⟨r, rfl, hr⟩
    · rintro (h | ⟨r, rfl, hr⟩)
      · exact Or.inl h
      · exact Or.inr ⟨r, hr, rfl⟩

theorem symW_eq (F : List WEdge) : symW F = F ++ F.map fun e => (e.2.1, e.1, e.2.2) := rfl

theorem validW_of_subset {n : Nat} {es F : List WEdge} (hv : validW n es = true) (h : ∀ e ∈ F, e ∈ es) :
    validW n F = true :=
  validW_iff.2 fun e he => (validW_iff.1 hv) e (h e he)

theorem validW_symW {n : Nat} {F : List WEdge} (hv : validW n F = true) : validW n (symW F) = true := by
  rw [validW_iff] at hv ⊢
  intro e he
  rw [symW, List.mem_append, List.mem_map] at he
  rcases he with he | ⟨e', he', rfl⟩
  · exact hv e he
  · exact ⟨(hv e' he').2, (hv e' he').1⟩

theorem isSpanningForest_iff {n : Nat} {es F : List WEdge} (hv : validW n es = true) :
    isSpanningForest n es F = true ↔ SpanningForest es F := by
  -- the specification writes `symW` out
  show _ ↔ F.Sublist es ∧ (∀ e ∈ es, Reach (symW F) e.1 e.2.1) ∧
    ∀ (i : Nat) (h : i < F.length), ¬ Reach (symW (F.eraseIdx i)) F[i].1 F[i].2.1
  unfold isSpanningForest
  simp only [Bool.and_eq_true, List.isSublist_iff_sublist, List.all_eq_true, List.mem_range, and_assoc]
  refine and_congr_right fun hsub => ?_
  have hvF : validW n F = true := validW_of_subset hv fun e he => hsub.subset he
  have hvE : ∀ i, validW n (symW (F.eraseIdx i)) = true := fun i =>
    validW_symW (validW_of_subset hvF fun e he => (List.eraseIdx_sublist F i).subset he)
  refine and_congr (forall_congr' fun e => forall_congr' fun _ => reachB_iff (validW_symW hvF)) ?_
  refine forall_congr' fun i => forall_congr' fun hi => ?_
  rw [List.getElem?_eq_getElem hi]
  simp only [Bool.not_eq_true', ← Bool.not_eq_true, reachB_iff (hvE i)]

theorem isMinForest_iff {n : Nat} {es F : List WEdge} (hv : validW n es = true) :
    isMinForest n es F = true ↔ IsMinSpanningForest es F := by
  unfold isMinForest IsMinSpanningForest
  simp only [Bool.and_eq_true, isSpanningForest_iff hv, List.all_eq_true, mem_sublists, Bool.or_eq_true,
    decide_eq_true_eq, Bool.not_eq_true']
  apply and_congr Iff.rfl
  constructor
  · intro h G hG
    rcases h G hG.1 with h | h
    · exact h
    · have := (isSpanningForest_iff (n := n) hv).2 hG
      rw [h] at this
      cases this
  · intro h G hG
    cases hb : isSpanningForest n es G with
    | false => exact Or.inr rfl
    | true => exact Or.inl (h G ((isSpanningForest_iff hv).1 hb))

theorem connectedB_iff {n : Nat} {es : List WEdge} (hv : validW n es = true) :
    connectedB n es = true ↔ ∀ v, v < n → Reach (symW es) 0 v := by
  unfold connectedB
  simp only [List.all_eq_true, List.mem_range, reachB_iff (validW_symW hv)]

theorem mutualB_iff {n : Nat} {es : List WEdge} (hv : validW n es = true) {u v : Nat} :
    mutualB n es u v = true ↔ Mutual es u v := by
  unfold mutualB Mutual
  simp only [Bool.and_eq_true, reachB_iff hv]

theorem Mutual.symm {es : List WEdge} {u v : Nat} (h : Mutual es u v) : Mutual es v u := ⟨h.2, h.1⟩
theorem Mutual.trans {es : List WEdge} {u v w : Nat} (h : Mutual es u v) (h' : Mutual es v w) : Mutual es u w :=
  ⟨h.1.trans h'.1, h'.2.trans h.2⟩
theorem Mutual.refl (es : List WEdge) (u : Nat) : Mutual es u u := ⟨Reach.refl es u, Reach.refl es u⟩

theorem canonScc_class {n : Nat} {es : List WEdge} (hv : validW n es = true) {C : List Nat}
    (hC : C ∈ canonScc n es) : ∃ v, v < n ∧ v ∈ C ∧ ∀ u, u ∈ C ↔ (u < n ∧ Mutual es v u) := by
  unfold canonScc at hC
  obtain ⟨v, hvr, hf⟩ := List.mem_filterMap.1 hC
  simp only at hf
  split at hf
  · rename_i hhead
    cases hf
    have hvn := List.mem_range.1 hvr
    refine ⟨v, hvn, ?_, fun u => ?_⟩
    · exact List.mem_filter.2 ⟨hvr, (mutualB_iff hv).2 (Mutual.refl es v)⟩
    · simp only [List.mem_filter, List.mem_range, mutualB_iff hv]
  · cases hf

theorem canonScc_cover {n : Nat} {es : List WEdge} (hv : validW n es = true) {v : Nat} (hvn : v < n) :
    ∃ C ∈ canonScc n es, v ∈ C := by
  let C := (List.range n).filter fun u => mutualB n es v u
  have hvC : v ∈ C := List.mem_filter.2 ⟨List.mem_range.2 hvn, (mutualB_iff hv).2 (Mutual.refl es v)⟩
  cases hC : C with
  | nil => rw [hC] at hvC; cases hvC
  | cons m rest =>
    have hmC : m ∈ C := by rw [hC]; exact List.mem_cons_self
    have hm := List.mem_filter.1 hmC
    have hmut : Mutual es v m := (mutualB_iff hv).1 hm.2
    have hsame : ((List.range n).filter fun u => mutualB n es m u) = C :=
      List.filter_congr fun u _ => Bool.eq_iff_iff.2 (by
        rw [mutualB_iff hv, mutualB_iff hv]
        exact ⟨hmut.trans, hmut.symm.trans⟩)
    refine ⟨C, ?_, hvC⟩
    unfold canonScc
    refine List.mem_filterMap.2 ⟨m, hm.1, ?_⟩
    simp only [hsame]
    rw [hC]
    simp

theorem topo_walk_le {es : List WEdge} {ord : List Nat}
    (hfw : ∀ e ∈ es, posOf ord e.1 < posOf ord e.2.1) {u v : Nat} {x : Int} (w : Walk es u v x) :
    posOf ord u ≤ posOf ord v :=
  w.preserves (P := fun v => posOf ord u ≤ posOf ord v) (fun e he h => Nat.le_trans h (Nat.le_of_lt (hfw e he)))
    (Nat.le_refl _)

theorem checkTopoOrder_iff {n : Nat} {es : List WEdge} {ord : List Nat} :
    checkTopoOrder n es ord = true ↔ validW n es = true ∧ ord.length = n ∧ (∀ v, v < n → v ∈ ord) ∧
      ∀ e ∈ es, posOf ord e.1 < posOf ord e.2.1 := by
  simp only [checkTopoOrder, Bool.and_eq_true, beq_iff_eq, List.all_eq_true, List.mem_range,
    List.contains_eq_mem, decide_eq_true_eq, and_assoc]

theorem checkReachList_iff {n : Nat} {es : List WEdge} {s : Nat} {xs : List Nat} :
    checkReachList n es s xs = true ↔ validW n es = true ∧ s < n ∧ xs = reachSorted n es s := by
  simp only [checkReachList, Bool.and_eq_true, beq_iff_eq, decide_eq_true_eq, and_assoc]

theorem checkScc_iff {n : Nat} {es : List WEdge} {cs : List (List Nat)} :
    checkScc n es cs = true ↔ validW n es = true ∧ cs = canonScc n es := by
  simp only [checkScc, Bool.and_eq_true, beq_iff_eq]

theorem hasCycle_iff {n : Nat} {es : List WEdge} (hv : validW n es = true) :
    hasCycle n es = true ↔ ∃ e ∈ es, Reach es e.2.1 e.1 := by
  unfold hasCycle
  simp only [List.any_eq_true, reachB_iff hv]

theorem sorted_ext (l1 l2 : List Nat) (h1 : l1.Pairwise (· < ·)) (h2 : l2.Pairwise (· < ·))
    (h : ∀ x, x ∈ l1 ↔ x ∈ l2) : l1 = l2 :=
  List.Perm.eq_of_pairwise (fun _ _ _ _ hab hba => absurd hab (Nat.lt_asymm hba)) h1 h2
    ((List.perm_ext_iff_of_nodup (h1.imp Nat.ne_of_lt) (h2.imp Nat.ne_of_lt)).2 h)

theorem mem_insertSorted {a x : Nat} {l : List Nat} : x ∈ insertSorted a l ↔ x = a ∨ x ∈ l := by
  induction l with
  | nil => simp [insertSorted]
  | cons b l ih =>
    unfold insertSorted
    split
    · simp
    · rw [List.mem_cons, ih, List.mem_cons, or_left_comm]

theorem pairwise_insertSorted {a : Nat} {l : List Nat} (hl : l.Pairwise (· < ·)) (ha : a ∉ l) :
    (insertSorted a l).Pairwise (· < ·) := by
  induction l with
  | nil => exact List.pairwise_singleton _ _
  | cons b l ih =>
    obtain ⟨hb, hl'⟩ := List.pairwise_cons.1 hl
    have hab : a ≠ b := fun h => ha (h ▸ List.mem_cons_self)
    unfold insertSorted
    split
    · rename_i hle
      have hlt : a < b := Nat.lt_of_le_of_ne hle hab
      exact List.pairwise_cons.2 ⟨fun x hx => (List.mem_cons.1 hx).elim (fun e => e ▸ hlt)
        fun hx => Nat.lt_trans hlt (hb x hx), hl⟩
    · rename_i hle
      refine List.pairwise_cons.2 ⟨fun x hx => ?_, ih hl' fun h => ha (List.mem_cons_of_mem _ h)⟩
      rcases mem_insertSorted.1 hx with rfl | hx
      · exact Nat.lt_of_le_of_ne (Nat.le_of_not_le hle) (Ne.symm hab)
      · exact hb x hx

theorem mem_sortNat {x : Nat} {l : List Nat} : x ∈ sortNat l ↔ x ∈ l := by
  induction l with
  | nil => simp [sortNat]
  | cons a l ih =>
    have : sortNat (a :: l) = insertSorted a (sortNat l) := rfl
    rw [this, mem_insertSorted, ih]
    simp

theorem pairwise_sortNat {l : List Nat} (h : l.Nodup) : (sortNat l).Pairwise (· < ·) := by
  induction l with
  | nil => simp [sortNat]
  | cons a l ih =>
    have : sortNat (a :: l) = insertSorted a (sortNat l) := rfl
    rw [this]
    rw [List.nodup_cons] at h
    exact pairwise_insertSorted (ih h.2) (fun hx => h.1 (mem_sortNat.1 hx))

theorem mem_reachSorted {n : Nat} {es : List WEdge} (hv : validW n es = true) {s v : Nat} :
    v ∈ reachSorted n es s ↔ v < n ∧ Reach es s v := by
  unfold reachSorted
  simp only [List.mem_filter, List.mem_range, reachB_iff hv]

theorem pairwise_reachSorted (n : Nat) (es : List WEdge) (s : Nat) :
    (reachSorted n es s).Pairwise (· < ·) :=
  List.Pairwise.filter _ List.pairwise_lt_range

end Solvor.Backend
