import Solvor.Backend.BfsLemmas
/-! Backend: the mirror of the Rust DFS kernel (stack with lazy visited marking) enumerates exactly
the reachable nodes, once each. -/
namespace Solvor.Backend

/-- out-degrees still to be pushed (the fuel measure of `DfsInv`) -/
def pend (n : Nat) (es : List WEdge) (out : List Nat) : Nat :=
  (((List.range n).filter fun u => !out.contains u).map fun u => (adjOf es u).length).sum

theorem pend_cons_le {n : Nat} {es : List WEdge} {out : List Nat} {u : Nat} (hun : u < n) (hu : u ∉ out) :
    pend n es (u :: out) + (adjOf es u).length ≤ pend n es out := by
  unfold pend
  -- visiting `u` removes exactly `u` from the duplicate-free list of unvisited nodes
  have hmem : u ∈ (List.range n).filter fun x => !out.contains x :=
    List.mem_filter.2 ⟨List.mem_range.2 hun, by simpa using hu⟩
  rw [filter_not_contains_cons, ← (List.nodup_range.sublist List.filter_sublist).erase_eq_filter, Nat.add_comm]
  exact Nat.le_of_eq ((List.perm_cons_erase hmem).map fun u => (adjOf es u).length).sum_nat.symm

theorem sum_le_length_mul (l : List Nat) (f : Nat → Nat) (b : Nat) (h : ∀ x, f x ≤ b) :
    (l.map f).sum ≤ l.length * b := by
  induction l with
  | nil => simp
  | cons a l ih =>
    simp only [List.map_cons, List.sum_cons, List.length_cons]
    have := h a
    rw [Nat.succ_mul]
    omega

theorem pend_nil_le (n : Nat) (es : List WEdge) : pend n es [] ≤ n * es.length := by
  unfold pend
  have h1 := sum_le_length_mul ((List.range n).filter fun u => !([] : List Nat).contains u)
    (fun u => (adjOf es u).length) es.length (by
      intro x
      unfold adjOf
      rw [List.length_map]
      exact List.length_filter_le _ _)
  exact Nat.le_trans h1 (Nat.mul_le_mul_right _ (missing_le n []))

/-- loop invariant of `rustDfsOrder` (`out`: the visited nodes, newest first).  A step either pops an entry or visits a node and
pushes at most its out-degree, so stack length plus the out-degrees still to be pushed (`pend`, at most `n * es.length` at the
start) bounds the fuel. -/
structure DfsInv (n : Nat) (es : List WEdge) (s : Nat) (fuel : Nat) (stack out : List Nat) : Prop where
  nodup : out.Nodup
  reachOut : ∀ v ∈ out, Reach es s v
  reachStack : ∀ v ∈ stack, Reach es s v
  closed : ∀ u ∈ out, ∀ e ∈ es, e.1 = u → e.2.1 ∈ out ∨ e.2.1 ∈ stack
  root : s ∈ out ∨ s ∈ stack
  fuel : stack.length + pend n es out ≤ fuel

theorem DfsInv.done {n : Nat} {es : List WEdge} {s fuel : Nat} {out : List Nat}
    (inv : DfsInv n es s fuel [] out) : Enumerates es s out.reverse :=
  enumerates_reverse inv.nodup
    (mem_iff_reach_of_closed (inv.root.resolve_right List.not_mem_nil) inv.reachOut
      fun e he h1 => (inv.closed e.1 h1 e he rfl).resolve_right List.not_mem_nil)

theorem DfsInv.skip {n : Nat} {es : List WEdge} {s k u : Nat} {st out : List Nat}
    (inv : DfsInv n es s (k + 1) (u :: st) out) (huo : u ∈ out) : DfsInv n es s k st out := by
  have hmv : ∀ {x}, x ∈ out ∨ x ∈ u :: st → x ∈ out ∨ x ∈ st := fun h =>
    h.elim Or.inl fun h => (List.mem_cons.1 h).elim (fun e => Or.inl (e ▸ huo)) Or.inr
  refine { nodup := inv.nodup, reachOut := inv.reachOut, reachStack := fun v hv => inv.reachStack v (List.mem_cons_of_mem _ hv),
           closed := fun u' hu' e he h1 => hmv (inv.closed u' hu' e he h1), root := hmv inv.root, fuel := ?_ }
  have := inv.fuel
  rw [List.length_cons] at this
  omega

theorem DfsInv.visit {n : Nat} {es : List WEdge} (hval : validW n es = true) {s : Nat} (hs : s < n)
    {k u : Nat} {st out : List Nat} (inv : DfsInv n es s (k + 1) (u :: st) out) (huo : u ∉ out) :
    DfsInv n es s k (((adjOf es u).filter fun v => !(v == u) && !out.contains v) ++ st) (u :: out) := by
  have hur : Reach es s u := inv.reachStack u List.mem_cons_self
  have hun : u < n := by
    obtain ⟨x, hx⟩ := hur
    exact hx.lt_of_valid hval hs
  have hmv : ∀ {x} {P : List Nat}, x ∈ out ∨ x ∈ u :: st → x ∈ u :: out ∨ x ∈ P ++ st := fun h =>
    h.elim (fun h => Or.inl (List.mem_cons_of_mem _ h)) fun h =>
      (List.mem_cons.1 h).elim (fun e => Or.inl (e ▸ List.mem_cons_self)) fun h => Or.inr (List.mem_append_right _ h)
  refine { nodup := List.nodup_cons.2 ⟨huo, inv.nodup⟩, reachOut := ?reachOut, reachStack := ?reachStack, closed := ?closed,
           root := hmv inv.root, fuel := ?fuel }
  case reachOut =>
    intro v hv
    rcases List.mem_cons.1 hv with rfl | hv
    · exact hur
    · exact inv.reachOut v hv
  case reachStack =>
    intro v hv
    rcases List.mem_append.1 hv with hv | hv
    · obtain ⟨w, hw⟩ := mem_adjOf.1 (List.mem_filter.1 hv).1
      exact hur.step hw
    · exact inv.reachStack v (List.mem_cons_of_mem _ hv)
  case closed =>
    intro u' hu' e he h1
    rcases List.mem_cons.1 hu' with rfl | hu'
    · by_cases h2 : e.2.1 = u'
      · exact Or.inl (h2 ▸ List.mem_cons_self)
      · by_cases h3 : e.2.1 ∈ out
        · exact Or.inl (List.mem_cons_of_mem _ h3)
        · refine Or.inr (List.mem_append_left _ (List.mem_filter.2 ⟨h1 ▸ mem_adjOf.2 ⟨e.2.2, he⟩, ?_⟩))
          simp [h2, h3]
    · exact hmv (inv.closed u' hu' e he h1)
  case fuel =>
    have h1 := inv.fuel
    have h2 := pend_cons_le (es := es) hun huo
    have h3 : ((adjOf es u).filter fun v => !(v == u) && !out.contains v).length ≤ (adjOf es u).length :=
      List.length_filter_le _ _
    rw [List.length_cons] at h1
    rw [List.length_append]
    omega

theorem rustDfsOrder_spec {n : Nat} {es : List WEdge} (hval : validW n es = true) {s : Nat} (hs : s < n) :
    ∀ (fuel : Nat) (stack out : List Nat), DfsInv n es s fuel stack out →
      Enumerates es s (rustDfsOrder es fuel stack out) := by
  intro fuel
  induction fuel with
  | zero =>
    intro stack out inv
    cases stack with
    | nil => exact inv.done
    | cons u st => exact absurd inv.fuel (by rw [List.length_cons]; omega)
  | succ k ih =>
    intro stack out inv
    cases stack with
    | nil => exact inv.done
    | cons u st =>
      unfold rustDfsOrder
      by_cases hc : out.contains u = true
      · rw [if_pos hc]
        exact ih _ _ (inv.skip (by simpa using hc))
      · rw [if_neg hc]
        exact ih _ _ (inv.visit hval hs (by simpa using hc))

theorem rustDfs_spec {n : Nat} {es : List WEdge} (hval : validW n es = true) {s : Nat} (hs : s < n) :
    Enumerates es s (rustDfs n es s) := by
  unfold rustDfs
  apply rustDfsOrder_spec hval hs
  constructor
  case nodup => simp
  case reachOut => intro v hv; cases hv
  case reachStack =>
    intro v hv
    rw [List.mem_singleton.1 hv]
    exact Reach.refl es s
  case closed => intro u hu; cases hu
  case root => exact Or.inr (List.mem_singleton.2 rfl)
  case fuel =>
    have := pend_nil_le n es
    simp only [List.length_singleton]
    omega

end Solvor.Backend
