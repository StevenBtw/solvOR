import Solvor.Backend.Lemmas
import Solvor.Common.ListLemmas
import Solvor.Common.RatSums
import Mathlib.Algebra.Order.Field.Rat
import Mathlib.Tactic.Linarith
import Mathlib.Tactic.Ring
import Mathlib.Tactic.FieldSimp
import Mathlib.Algebra.Order.Field.Basic
import Mathlib.Algebra.Order.Ring.Abs
/-!
Backend: the PageRank step is an L1 contraction with factor `d`.

The step is affine, `stepF f v = (1 - d) / n + d * linF f v`, and its linear part `linF` is a
column-stochastic matrix: `linF` is additive, `|linF z v| ≤ linF |z| v`, and summing `linF h` over all
targets gives back the sum of `h`.  The contraction is these three facts.
-/
namespace Solvor.Backend

theorem absR_eq (q : Rat) : absR q = |q| := by
  unfold absR
  split
  · rename_i h; exact (abs_of_neg h).symm
  · rename_i h; exact (abs_of_nonneg (not_lt.1 h)).symm

section sums
variable {α : Type}

theorem le_sum_map_of_mem (l : List α) (f : α → Rat) (h : ∀ a ∈ l, 0 ≤ f a) {a : α} (ha : a ∈ l) :
    f a ≤ (l.map f).sum := by
  induction l with
  | nil => cases ha
  | cons b l ih =>
    have hl : 0 ≤ (l.map f).sum := by
      have := sum_map_le_sum_map l (fun _ => 0) f fun c hc => h c (List.mem_cons_of_mem _ hc)
      rwa [sum_map_zero] at this
    rw [List.map_cons, List.sum_cons]
    rcases List.mem_cons.1 ha with rfl | ha'
    · exact le_add_of_nonneg_right hl
    · exact le_trans (ih (fun c hc => h c (List.mem_cons_of_mem _ hc)) ha')
        (le_add_of_nonneg_left (h b List.mem_cons_self))

theorem sum_filter_add_ite (l : List α) (p : α → Bool) (f : α → Rat) :
    ((l.filter p).map f).sum + (l.map fun a => if p a then 0 else f a).sum = (l.map f).sum := by
  rw [List.sum_map_ite (fun a => p a = true) (fun _ => (0 : Rat)) f l, List.sum_map_zero, zero_add]
  simpa using List.sum_map_filter_add_sum_map_filter_not (fun a => p a = true) f l

end sums

theorem validU_iff {n : Nat} {es : List (Nat × Nat)} :
    validU n es = true ↔ ∀ e ∈ es, e.1 < n ∧ e.2 < n := by
  simp only [validU, List.all_eq_true, Bool.and_eq_true, decide_eq_true_eq]

theorem sum_over_sources (n : Nat) (es : List (Nat × Nat)) (hv : validU n es = true) (h : Nat → Rat) :
    (es.map fun e => h e.1 / outCount es e.1).sum =
      ((List.range n).map fun u => if outCount es u == 0 then 0 else h u).sum := by
  rw [← sum_by_key _ (fun e => e.1) n es fun e he => ((validU_iff.1 hv) e he).1]
  apply congrArg List.sum
  apply List.map_congr_left
  intro u _
  -- the fibre of `u`: out(u) copies of h u / out(u)
  have hc : ((es.filter fun e => e.1 == u).map fun e => h e.1 / (outCount es e.1 : Rat)) =
      ((es.filter fun e => e.1 == u).map fun _ => h u / (outCount es u : Rat)) := by
    apply List.map_congr_left
    intro e he
    rw [beq_iff_eq.1 (List.mem_filter.1 he).2]
  rw [hc, sum_map_const]
  show (outCount es u : Rat) * (h u / outCount es u) = _
  by_cases h0 : outCount es u = 0
  · rw [h0, Nat.cast_zero, zero_mul]
    rfl
  · rw [if_neg (by simpa using h0), mul_div_cancel₀ _ (Nat.cast_ne_zero.2 h0)]

def linF (n : Nat) (es : List (Nat × Nat)) (f : Nat → Rat) (v : Nat) : Rat :=
  ((es.filter fun e => e.2 == v).map fun e => f e.1 / outCount es e.1).sum +
    (((List.range n).filter fun u => outCount es u == 0).map f).sum / n

theorem stepF_eq (n : Nat) (es : List (Nat × Nat)) (d : Rat) (f : Nat → Rat) (v : Nat) :
    stepF n es d f v = (1 - d) / n + d * linF n es f v := by
  unfold stepF linF
  ring

theorem linF_sub (n : Nat) (es : List (Nat × Nat)) (f g : Nat → Rat) (v : Nat) :
    linF n es (fun u => f u - g u) v = linF n es f v - linF n es g v := by
  unfold linF
  rw [sum_map_sub, List.map_congr_left (g := fun e : Nat × Nat =>
    f e.1 / (outCount es e.1 : Rat) - g e.1 / (outCount es e.1 : Rat)) fun e _ => sub_div _ _ _, sum_map_sub]
  ring

theorem abs_linF_le (n : Nat) (es : List (Nat × Nat)) (z : Nat → Rat) (v : Nat) :
    |linF n es z v| ≤ linF n es (fun u => |z u|) v := by
  have hcast : ∀ k : Nat, |(k : Rat)| = k := fun k => abs_of_nonneg (Nat.cast_nonneg k)
  unfold linF
  refine le_trans (abs_add_le _ _) (add_le_add (le_trans (abs_sum_map_le _ _) (le_of_eq ?_)) ?_)
  · exact congrArg List.sum (List.map_congr_left fun e _ => by rw [abs_div, hcast])
  · rw [abs_div, hcast]
    exact div_le_div_of_nonneg_right (abs_sum_map_le _ _) (Nat.cast_nonneg n)

theorem sum_linF (n : Nat) (es : List (Nat × Nat)) (hv : validU n es = true) (h : Nat → Rat) :
    ((List.range n).map (linF n es h)).sum = ((List.range n).map h).sum := by
  rcases Nat.eq_zero_or_pos n with rfl | hn
  · rfl
  · have hne : (n : Rat) ≠ 0 := Nat.cast_ne_zero.2 (Nat.pos_iff_ne_zero.1 hn)
    unfold linF
    -- regroup by target, then by source; the dangling mass is spread evenly over the `n` targets
    rw [sum_map_add, sum_by_key _ (fun e => e.2) n es fun e he => ((validU_iff.1 hv) e he).2,
      sum_over_sources n es hv h, sum_map_const, List.length_range, mul_div_cancel₀ _ hne, add_comm]
    exact sum_filter_add_ite _ _ _

theorem stepF_contract (n : Nat) (es : List (Nat × Nat)) (d : Rat) (hd : 0 ≤ d) (hv : validU n es = true)
    (f g : Nat → Rat) :
    ((List.range n).map fun v => |stepF n es d f v - stepF n es d g v|).sum ≤
      d * ((List.range n).map fun u => |f u - g u|).sum := by
  have hdiff : ∀ v, |stepF n es d f v - stepF n es d g v| = d * |linF n es (fun u => f u - g u) v| := by
    intro v
    rw [stepF_eq, stepF_eq, linF_sub, add_sub_add_left_eq_sub, ← mul_sub, abs_mul, abs_of_nonneg hd]
  rw [List.map_congr_left fun v _ => hdiff v, sum_map_mul_left, ← sum_linF n es hv fun u => |f u - g u|]
  exact mul_le_mul_of_nonneg_left (sum_map_le_sum_map _ _ _ fun v _ => abs_linF_le n es _ v) hd

theorem l1dist_eq (n : Nat) (a b : List Rat) :
    l1dist n a b = ((List.range n).map fun v => |a.getD v 0 - b.getD v 0|).sum :=
  congrArg List.sum (List.map_congr_left fun _ _ => absR_eq _)

theorem getD_prStep {n : Nat} {es : List (Nat × Nat)} {d : Rat} {x : List Rat} {v : Nat} (hv : v < n) :
    (prStep n es d x).getD v 0 = stepF n es d (fun u => x.getD u 0) v :=
  getD_map_range (stepF n es d fun u => x.getD u 0) 0 hv

theorem l1dist_triangle (n : Nat) (a b c : List Rat) : l1dist n a c ≤ l1dist n a b + l1dist n b c := by
  rw [l1dist_eq, l1dist_eq, l1dist_eq, ← sum_map_add]
  exact sum_map_le_sum_map _ _ _ fun v _ => abs_sub_le _ _ _

theorem l1dist_comm (n : Nat) (a b : List Rat) : l1dist n a b = l1dist n b a := by
  rw [l1dist_eq, l1dist_eq]
  exact congrArg List.sum (List.map_congr_left fun v _ => abs_sub_comm _ _)

theorem entry_le_l1dist {n : Nat} (a b : List Rat) {v : Nat} (hv : v < n) :
    |a.getD v 0 - b.getD v 0| ≤ l1dist n a b := by
  rw [l1dist_eq]
  exact le_sum_map_of_mem (List.range n) (fun v => |a.getD v 0 - b.getD v 0|) (fun _ _ => abs_nonneg _)
    (List.mem_range.2 hv)

theorem l1dist_le_of_entries {n : Nat} (a b : List Rat) (tol : Rat)
    (h : ∀ v, v < n → |a.getD v 0 - b.getD v 0| ≤ tol) : l1dist n a b ≤ n * tol := by
  have := sum_map_le_sum_map (List.range n) (fun v => |a.getD v 0 - b.getD v 0|) (fun _ => tol)
    fun v hv => h v (List.mem_range.1 hv)
  rwa [sum_map_const, List.length_range, ← l1dist_eq] at this

theorem isPrFixed_iff {n : Nat} {es : List (Nat × Nat)} {d : Rat} {x : List Rat} :
    isPrFixed n es d x = true ↔ x.length = n ∧ prStep n es d x = x := by
  simp only [isPrFixed, Bool.and_eq_true, beq_iff_eq]

theorem list_eq_of_l1dist_zero {n : Nat} {x y : List Rat} (hx : x.length = n) (hy : y.length = n)
    (h : l1dist n x y ≤ 0) : x = y :=
  ext_getD 0 hx hy fun _ hi => sub_eq_zero.1 (abs_nonpos_iff.1 (le_trans (entry_le_l1dist x y hi) h))

end Solvor.Backend
