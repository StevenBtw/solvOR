import Solvor.Backend.Lemmas
import Solvor.Common.ListLemmas
/-! Backend: potentials, tree certificates, node-list paths, negative cycles. -/
namespace Solvor.Backend

theorem potOK_root {es : List WEdge} {s : Nat} {d : List (Option Int)} (h : potOK es s d = true) :
    dAt d s = some 0 := by
  unfold potOK at h
  simp only [Bool.and_eq_true, beq_iff_eq] at h
  exact h.1

theorem potOK_edge {es : List WEdge} {s : Nat} {d : List (Option Int)} (h : potOK es s d = true)
    {u v : Nat} {w a : Int} (he : (u, v, w) ∈ es) (ha : dAt d u = some a) :
    ∃ b, dAt d v = some b ∧ b ≤ a + w := by
  unfold potOK at h
  simp only [Bool.and_eq_true, List.all_eq_true] at h
  have := h.2 _ he
  simp only [ha] at this
  cases hb : dAt d v with
  | none => simp [hb] at this
  | some b =>
    simp only [hb, decide_eq_true_eq] at this
    exact ⟨b, rfl, this⟩

theorem pot_walk {es : List WEdge} {s : Nat} {d : List (Option Int)} (h : potOK es s d = true)
    {u v : Nat} {y a : Int} (w : Walk es u v y) (ha : dAt d u = some a) :
    ∃ b, dAt d v = some b ∧ b ≤ a + y := by
  induction w with
  | nil => exact ⟨a, ha, by omega⟩
  | snoc _ he ih =>
    obtain ⟨b, hb, hle⟩ := ih
    obtain ⟨c, hc, hle'⟩ := potOK_edge h he hb
    exact ⟨c, hc, by omega⟩

theorem pot_lower {es : List WEdge} {s : Nat} {d : List (Option Int)} (h : potOK es s d = true)
    {v : Nat} {y : Int} (w : Walk es s v y) : ∃ b, dAt d v = some b ∧ b ≤ y := by
  obtain ⟨b, hb, hle⟩ := pot_walk h w (potOK_root h)
  exact ⟨b, hb, by omega⟩

theorem potOK_isDist {es : List WEdge} {s : Nat} {d : List (Option Int)} (h : potOK es s d = true) {v : Nat}
    (hw : ∀ x, dAt d v = some x → Walk es s v x) : IsDist es s v (dAt d v) := by
  cases hd : dAt d v with
  | none =>
    rintro ⟨y, hy⟩
    obtain ⟨b, hb, _⟩ := pot_lower h hy
    rw [hd] at hb
    cases hb
  | some x =>
    refine ⟨hw x hd, fun y hy => ?_⟩
    obtain ⟨b, hb, hle⟩ := pot_lower h hy
    rw [hd] at hb
    cases hb
    exact hle

theorem potOK_no_negCycle {es : List WEdge} {s : Nat} {d : List (Option Int)} (h : potOK es s d = true) :
    ¬ NegCycleFrom es s := by
  rintro ⟨c, x, ⟨y, hy⟩, hcyc, hneg⟩
  obtain ⟨a, ha, _⟩ := pot_lower h hy
  obtain ⟨b, hb, hle⟩ := pot_walk h hcyc ha
  rw [ha] at hb
  cases hb
  omega

theorem treeOK_parent {n : Nat} {es : List WEdge} {s : Nat} {d : List (Option Int)} {lvl : List Nat}
    (ht : treeOK n es s d lvl = true) {v : Nat} {x : Int} (hv : v < n) (hx : dAt d v = some x) :
    v = s ∨ ∃ e ∈ es, e.2.1 = v ∧ lvl.getD e.1 0 < lvl.getD v 0 ∧ dAt d e.1 = some (x - e.2.2) := by
  have := List.all_eq_true.1 ht v (List.mem_range.2 hv)
  simpa only [hx, Bool.or_eq_true, beq_iff_eq, List.any_eq_true, Bool.and_eq_true, decide_eq_true_eq,
    and_assoc] using this

/-- `lvl` is a rank: a finite non-root label comes over a tight edge from a node of smaller rank; induction on the rank -/
theorem tree_walk {n : Nat} {es : List WEdge} {s : Nat} {d : List (Option Int)} {lvl : List Nat}
    (hval : validW n es = true) (hroot : dAt d s = some 0) (ht : treeOK n es s d lvl = true)
    {v : Nat} (hv : v < n) {x : Int} (hx : dAt d v = some x) : Walk es s v x := by
  induction hk : lvl.getD v 0 using Nat.strongRecOn generalizing v x with
  | _ k ih =>
    rcases treeOK_parent ht hv hx with rfl | ⟨e, he, hev, hlt, hd⟩
    · rw [hroot] at hx
      cases hx
      exact Walk.nil _
    · have hw := ih _ (hk ▸ hlt) ((validW_iff.1 hval) e he).1 hd rfl
      have := Walk.snoc hw (show (e.1, v, e.2.2) ∈ es from hev ▸ he)
      rwa [Int.sub_add_cancel] at this

theorem checkDist_iff {n : Nat} {es : List WEdge} {s : Nat} {d : List (Option Int)} {lvl : List Nat} :
    checkDist n es s d lvl = true ↔
      d.length = n ∧ validW n es = true ∧ s < n ∧ potOK es s d = true ∧ treeOK n es s d lvl = true := by
  simp only [checkDist, Bool.and_eq_true, beq_iff_eq, decide_eq_true_eq, and_assoc]

theorem checkFw_iff {n : Nat} {es : List WEdge} {M : List (List (Option Int))} {lvls : List (List Nat)} :
    checkFw n es M lvls = true ↔
      M.length = n ∧ ∀ i, i < n → checkDist n es i (M.getD i []) (lvls.getD i []) = true := by
  simp only [checkFw, Bool.and_eq_true, beq_iff_eq, List.all_eq_true, List.mem_range]

theorem minEdgeW_mem {es : List WEdge} {u v : Nat} {w : Int} (h : minEdgeW es u v = some w) :
    (u, v, w) ∈ es := by
  -- every value the fold holds is the weight of an edge `u → v` of the list
  refine foldl_inv (fun a : Option Int => ∀ w, a = some w → (u, v, w) ∈ es)
    (fun w (h : (none : Option Int) = some w) => nomatch h) (fun a e he ha w hw => ?_) w h
  split at hw
  · rename_i hc
    simp only [Bool.and_eq_true, beq_iff_eq] at hc
    have hmem : ∀ {x}, x = w → e.2.2 = x → (u, v, w) ∈ es := fun hx hex => by
      rw [← hx, ← hex, ← hc.1, ← hc.2]; exact he
    cases a with
    | none => exact hmem (Option.some.inj hw) rfl
    | some a' =>
      simp only [Option.some.injEq] at hw
      split at hw
      · exact hmem hw rfl
      · exact ha w (by rw [hw])
  · exact ha w hw

theorem walkMinW_walk {es : List WEdge} : ∀ (p : List Nat) (u : Nat) (x : Int),
    walkMinW es u p = some x → Walk es u (lastOf u p) x := by
  intro p
  induction p with
  | nil =>
    intro u x h
    simp only [walkMinW, Option.some.injEq] at h
    rw [← h]
    exact Walk.nil _
  | cons v rest ih =>
    intro u x h
    simp only [walkMinW] at h
    cases hw : minEdgeW es u v with
    | none => simp [hw] at h
    | some w =>
      cases hx : walkMinW es v rest with
      | none => simp [hw, hx] at h
      | some y =>
        simp only [hw, hx, Option.some.injEq] at h
        rw [← h]
        exact Walk.cons (minEdgeW_mem hw) (ih v y hx)

theorem pathOK_walk {es : List WEdge} {s t : Nat} {p : List Nat} {x : Int} (h : pathOK es s t p x = true) :
    Walk es s t x := by
  unfold pathOK at h
  cases p with
  | nil => simp at h
  | cons u rest =>
    simp only [Bool.and_eq_true, beq_iff_eq] at h
    obtain ⟨⟨hu, hl⟩, hw⟩ := h
    have := walkMinW_walk rest u x hw
    rw [hl, hu] at this
    exact this

end Solvor.Backend
