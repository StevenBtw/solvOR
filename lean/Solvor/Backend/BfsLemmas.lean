import Solvor.Backend.Lemmas
import Solvor.Common.ListLemmas
/-! Backend: the mirror of the Rust BFS kernel enumerates exactly the reachable nodes, once each. -/
namespace Solvor.Backend

theorem mem_adjOf {es : List WEdge} {u v : Nat} : v ∈ adjOf es u ↔ ∃ w, (u, v, w) ∈ es := by
  unfold adjOf
  simp only [List.mem_map, List.mem_filter, beq_iff_eq]
  constructor
  · rintro ⟨e, ⟨he, h1⟩, rfl⟩
    refine ⟨e.2.2, ?_⟩
    rw [← h1]
    exact he
  · rintro ⟨w, hw⟩
    exact ⟨(u, v, w), ⟨hw, rfl⟩, rfl⟩

/-- the inner fold of `rustBfsOrder` (Model.lean) under a name: the newly discovered neighbours of one BFS step -/
def newOf (visited adj : List Nat) (acc : List Nat) : List Nat :=
  adj.foldl (fun (acc : List Nat) v => if visited.contains v || acc.contains v then acc else acc ++ [v]) acc

theorem mem_newOf (visited : List Nat) {x : Nat} : ∀ (adj acc : List Nat),
    x ∈ newOf visited adj acc ↔ x ∈ acc ∨ (x ∈ adj ∧ x ∉ visited) := by
  intro adj
  induction adj with
  | nil => intro acc; simp [newOf]
  | cons a adj ih =>
    intro acc
    show x ∈ newOf visited adj (if visited.contains a || acc.contains a then acc else acc ++ [a]) ↔ _
    rw [ih, List.mem_cons]
    by_cases hc : (visited.contains a || acc.contains a) = true
    · rw [if_pos hc]
      have ha : a ∈ visited ∨ a ∈ acc := by simpa using hc
      constructor
      · rintro (h | ⟨h, hv⟩)
        · exact Or.inl h
        · exact Or.inr ⟨Or.inr h, hv⟩
      · rintro (h | ⟨rfl | h, hv⟩)
        · exact Or.inl h
        · exact Or.inl (ha.resolve_left hv)
        · exact Or.inr ⟨h, hv⟩
    · rw [if_neg hc, List.mem_append, List.mem_singleton]
      have ha : a ∉ visited := fun h => hc (by simp [h])
      constructor
      · rintro ((h | rfl) | ⟨h, hv⟩)
        · exact Or.inl h
        · exact Or.inr ⟨Or.inl rfl, ha⟩
        · exact Or.inr ⟨Or.inr h, hv⟩
      · rintro (h | ⟨h | h, hv⟩)
        · exact Or.inl (Or.inl h)
        · exact Or.inl (Or.inr h)
        · exact Or.inr ⟨h, hv⟩

theorem nodup_newOf (visited adj acc : List Nat) (h : acc.Nodup) : (newOf visited adj acc).Nodup :=
  foldl_inv List.Nodup h fun acc a _ hnd => by
    by_cases hc : (visited.contains a || acc.contains a) = true
    · rw [if_pos hc]; exact hnd
    · rw [if_neg hc]
      exact nodup_concat hnd fun h => hc (by simp [h])

def Enumerates (es : List WEdge) (s : Nat) (l : List Nat) : Prop := l.Nodup ∧ ∀ v, v ∈ l ↔ Reach es s v

theorem enumerates_reverse {es : List WEdge} {s : Nat} {out : List Nat} (hnd : out.Nodup)
    (h : ∀ v, v ∈ out ↔ Reach es s v) : Enumerates es s out.reverse :=
  ⟨List.pairwise_reverse.2 (hnd.imp Ne.symm), fun v => List.mem_reverse.trans (h v)⟩

/-- loop invariant of `rustBfsOrder` (`out`: the finished nodes, newest first).  Each step finishes one node, so the fuel only has
to exceed the number of nodes `< n` not yet in `out`. -/
structure BfsInv (n : Nat) (es : List WEdge) (s : Nat) (fuel : Nat) (queue visited out : List Nat) : Prop where
  nodup : (out ++ queue).Nodup
  vis : ∀ v, v ∈ visited ↔ v ∈ out ∨ v ∈ queue
  reach : ∀ v ∈ visited, Reach es s v
  closed : ∀ u ∈ out, ∀ e ∈ es, e.1 = u → e.2.1 ∈ visited
  root : s ∈ visited
  fuel : queue ≠ [] → missing n out < fuel

theorem BfsInv.done {n : Nat} {es : List WEdge} {s fuel : Nat} {visited out : List Nat}
    (inv : BfsInv n es s fuel [] visited out) : Enumerates es s out.reverse := by
  have hvo : ∀ v, v ∈ visited ↔ v ∈ out := fun v => by simpa using inv.vis v
  exact enumerates_reverse (by simpa using inv.nodup)
    (mem_iff_reach_of_closed ((hvo s).1 inv.root) (fun v hv => inv.reach v ((hvo v).2 hv))
      fun e he h1 => (hvo _).1 (inv.closed e.1 h1 e he rfl))

theorem BfsInv.step {n : Nat} {es : List WEdge} (hval : validW n es = true) {s : Nat} (hs : s < n)
    {k u : Nat} {q visited out : List Nat} (inv : BfsInv n es s (k + 1) (u :: q) visited out) :
    BfsInv n es s k (q ++ newOf visited (adjOf es u) []) (newOf visited (adjOf es u) [] ++ visited)
      (u :: out) := by
  have hnew : ∀ x, x ∈ newOf visited (adjOf es u) [] ↔ x ∈ adjOf es u ∧ x ∉ visited := fun x => by
    rw [mem_newOf]
    exact or_iff_right (List.not_mem_nil)
  have hnd := nodup_newOf visited (adjOf es u) [] List.nodup_nil
  generalize newOf visited (adjOf es u) [] = new at hnew hnd ⊢
  have huvis : u ∈ visited := (inv.vis u).2 (Or.inr List.mem_cons_self)
  have hu_out : u ∉ out := fun h => (List.nodup_append.1 inv.nodup).2.2 u h u List.mem_cons_self rfl
  refine { nodup := ?nodup, vis := ?vis, reach := ?reach, closed := ?closed, root := List.mem_append_right _ inv.root,
           fuel := ?fuel }
  case nodup =>
    -- the same elements as `(out ++ u :: q) ++ new`, and `new` avoids what was visited
    have hperm : (out ++ u :: q ++ new).Perm (u :: out ++ (q ++ new)) := by
      rw [List.append_assoc, List.cons_append]
      exact List.perm_middle
    refine hperm.nodup_iff.1 (List.nodup_append.2 ⟨inv.nodup, hnd, fun a ha b hb hab => ?_⟩)
    exact ((hnew b).1 hb).2 (hab ▸ (inv.vis a).2 (List.mem_append.1 ha))
  case vis =>
    intro v
    simp only [List.mem_append, List.mem_cons, inv.vis v, or_assoc, or_comm, or_left_comm]
  case reach =>
    intro v hv
    rcases List.mem_append.1 hv with hv | hv
    · obtain ⟨w, hw⟩ := mem_adjOf.1 ((hnew v).1 hv).1
      exact (inv.reach u huvis).step hw
    · exact inv.reach v hv
  case closed =>
    intro u' hu' e he h1
    rcases List.mem_cons.1 hu' with rfl | hu'
    · by_cases hvis : e.2.1 ∈ visited
      · exact List.mem_append_right _ hvis
      · exact List.mem_append_left _ ((hnew _).2 ⟨h1 ▸ mem_adjOf.2 ⟨e.2.2, he⟩, hvis⟩)
    · exact List.mem_append_right _ (inv.closed u' hu' e he h1)
  case fuel =>
    intro _
    have hun : u < n := by
      obtain ⟨x, hx⟩ := inv.reach u huvis
      exact hx.lt_of_valid hval hs
    have h1 := inv.fuel (List.cons_ne_nil _ _)
    have h2 := missing_cons_lt (n := n) (R := out) hun (by simpa using hu_out)
    omega

theorem rustBfsOrder_spec {n : Nat} {es : List WEdge} (hval : validW n es = true) {s : Nat} (hs : s < n) :
    ∀ (fuel : Nat) (queue visited out : List Nat), BfsInv n es s fuel queue visited out →
      Enumerates es s (rustBfsOrder es fuel queue visited out) := by
  intro fuel
  induction fuel with
  | zero =>
    intro queue visited out inv
    cases queue with
    | nil => exact inv.done
    | cons u q => exact absurd (inv.fuel (List.cons_ne_nil _ _)) (Nat.not_lt_zero _)
  | succ k ih =>
    intro queue visited out inv
    cases queue with
    | nil => exact inv.done
    -- one pass of `rustBfsOrder` is the step of `BfsInv.step`: its inner fold is `newOf visited (adjOf es u) []` by `rfl`
    | cons u q => exact ih _ _ _ (inv.step hval hs)

theorem rustBfs_spec {n : Nat} {es : List WEdge} (hval : validW n es = true) {s : Nat} (hs : s < n) :
    Enumerates es s (rustBfs n es s) := by
  unfold rustBfs
  apply rustBfsOrder_spec hval hs
  constructor
  case nodup => simp
  case vis => intro v; simp
  case reach =>
    intro v hv
    rw [List.mem_singleton.1 hv]
    exact Reach.refl es s
  case closed => intro u hu; cases hu
  case root => simp
  case fuel =>
    intro _
    have := missing_le n []
    omega

end Solvor.Backend
