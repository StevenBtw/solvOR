import Solvor.Backend.StructLemmas
import Solvor.Backend.PrLemmas
import Solvor.Backend.DfsLemmas
import Solvor.Gen.BackendConsts
/-!
Backend (C12): the property theorems, with test vectors for every checker.  `…_sound` (T-spec): a `check…` function of `Model.lean`
accepts an output only if it has the spec-level meaning.  `obs_unique_*`: any two accepted outputs for one input have the same
observable, so accepted results of the two back-ends cannot differ in meaning.  `adapter_*`: the preprocessing / result conversion
of `solvor/rust/adapters.py` hands the kernel the same problem the python code solves (with a `decide` witness of the negation for
the adapter as it was on the unchanged tree).
-/
namespace Solvor.Backend
open Solvor.Gen (Status)

/-- the audited name of `reachB_iff` (Lemmas.lean) -/
theorem reachB_decides {n : Nat} {es : List WEdge} (hv : validW n es = true) (s v : Nat) :
    reachB n es s v = true ↔ Reach es s v := reachB_iff hv

example : validW 4 [(0, 1, 1), (1, 2, 1), (3, 0, 1)] = true ∧
    reachB 4 [(0, 1, 1), (1, 2, 1), (3, 0, 1)] 0 2 = true ∧ reachB 4 [(0, 1, 1), (1, 2, 1), (3, 0, 1)] 0 3 = false := by
  decide

/-- T-spec of the finiteness-pattern checker, used for inputs whose distances are inexact doubles -/
theorem checkSupport_sound {n : Nat} {es : List WEdge} {M : List (List Nat)} (h : checkSupport n es M = true) :
    ∀ i j, i < n → j < n → ((M.getD i []).getD j 0 = 1 ↔ Reach es i j) := by
  unfold checkSupport at h
  simp only [Bool.and_eq_true, List.all_eq_true, List.mem_range, beq_iff_eq] at h
  obtain ⟨⟨hv, _⟩, hall⟩ := h
  intro i j hi hj
  rw [← reachB_decides hv, ← (hall i hi).2 j hj, beq_iff_eq]

example : checkSupport 3 [(0, 1, 1), (1, 0, 1), (2, 0, 1)] [[1, 1, 0], [1, 1, 0], [1, 1, 1]] = true := by decide

/-- T-spec for `dijkstra_edges` / `bellman_ford` without a target -/
theorem checkDist_sound {n : Nat} {es : List WEdge} {s : Nat} {d : List (Option Int)} {lvl : List Nat}
    (h : checkDist n es s d lvl = true) : d.length = n ∧ ∀ v, v < n → IsDist es s v (dAt d v) := by
  obtain ⟨hlen, hval, hs, hpot, htree⟩ := checkDist_iff.1 h
  exact ⟨hlen, fun v hv => potOK_isDist hpot fun _ => tree_walk hval (potOK_root hpot) htree hv⟩

example : checkDist 3 [(0, 1, 5), (1, 2, -2), (0, 2, 4), (0, 1, 7), (2, 2, 0)] 0 [some 0, some 5, some 3] [0, 1, 2] = true := by
  decide

theorem obs_unique_dist {n : Nat} {es : List WEdge} {s : Nat} {d1 d2 : List (Option Int)} {l1 l2 : List Nat}
    (h1 : checkDist n es s d1 l1 = true) (h2 : checkDist n es s d2 l2 = true) : d1 = d2 := by
  obtain ⟨hl1, hd1⟩ := checkDist_sound h1
  obtain ⟨hl2, hd2⟩ := checkDist_sound h2
  exact ext_getD none hl1 hl2 fun v hv => isDist_unique (hd1 v hv) (hd2 v hv)

example : checkDist 3 [(0, 1, 5), (1, 2, -2), (0, 2, 3)] 0 [some 0, some 5, some 3] [0, 1, 2] = true ∧
    checkDist 3 [(0, 1, 5), (1, 2, -2), (0, 2, 3)] 0 [some 0, some 5, some 3] [0, 7, 9] = true := by decide

/-- T-spec for status UNBOUNDED of `bellman_ford` -/
theorem checkNegCycle_spec {n : Nat} {es : List WEdge} {s : Nat} {cyc : List Nat}
    (h : checkNegCycle n es s cyc = true) : NegCycleFrom es s := by
  unfold checkNegCycle at h
  cases cyc with
  | nil => simp at h
  | cons c rest =>
    simp only [Bool.and_eq_true, decide_eq_true_eq, beq_iff_eq] at h
    obtain ⟨⟨hval, _⟩, ⟨⟨hreach, _⟩, hlast⟩, hneg⟩ := h
    cases hw : walkMinW es c rest with
    | none => simp [hw] at hneg
    | some x =>
      simp only [hw, decide_eq_true_eq] at hneg
      have := walkMinW_walk rest c x hw
      rw [hlast] at this
      exact ⟨c, x, (reachB_iff hval).1 hreach, this, hneg⟩

example : checkNegCycle 3 [(0, 1, 1), (1, 2, -3), (2, 1, 1)] 0 [1, 2, 1] = true := by decide

/-- the status is determined by the input: UNBOUNDED and a distance vector are never both accepted -/
theorem obs_unique_sssp_status {n : Nat} {es : List WEdge} {s : Nat} {d : List (Option Int)} {lvl cyc : List Nat}
    (h1 : checkDist n es s d lvl = true) (h2 : checkNegCycle n es s cyc = true) : False :=
  let ⟨_, _, _, hpot, _⟩ := checkDist_iff.1 h1
  potOK_no_negCycle hpot (checkNegCycle_spec h2)

theorem checkFw_row {n : Nat} {es : List WEdge} {M : List (List (Option Int))} {lvls : List (List Nat)}
    (h : checkFw n es M lvls = true) {i : Nat} (hi : i < n) :
    checkDist n es i (M.getD i []) (lvls.getD i []) = true :=
  (checkFw_iff.1 h).2 i hi

/-- T-spec for `floyd_warshall` -/
theorem checkFw_sound {n : Nat} {es : List WEdge} {M : List (List (Option Int))} {lvls : List (List Nat)}
    (h : checkFw n es M lvls = true) :
    M.length = n ∧ ∀ i j, i < n → j < n → IsDist es i j (dAt (M.getD i []) j) :=
  ⟨(checkFw_iff.1 h).1, fun _ j hi hj => (checkDist_sound (checkFw_row h hi)).2 j hj⟩

example : checkFw 2 [(0, 1, 5), (0, 1, 2), (1, 0, -1)] [[some 0, some 2], [some (-1), some 0]] [[0, 1], [1, 0]] = true := by
  decide

theorem obs_unique_fw {n : Nat} {es : List WEdge} {M1 M2 : List (List (Option Int))} {L1 L2 : List (List Nat)}
    (h1 : checkFw n es M1 L1 = true) (h2 : checkFw n es M2 L2 = true) : M1 = M2 :=
  ext_getD [] (checkFw_sound h1).1 (checkFw_sound h2).1 fun _ hi =>
    obs_unique_dist (checkFw_row h1 hi) (checkFw_row h2 hi)

example : checkFw 2 [(0, 1, 5), (1, 0, 1)] [[some 0, some 5], [some 1, some 0]] [[0, 1], [1, 0]] = true ∧
    checkFw 2 [(0, 1, 5), (1, 0, 1)] [[some 0, some 5], [some 1, some 0]] [[3, 9], [4, 2]] = true := by decide

/-- likewise for `floyd_warshall`: UNBOUNDED and a matrix are never both accepted (each hypothesis is satisfiable on its own: the
examples above and below) -/
theorem obs_unique_fw_status {n : Nat} {es : List WEdge} {M : List (List (Option Int))} {L : List (List Nat)}
    {cyc : List Nat} (h1 : checkFw n es M L = true) (h2 : checkFwNeg n es cyc = true) : False := by
  unfold checkFwNeg at h2
  cases cyc with
  | nil => cases h2
  | cons c rest =>
    have hc : c < n := by
      unfold checkNegCycle at h2
      simp only [Bool.and_eq_true, decide_eq_true_eq] at h2
      obtain ⟨⟨_, hc⟩, _⟩ := h2
      exact hc
    exact obs_unique_sssp_status (checkFw_row h1 hc) h2

example : checkFwNeg 2 [(0, 1, 1), (1, 0, -2)] [1, 0, 1] = true := by decide

/-- T-spec for a single-pair query -/
theorem checkPair_sound {n : Nat} {es : List WEdge} {s t : Nat} {o : PairOut} {pot : List (Option Int)}
    {cyc : List Nat} (h : checkPair n es s t o pot cyc = true) :
    match o with
    | .found _ x => Walk es s t x ∧ IsDist es s t (some x) ∧ ¬ NegCycleFrom es s
    | .infeasible => IsDist es s t none ∧ ¬ NegCycleFrom es s
    | .unbounded => NegCycleFrom es s := by
  unfold checkPair at h
  simp only [Bool.and_eq_true, decide_eq_true_eq] at h
  obtain ⟨⟨⟨hval, hs⟩, ht⟩, ho⟩ := h
  cases o with
  | found p x =>
    simp only [Bool.and_eq_true, beq_iff_eq] at ho
    obtain ⟨⟨hpot, hdt⟩, hpath⟩ := ho
    have hw := pathOK_walk hpath
    have hd := potOK_isDist hpot (v := t) fun y hy => Option.some.inj (hdt.symm.trans hy) ▸ hw
    rw [hdt] at hd
    exact ⟨hw, hd, potOK_no_negCycle hpot⟩
  | infeasible =>
    simp only [Bool.and_eq_true, beq_iff_eq] at ho
    obtain ⟨hpot, hdt⟩ := ho
    have hd := potOK_isDist hpot (v := t) fun y hy => nomatch hdt.symm.trans hy
    rw [hdt] at hd
    exact ⟨hd, potOK_no_negCycle hpot⟩
  | unbounded =>
    have : checkNegCycle n es s cyc = true := by
      unfold checkNegCycle
      simp only [Bool.and_eq_true, decide_eq_true_eq]
      exact ⟨⟨hval, hs⟩, ho⟩
    exact checkNegCycle_spec this

example : checkPair 3 [(0, 1, 5), (1, 2, -2), (0, 2, 4)] 0 2 (.found [0, 1, 2] 3) [some 0, some 5, some 3] [] = true ∧
    checkPair 3 [(0, 1, 5)] 0 2 .infeasible [some 0, some 5, none] [] = true ∧
    checkPair 3 [(0, 1, 1), (1, 2, -3), (2, 1, 1)] 0 2 .unbounded [] [1, 2, 1] = true := by decide

/-- what an accepted outcome says about its observable: found and infeasible are the two forms of
"the distance is `d` and no negative cycle is reachable" -/
theorem checkPair_obs {n : Nat} {es : List WEdge} {s t : Nat} {o : PairOut} {pot : List (Option Int)}
    {cyc : List Nat} (h : checkPair n es s t o pot cyc = true) :
    match o.obs with
    | some d => IsDist es s t d ∧ ¬ NegCycleFrom es s
    | none => NegCycleFrom es s := by
  have := checkPair_sound h
  cases o with
  | found p x => exact this.2
  | infeasible => exact this
  | unbounded => exact this

/-- the returned paths may differ; each is a walk of exactly that weight (`checkPair_sound`) -/
theorem obs_unique_pair {n : Nat} {es : List WEdge} {s t : Nat} {o1 o2 : PairOut}
    {p1 p2 : List (Option Int)} {c1 c2 : List Nat}
    (h1 : checkPair n es s t o1 p1 c1 = true) (h2 : checkPair n es s t o2 p2 c2 = true) : o1.obs = o2.obs := by
  have s1 := checkPair_obs h1
  have s2 := checkPair_obs h2
  revert s1 s2
  generalize o1.obs = a
  generalize o2.obs = b
  intro s1 s2
  cases a with
  | none =>
    cases b with
    | none => rfl
    | some d => exact absurd s1 s2.2
  | some d =>
    cases b with
    | none => exact absurd s2 s1.2
    | some d' => rw [isDist_unique s1.1 s2.1]

example : checkPair 3 [(0, 1, 2), (1, 2, 2), (0, 2, 4)] 0 2 (.found [0, 1, 2] 4) [some 0, some 2, some 4] [] = true ∧
    checkPair 3 [(0, 1, 2), (1, 2, 2), (0, 2, 4)] 0 2 (.found [0, 2] 4) [some 0, some 2, some 4] [] = true := by decide

/-- T-spec for `bfs_edges` / `dfs_edges` without a target -/
theorem checkReachList_sound {n : Nat} {es : List WEdge} {s : Nat} {xs : List Nat}
    (h : checkReachList n es s xs = true) :
    xs.Pairwise (· < ·) ∧ ∀ v, v ∈ xs ↔ (v < n ∧ Reach es s v) := by
  obtain ⟨hv, _, rfl⟩ := checkReachList_iff.1 h
  exact ⟨pairwise_reachSorted n es s, fun v => mem_reachSorted hv⟩

theorem obs_unique_reach {n : Nat} {es : List WEdge} {s : Nat} {xs ys : List Nat}
    (h1 : checkReachList n es s xs = true) (h2 : checkReachList n es s ys = true) : xs = ys :=
  (checkReachList_iff.1 h1).2.2.trans (checkReachList_iff.1 h2).2.2.symm

example : checkReachList 4 [(0, 2, 1), (0, 1, 1), (3, 0, 1)] 0 [0, 1, 2] = true ∧
    checkReachList 4 [(0, 2, 1), (0, 1, 1), (3, 0, 1)] 0 [0, 2, 1] = false := by decide

/-- T-spec for `dfs_edges` with a target -/
theorem checkAnyPath_sound {n : Nat} {es : List WEdge} {s t : Nat} {o : Option (List Nat)}
    (h : checkAnyPath n es s t o = true) :
    match o with
    | some p => p.head? = some s ∧ Reach es s t
    | none => ¬ Reach es s t := by
  unfold checkAnyPath at h
  simp only [Bool.and_eq_true, decide_eq_true_eq] at h
  obtain ⟨⟨⟨hval, _⟩, _⟩, ho⟩ := h
  cases o with
  | none =>
    simp only [Bool.not_eq_true'] at ho
    intro hr
    rw [(reachB_iff hval).2 hr] at ho
    cases ho
  | some p =>
    cases p with
    | nil => simp at ho
    | cons u rest =>
      simp only [Bool.and_eq_true, beq_iff_eq] at ho
      obtain ⟨⟨hu, hl⟩, hw⟩ := ho
      obtain ⟨x, hx⟩ := Option.isSome_iff_exists.1 hw
      exact ⟨congrArg some hu, x, hu ▸ hl ▸ walkMinW_walk rest u x hx⟩

/-- only found / not found is determined by the input: the paths may differ, each is valid -/
theorem obs_unique_anypath {n : Nat} {es : List WEdge} {s t : Nat} {o1 o2 : Option (List Nat)}
    (h1 : checkAnyPath n es s t o1 = true) (h2 : checkAnyPath n es s t o2 = true) :
    o1.isSome = o2.isSome :=
  isSome_eq_of_exclusive (acc := fun o => checkAnyPath n es s t o = true)
    (fun _ ha hb => checkAnyPath_sound hb (checkAnyPath_sound ha).2) h1 h2

example : checkAnyPath 4 [(0, 1, 1), (1, 2, 1), (0, 2, 1), (2, 3, 1)] 0 3 (some [0, 1, 2, 3]) = true ∧
    checkAnyPath 4 [(0, 1, 1), (1, 2, 1), (0, 2, 1), (2, 3, 1)] 0 3 (some [0, 2, 3]) = true ∧
    checkAnyPath 4 [(0, 1, 1), (1, 2, 1), (0, 2, 1), (2, 3, 1)] 3 0 none = true := by decide

/-- T-spec for `kruskal` -/
theorem checkMst_sound {n : Nat} {es : List WEdge} {allow : Bool} {st : Status} {F : Option (List WEdge)}
    {total : Option Int} (h : checkMst n es allow st F total = true) :
    match st, F, total with
    | .OPTIMAL, some F, some x => (∀ v, v < n → Reach (symW es) 0 v) ∧ IsMinSpanningForest es F ∧ x = weightOf F
    | .FEASIBLE, some F, some x =>
        ¬ (∀ v, v < n → Reach (symW es) 0 v) ∧ allow = true ∧ IsMinSpanningForest es F ∧ x = weightOf F
    | .INFEASIBLE, none, none => ¬ (∀ v, v < n → Reach (symW es) 0 v) ∧ allow = false
    | _, _, _ => False := by
  unfold checkMst at h
  simp only [Bool.and_eq_true, decide_eq_true_eq] at h
  obtain ⟨⟨hval, _⟩, ho⟩ := h
  have hcon := connectedB_iff (n := n) hval
  have hno : connectedB n es = false → ¬ ∀ v, v < n → Reach (symW es) 0 v := fun hc h => by
    rw [hcon.2 h] at hc
    cases hc
  split at ho
  · simp only [Bool.and_eq_true, beq_iff_eq] at ho
    obtain ⟨⟨hc, hF⟩, hx⟩ := ho
    exact ⟨hcon.1 hc, (isMinForest_iff hval).1 hF, hx⟩
  · simp only [Bool.and_eq_true, beq_iff_eq, Bool.not_eq_true'] at ho
    obtain ⟨⟨⟨hc, ha⟩, hF⟩, hx⟩ := ho
    exact ⟨hno hc, ha, (isMinForest_iff hval).1 hF, hx⟩
  · simp only [Bool.and_eq_true, Bool.not_eq_true'] at ho
    exact ⟨hno ho.1, ho.2⟩
  · cases ho

example : checkMst 3 [(0, 1, 5), (1, 2, 2), (0, 2, 4), (0, 0, 1), (2, 1, 2)] false .OPTIMAL (some [(1, 2, 2), (0, 2, 4)]) (some 6) = true ∧
    checkMst 3 [(0, 1, 5)] true .FEASIBLE (some [(0, 1, 5)]) (some 5) = true ∧
    checkMst 3 [(0, 1, 5)] false .INFEASIBLE none none = true := by decide

theorem checkMst_obs {n : Nat} {es : List WEdge} {allow : Bool} {st : Status} {F : Option (List WEdge)}
    {total : Option Int} (h : checkMst n es allow st F total = true) :
    st = (if connectedB n es then .OPTIMAL else if allow then .FEASIBLE else .INFEASIBLE) ∧
    total.isSome = (connectedB n es || allow) ∧
    ∀ x, total = some x → ∃ G, IsMinSpanningForest es G ∧ x = weightOf G := by
  have hval : validW n es = true := by
    unfold checkMst at h
    simp only [Bool.and_eq_true] at h
    exact h.1.1
  have hcon := connectedB_iff (n := n) hval
  have hno : (¬ ∀ v, v < n → Reach (symW es) 0 v) → connectedB n es = false := fun hc =>
    Bool.eq_false_iff.2 fun hb => hc (hcon.1 hb)
  have hs := checkMst_sound h
  split at hs
  · obtain ⟨hc, hm, rfl⟩ := hs
    rw [hcon.2 hc]
    exact ⟨rfl, rfl, fun x hx => ⟨_, hm, (Option.some.inj hx).symm⟩⟩
  · obtain ⟨hc, rfl, hm, rfl⟩ := hs
    rw [hno hc]
    exact ⟨rfl, rfl, fun x hx => ⟨_, hm, (Option.some.inj hx).symm⟩⟩
  · obtain ⟨hc, rfl⟩ := hs
    rw [hno hc]
    exact ⟨rfl, rfl, nofun⟩
  · exact hs.elim

/-- the edge sets may differ when weights tie; each is a minimum spanning forest -/
theorem obs_unique_mst {n : Nat} {es : List WEdge} {allow : Bool} {st1 st2 : Status}
    {F1 F2 : Option (List WEdge)} {t1 t2 : Option Int}
    (h1 : checkMst n es allow st1 F1 t1 = true) (h2 : checkMst n es allow st2 F2 t2 = true) :
    st1 = st2 ∧ t1 = t2 := by
  obtain ⟨hs1, hi1, hm1⟩ := checkMst_obs h1
  obtain ⟨hs2, hi2, hm2⟩ := checkMst_obs h2
  refine ⟨hs1.trans hs2.symm, ?_⟩
  cases t1 with
  | none =>
    cases t2 with
    | none => rfl
    | some y => rw [← hi1] at hi2; cases hi2
  | some x =>
    cases t2 with
    | none => rw [← hi2] at hi1; cases hi1
    | some y =>
      obtain ⟨A, hA, rfl⟩ := hm1 x rfl
      obtain ⟨B, hB, rfl⟩ := hm2 y rfl
      rw [Int.le_antisymm (hA.2 _ hB.1) (hB.2 _ hA.1)]

example : checkMst 3 [(0, 1, 2), (1, 2, 2), (0, 2, 2)] false .OPTIMAL (some [(0, 1, 2), (1, 2, 2)]) (some 4) = true ∧
    checkMst 3 [(0, 1, 2), (1, 2, 2), (0, 2, 2)] false .OPTIMAL (some [(1, 2, 2), (0, 2, 2)]) (some 4) = true := by decide

/-- T-spec for the (canonicalised) SCC partition -/
theorem checkScc_sound {n : Nat} {es : List WEdge} {cs : List (List Nat)} (h : checkScc n es cs = true) :
    (∀ C ∈ cs, ∃ v, v < n ∧ v ∈ C ∧ ∀ u, u ∈ C ↔ (u < n ∧ Mutual es v u)) ∧
    (∀ v, v < n → ∃ C ∈ cs, v ∈ C) := by
  obtain ⟨hv, rfl⟩ := checkScc_iff.1 h
  exact ⟨fun C hC => canonScc_class hv hC, fun v hvn => canonScc_cover hv hvn⟩

theorem obs_unique_scc {n : Nat} {es : List WEdge} {cs1 cs2 : List (List Nat)}
    (h1 : checkScc n es cs1 = true) (h2 : checkScc n es cs2 = true) : cs1 = cs2 :=
  (checkScc_iff.1 h1).2.trans (checkScc_iff.1 h2).2.symm

example : checkScc 4 [(0, 1, 1), (1, 0, 1), (1, 2, 1), (2, 3, 1), (3, 2, 1), (0, 0, 1)] [[0, 1], [2, 3]] = true ∧
    checkScc 4 [(0, 1, 1), (1, 0, 1), (1, 2, 1), (2, 3, 1), (3, 2, 1), (0, 0, 1)] [[0, 1], [2], [3]] = false := by decide

/-- T-spec for a topological order / INFEASIBLE ("no edge goes backwards" excludes self loops too) -/
theorem checkTopo_sound {n : Nat} {es : List WEdge} {o : Option (List Nat)} (h : checkTopo n es o = true) :
    match o with
    | some ord => ord.length = n ∧ (∀ v, v < n → v ∈ ord) ∧ ∀ e ∈ es, posOf ord e.1 < posOf ord e.2.1
    | none => ∃ e ∈ es, Reach es e.2.1 e.1 := by
  unfold checkTopo at h
  cases o with
  | some ord => exact (checkTopoOrder_iff.1 h).2
  | none =>
    simp only [Bool.and_eq_true] at h ⊢
    exact (hasCycle_iff h.1).1 h.2

/-- only the status is determined by the input: two accepted orders may differ (each is valid by `checkTopo_sound`) -/
theorem obs_unique_topo {n : Nat} {es : List WEdge} {o1 o2 : Option (List Nat)}
    (h1 : checkTopo n es o1 = true) (h2 : checkTopo n es o2 = true) : o1.isSome = o2.isSome := by
  refine isSome_eq_of_exclusive (acc := fun o => checkTopo n es o = true) (fun ord ha hb => ?_) h1 h2
  -- the edge on the closed walk goes forward in the order, the walk back cannot
  have sa := (checkTopo_sound ha).2.2
  obtain ⟨e, he, x, hx⟩ := checkTopo_sound hb
  exact Nat.lt_irrefl _ (Nat.lt_of_lt_of_le (sa e he) (topo_walk_le sa hx))

example : checkTopo 4 [(0, 1, 1), (1, 2, 1), (0, 2, 1), (0, 1, 1)] (some [3, 0, 1, 2]) = true ∧
    checkTopo 4 [(0, 1, 1), (1, 2, 1), (0, 2, 1), (0, 1, 1)] (some [0, 1, 3, 2]) = true ∧
    checkTopo 3 [(0, 1, 1), (1, 2, 1), (2, 0, 1)] none = true := by decide

theorem pagerank_contraction {n : Nat} {es : List (Nat × Nat)} {d : Rat} (hd : 0 ≤ d) (hv : validU n es = true)
    (x y : List Rat) : l1dist n (prStep n es d x) (prStep n es d y) ≤ d * l1dist n x y := by
  rw [l1dist_eq, l1dist_eq]
  refine le_trans (le_of_eq (congrArg List.sum (List.map_congr_left fun v hvr => ?_)))
    (stepF_contract n es d hd hv (fun u => x.getD u 0) (fun u => y.getD u 0))
  rw [getD_prStep (List.mem_range.1 hvr), getD_prStep (List.mem_range.1 hvr)]

example : (0 : Rat) ≤ 17 / 20 ∧ validU 3 [(0, 1), (1, 2), (2, 0), (0, 2), (0, 1)] = true := by decide +kernel

theorem obs_unique_pagerank {n : Nat} {es : List (Nat × Nat)} {d : Rat} (hd : 0 ≤ d) (hd1 : d < 1)
    (hv : validU n es = true) {x y : List Rat}
    (hx : isPrFixed n es d x = true) (hy : isPrFixed n es d y = true) : x = y := by
  obtain ⟨hlx, hfx⟩ := isPrFixed_iff.1 hx
  obtain ⟨hly, hfy⟩ := isPrFixed_iff.1 hy
  have h := pagerank_contraction hd hv x y
  rw [hfx, hfy] at h
  refine list_eq_of_l1dist_zero hlx hly (le_of_not_gt fun hpos => ?_)
  have := mul_lt_mul_of_pos_right hd1 hpos
  rw [one_mul] at this
  exact absurd h (not_le.2 this)

example : isPrFixed 2 [(0, 1), (1, 0)] (17 / 20) [1 / 2, 1 / 2] = true ∧ validU 2 [(0, 1), (1, 0)] = true := by
  decide +kernel

/-- a-posteriori error bound for one step -/
theorem pagerank_error_bound {n : Nat} {es : List (Nat × Nat)} {d : Rat} (hd : 0 ≤ d) (hv : validU n es = true)
    {xs : List Rat} (hxs : isPrFixed n es d xs = true) (x : List Rat) :
    (1 - d) * l1dist n (prStep n es d x) xs ≤ d * l1dist n (prStep n es d x) x := by
  obtain ⟨_, hfx⟩ := isPrFixed_iff.1 hxs
  have h1 := pagerank_contraction hd hv x xs
  rw [hfx] at h1
  -- ‖y - x*‖ ≤ d‖x - x*‖ ≤ d(‖y - x‖ + ‖y - x*‖)
  have h2 := l1dist_triangle n x (prStep n es d x) xs
  rw [l1dist_comm n x (prStep n es d x)] at h2
  have h3 := le_trans h1 (mul_le_mul_of_nonneg_left h2 hd)
  rw [mul_add] at h3
  rw [sub_mul, one_mul]
  exact sub_le_iff_le_add.2 h3

example : isPrFixed 2 [(0, 1), (1, 0)] (1 / 2) [1 / 2, 1 / 2] = true ∧
    prStep 2 [(0, 1), (1, 0)] (1 / 2) [1, 0] = [1 / 4, 3 / 4] := by decide +kernel

/-- the stopping rule of both back-ends (largest change `≤ tol`) bounds every score's distance to the exact PageRank value; with
`n·d ≤ 10` this is the bound `10·tol/(1-d)` the check uses -/
theorem pagerank_tol_bound {n : Nat} {es : List (Nat × Nat)} {d tol : Rat} (hd : 0 ≤ d) (hd1 : d < 1)
    (hv : validU n es = true) {xs : List Rat} (hxs : isPrFixed n es d xs = true) (x : List Rat)
    (hstop : ∀ v, v < n → |(prStep n es d x).getD v 0 - x.getD v 0| ≤ tol) {v : Nat} (hvn : v < n) :
    (1 - d) * |(prStep n es d x).getD v 0 - xs.getD v 0| ≤ d * (n * tol) :=
  le_trans
    (le_trans (mul_le_mul_of_nonneg_left (entry_le_l1dist (prStep n es d x) xs hvn) (sub_nonneg.2 hd1.le))
      (pagerank_error_bound hd hv hxs x))
    (mul_le_mul_of_nonneg_left (l1dist_le_of_entries (prStep n es d x) x tol hstop) hd)

example : ∀ v, v < 2 → absR ((prStep 2 [(0, 1), (1, 0)] (1 / 2) [1, 0]).getD v 0 - ([1, 0] : List Rat).getD v 0) ≤ 3 / 4 := by
  decide +kernel

/-- the repaired undirected expansion of `_floyd_warshall_rust` poses the same shortest-path
problem as `floyd_warshall(..., directed=False)` in python -/
theorem adapter_fw_same_problem (directed : Bool) (es : List WEdge) (s v : Nat) (o : Option Int) :
    IsDist (adapterFwEdges directed es) s v o ↔ IsDist (pythonFwEdges directed es) s v o := by
  apply isDist_congr
  intro e
  unfold adapterFwEdges pythonFwEdges
  cases directed with
  | true => simp
  | false =>
    simp only [Bool.false_eq_true, if_false, fwExpand, symW, List.mem_flatMap, List.mem_append, List.mem_map,
      List.mem_cons, List.not_mem_nil, or_false]
    constructor
    · rintro ⟨a, ha, rfl | rfl⟩
      · exact Or.inl ha
      · exact Or.inr ⟨a, ha, rfl⟩
    · rintro (h | ⟨a, ha, rfl⟩)
      · exact ⟨e, h, Or.inl rfl⟩
      · exact ⟨a, ha, Or.inr rfl⟩

example : adapterFwEdges false [(0, 1, 5), (0, 1, 2)] = [(0, 1, 5), (1, 0, 5), (0, 1, 2), (1, 0, 2)] := by decide

/-- the expansion as it is on the unchanged tree (first weight per pair wins) does **not** pose
the same problem: on the multigraph `{0-1 (5), 0-1 (2)}` the distance 0→1 becomes 5 instead of 2 -/
theorem adapter_fw_first_not_same :
    ¬ ∀ (es : List WEdge) (s v : Nat) (o : Option Int),
        IsDist (fwExpandFirst es) s v o ↔ IsDist (pythonFwEdges false es) s v o := by
  intro h
  have h5 : IsDist (fwExpandFirst [(0, 1, 5), (0, 1, 2)]) 0 1 (some 5) :=
    (checkDist_sound (n := 2) (lvl := [0, 1]) (d := [some 0, some 5]) (by decide)).2 1 (by decide)
  have h2 : IsDist (pythonFwEdges false [(0, 1, 5), (0, 1, 2)]) 0 1 (some 2) :=
    (checkDist_sound (n := 2) (lvl := [0, 1]) (d := [some 0, some 2]) (by decide)).2 1 (by decide)
  have := isDist_unique ((h _ _ _ _).1 h5) h2
  cases this

/-- result conversion of the repaired `_bfs_edges_rust` / `_dfs_edges_rust` (without target):
sorting *any* duplicate-free enumeration of the reachable set (the kernel's visit order) gives the
value the python back-end returns -/
theorem adapter_traversal_same_value {n : Nat} {es : List WEdge} (hv : validW n es = true) {s : Nat} (hs : s < n)
    {order : List Nat} (h : Enumerates es s order) : sortNat order = reachSorted n es s := by
  apply sorted_ext _ _ (pairwise_sortNat h.1) (pairwise_reachSorted n es s)
  intro x
  rw [mem_sortNat, h.2, mem_reachSorted hv]
  exact ⟨fun h => ⟨h.elim fun _ hx => hx.lt_of_valid hv hs, h⟩, fun h => h.2⟩

example : sortNat (rustBfs 3 [(0, 2, 1), (0, 1, 1)] 0) = reachSorted 3 [(0, 2, 1), (0, 1, 1)] 0 := by decide

/-- T-model: the mirrors of the Rust traversal kernels (`rust/src/algorithms/bfs.rs`; tied to the real kernel's `visited_order` by
R_trace on every run) -/
theorem rust_traversal_mirror_enumerates {n : Nat} {es : List WEdge} (hv : validW n es = true) {s : Nat}
    (hs : s < n) :
    Enumerates es s (rustBfs n es s) ∧ Enumerates es s (rustDfs n es s) :=
  ⟨rustBfs_spec hv hs, rustDfs_spec hv hs⟩

/-- hence the repaired adapters, applied to the kernel mirrors, return a value the verified
checker accepts – the python back-end's value – on **every** valid input -/
theorem adapter_traversal_mirror_accepted {n : Nat} {es : List WEdge} (hv : validW n es = true) {s : Nat}
    (hs : s < n) :
    checkReachList n es s (sortNat (rustBfs n es s)) = true ∧
    checkReachList n es s (sortNat (rustDfs n es s)) = true := by
  obtain ⟨hb, hd⟩ := rust_traversal_mirror_enumerates hv hs
  exact ⟨checkReachList_iff.2 ⟨hv, hs, adapter_traversal_same_value hv hs hb⟩,
    checkReachList_iff.2 ⟨hv, hs, adapter_traversal_same_value hv hs hd⟩⟩

example : validW 4 [(0, 2, 1), (2, 1, 1), (0, 1, 1), (3, 0, 1)] = true ∧
    rustBfs 4 [(0, 2, 1), (2, 1, 1), (0, 1, 1), (3, 0, 1)] 0 = [0, 2, 1] ∧
    rustDfs 4 [(0, 2, 1), (2, 1, 1), (0, 1, 1), (3, 0, 1)] 0 = [0, 2, 1] := by decide

/-- … while the conversion on the unchanged tree (the raw visit order) is not that value -/
theorem adapter_traversal_old_not_same :
    ∃ (n : Nat) (es : List WEdge) (s : Nat), validW n es = true ∧ s < n ∧
      rustBfs n es s ≠ reachSorted n es s ∧ rustDfs n es s ≠ reachSorted n es s :=
  ⟨3, [(0, 2, 1), (2, 1, 1)], 0, by decide⟩

/-- status of a found DFS path: repaired adapter agrees with python, the old one does not -/
theorem adapter_dfs_status_same : adapterDfsFoundStatus = pyDfsFoundStatus := rfl
theorem adapter_dfs_status_old_not_same : adapterDfsFoundStatusOld ≠ pyDfsFoundStatus := by decide

/-- `_kruskal_rust` maps (edges chosen, `allow_forest`) to the same status as python's `kruskal`
(a spanning forest never has more than `n - 1` edges) -/
theorem adapter_kruskal_status_same (k n : Nat) (allow : Bool) (hk : k ≤ n - 1) :
    adapterKruskalStatus k n allow = pyKruskalStatus k n allow := by
  unfold adapterKruskalStatus pyKruskalStatus
  by_cases h : k = n - 1
  · subst h
    simp
  · have : k < n - 1 := by omega
    simp [h, this]

example : adapterKruskalStatus 1 3 true = .FEASIBLE ∧ adapterKruskalStatus 2 3 false = .OPTIMAL := by decide

/-- the keyword defaults the adapters repeat are the defaults of the python functions (constants
regenerated from the working tree on every run: `Solvor/Gen/BackendConsts.lean`) -/
theorem adapter_defaults_same :
    Solvor.Gen.Backend.rsPrDamping_bits = Solvor.Gen.Backend.pyPrDamping_bits ∧
    Solvor.Gen.Backend.rsPrMaxIter = Solvor.Gen.Backend.pyPrMaxIter ∧
    Solvor.Gen.Backend.rsPrTol_bits = Solvor.Gen.Backend.pyPrTol_bits ∧
    Solvor.Gen.Backend.rsFwDirected = Solvor.Gen.Backend.pyFwDirected ∧
    Solvor.Gen.Backend.rsKruskalAllowForest = Solvor.Gen.Backend.pyKruskalAllowForest := by decide

end Solvor.Backend
