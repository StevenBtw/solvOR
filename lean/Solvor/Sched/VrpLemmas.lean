import Solvor.Sched.Model
import Solvor.Common.ListLemmas
/-! Sched, part 2 of C18 (VRP): the bookkeeping invariant through `remove` and `insert` (`inv_frame`), plans checked by
`runPlan`, uniqueness of the arrival-time recurrence, the clause checkers behind `chkInv`, and the closed forms of
route length and of the number of unassigned customers. -/
namespace Solvor.Sched

theorem insAt_perm (r : List Nat) (p c : Nat) : (insAt r p c).Perm (c :: r) :=
  (List.perm_middle (l₁ := r.take p)).trans ((List.take_append_drop p r).symm ▸ .refl _)

theorem mem_insAt {r : List Nat} {p c x : Nat} : x ∈ insAt r p c ↔ x = c ∨ x ∈ r :=
  (insAt_perm r p c).mem_iff.trans List.mem_cons

theorem nodup_insAt {r : List Nat} {p c : Nat} (hc : c ∉ r) (hr : r.Nodup) : (insAt r p c).Nodup :=
  (insAt_perm r p c).nodup_iff.2 (List.nodup_cons.2 ⟨hc, hr⟩)

theorem posOn_isSome {vps : List (Nat × Nat)} {v : Nat} : (∃ p, posOn vps v = some p) ↔ ∃ p, (v, p) ∈ vps := by
  rw [← Option.isSome_iff_exists, posOn, Option.isSome_map, List.find?_isSome]
  exact ⟨fun h => h.elim fun x hx => ⟨x.2, beq_iff_eq.1 hx.2 ▸ hx.1⟩,
    fun h => h.elim fun p hp => ⟨(v, p), hp, beq_self_eq_true v⟩⟩

theorem getElem?_insertAll (c : Nat) (vps : List (Nat × Nat)) (routes : List (List Nat)) (i : Nat) :
    (insertAll c vps routes)[i]? = (routes[i]?).map (insOne c vps i) := List.getElem?_mapIdx

/-- customer `x` is on route number `i` -/
def OnAt (routes : List (List Nat)) (i x : Nat) : Prop := ∃ r, routes[i]? = some r ∧ x ∈ r

theorem onRoute_iff_onAt (s : VState) (c : Nat) : onRoute s c ↔ ∃ i, OnAt s.routes i c :=
  ⟨fun h => h.elim fun r hr => (List.mem_iff_getElem?.1 hr.1).imp fun _ hi => ⟨r, hi, hr.2⟩,
   fun h => h.elim fun i hi => hi.elim fun r hr => ⟨r, List.mem_iff_getElem?.2 ⟨i, hr.1⟩, hr.2⟩⟩

theorem onAt_removeAll {S : List Nat} {routes : List (List Nat)} {i x : Nat} :
    OnAt (removeAll S routes) i x ↔ OnAt routes i x ∧ x ∉ S := by
  unfold OnAt removeAll
  rw [List.getElem?_map]
  constructor
  · rintro ⟨r', hr', hx⟩
    obtain ⟨r, hr, rfl⟩ := Option.map_eq_some_iff.1 hr'
    have := List.mem_filter.1 hx
    exact ⟨⟨r, hr, this.1⟩, by simpa using this.2⟩
  · rintro ⟨⟨r, hr, hx⟩, hS⟩
    exact ⟨_, Option.map_eq_some_iff.2 ⟨r, hr, rfl⟩, List.mem_filter.2 ⟨hx, by simpa using hS⟩⟩

theorem onAt_insertAll {c : Nat} {vps : List (Nat × Nat)} {routes : List (List Nat)} {i x : Nat} :
    OnAt (insertAll c vps routes) i x ↔
      OnAt routes i x ∨ (x = c ∧ i < routes.length ∧ ∃ p, (i, p) ∈ vps) := by
  unfold OnAt
  rw [getElem?_insertAll]
  constructor
  · rintro ⟨r', hr', hx⟩
    obtain ⟨r, hr, rfl⟩ := Option.map_eq_some_iff.1 hr'
    unfold insOne at hx
    split at hx
    · next p hp =>
      exact (mem_insAt.1 hx).elim
        (fun h => .inr ⟨h, (List.getElem?_eq_some_iff.1 hr).1, posOn_isSome.1 ⟨p, hp⟩⟩)
        fun h => .inl ⟨r, hr, h⟩
    · exact .inl ⟨r, hr, hx⟩
  · rintro (⟨r, hr, hx⟩ | ⟨rfl, hi, hp⟩)
    · refine ⟨_, Option.map_eq_some_iff.2 ⟨r, hr, rfl⟩, ?_⟩
      unfold insOne
      split
      · exact mem_insAt.2 (.inr hx)
      · exact hx
    · refine ⟨_, Option.map_eq_some_iff.2 ⟨_, List.getElem?_eq_getElem hi, rfl⟩, ?_⟩
      obtain ⟨q, hq⟩ := posOn_isSome.2 hp
      rw [insOne, hq]
      exact mem_insAt.2 (.inl rfl)

/-- A transition touches a set `D` of customers; everybody else is on the same routes and in `unassigned` as before, so
the range, partition and single-route clauses need checking for `D` only.  The two duplicate-freeness clauses (`hnU`,
`hnR`) are asked for the whole of `s'`. -/
theorem inv_frame {P : Prob} {s s' : VState} (h : Inv P s) (D : Nat → Prop) [DecidablePred D]
    (hon : ∀ x, ¬ D x → ∀ i, OnAt s'.routes i x ↔ OnAt s.routes i x)
    (hun : ∀ x, ¬ D x → (x ∈ s'.unassigned ↔ x ∈ s.unassigned))
    (hrange : ∀ x, D x → 1 ≤ x ∧ x ≤ P.n)
    (hpart : ∀ x, D x → (x ∈ s'.unassigned ↔ ¬ onRoute s' x))
    (hsingle : ∀ x, D x → P.req x ≤ 1 → ∀ i j, OnAt s'.routes i x → OnAt s'.routes j x → i = j)
    (hnU : s'.unassigned.Nodup) (hnR : ∀ r ∈ s'.routes, r.Nodup) : Inv P s' := by
  refine {
    rangeR := fun r hr x hx => ?rangeR
    rangeU := fun x hx => ?rangeU
    nodupU := hnU
    part := fun x h1 h2 => ?part
    nodupR := hnR
    single := fun x h1 h2 h3 i j r r' hi hj hx hx' => ?single }
  case rangeR =>
    by_cases hD : D x
    · exact hrange x hD
    · obtain ⟨i, hi⟩ := List.mem_iff_getElem?.1 hr
      obtain ⟨r0, hr0, hx0⟩ := (hon x hD i).1 ⟨r, hi, hx⟩
      exact h.rangeR r0 (List.mem_iff_getElem?.2 ⟨i, hr0⟩) x hx0
  case rangeU =>
    by_cases hD : D x
    · exact hrange x hD
    · exact h.rangeU x ((hun x hD).1 hx)
  case part =>
    by_cases hD : D x
    · exact hpart x hD
    · rw [hun x hD, h.part x h1 h2, onRoute_iff_onAt, onRoute_iff_onAt]
      exact not_congr (exists_congr fun i => (hon x hD i).symm)
  case single =>
    by_cases hD : D x
    · exact hsingle x hD h3 i j ⟨r, hi, hx⟩ ⟨r', hj, hx'⟩
    · obtain ⟨r0, hr0, hx0⟩ := (hon x hD i).1 ⟨r, hi, hx⟩
      obtain ⟨r1, hr1, hx1⟩ := (hon x hD j).1 ⟨r', hj, hx'⟩
      exact h.single x h1 h2 h3 i j r0 r1 hr0 hr1 hx0 hx1

theorem Inv.of_equiv {P : Prob} {s s' : VState} (h : Inv P s) (e : s.Equiv s') : Inv P s' :=
  inv_frame h (fun _ => False) (fun _ _ _ => by rw [e.1]) (fun _ _ => e.2.mem_iff.symm) nofun nofun nofun
    (e.2.nodup_iff.1 h.nodupU) (e.1 ▸ h.nodupR)

theorem inv_remove {P : Prob} {s s' : VState} {S : List Nat} (h : Inv P s)
    (hs : StepRel P (.remove S) s s') : Inv P s' := by
  obtain ⟨hnd, hrange, hr, hu⟩ := hs
  have memU : ∀ c, c ∈ s'.unassigned ↔ c ∈ s.unassigned ∨ c ∈ S := by
    intro c
    rw [hu.mem_iff, List.mem_append, List.mem_filter]
    by_cases hc : c ∈ s.unassigned <;> simp [hc]
  have off : ∀ x, x ∈ S → ∀ i, ¬ OnAt s'.routes i x := fun x hx i hon =>
    (onAt_removeAll.1 (hr ▸ hon)).2 hx
  refine inv_frame h (· ∈ S) (hon := fun x hx i => ?hon) (hun := fun x hx => ?hun) (hrange := hrange)
    (hpart := fun x hx => ?hpart) (hsingle := fun x hx _ i _ hi => absurd hi (off x hx i)) (hnU := ?hnU)
    (hnR := fun r' hr' => ?hnR)
  case hon => rw [hr, onAt_removeAll]; exact and_iff_left hx
  case hun => rw [memU]; exact or_iff_left hx
  case hpart =>
    rw [memU, onRoute_iff_onAt]
    exact iff_of_true (.inr hx) fun h => h.elim (off x hx)
  case hnU =>
    rw [hu.nodup_iff, List.nodup_append]
    refine ⟨h.nodupU, hnd.sublist List.filter_sublist, fun a ha b hb hab => ?_⟩
    have := (List.mem_filter.1 (hab ▸ hb)).2
    simp [ha] at this
  case hnR =>
    rw [hr] at hr'
    obtain ⟨r, hrm, rfl⟩ := List.mem_map.1 hr'
    exact (h.nodupR r hrm).sublist List.filter_sublist

theorem inv_insert {P : Prob} {s s' : VState} {c : Nat} {vps : List (Nat × Nat)} (h : Inv P s)
    (hs : StepRel P (.insert c vps) s s') : Inv P s' := by
  -- the fourth precondition (the routes named by `vps` are pairwise distinct) is not needed for the invariant
  obtain ⟨hcr, hcu, hne, _, hvalid, hone, hr, hu⟩ := hs
  have hnot : ∀ i, ¬ OnAt s.routes i c := fun i hi =>
    (h.part c hcr.1 hcr.2).1 hcu ((onRoute_iff_onAt s c).2 ⟨i, hi⟩)
  have memU : ∀ x, x ∈ s'.unassigned ↔ x ≠ c ∧ x ∈ s.unassigned := fun x => by
    rw [hu.mem_iff]; exact h.nodupU.mem_erase_iff
  -- `c` is on no route but those named by `vps`
  have onC : ∀ i, OnAt s'.routes i c → ∃ p, (i, p) ∈ vps := fun i hi =>
    ((onAt_insertAll.1 (hr ▸ hi)).resolve_left (hnot i)).2.2
  refine inv_frame h (· = c) (hon := fun x hx i => ?hon) (hun := fun x hx => ?hun) (hrange := fun x hx => hx ▸ hcr)
    (hpart := fun x hx => ?hpart) (hsingle := fun x hx h1 i j hi hj => ?hsingle) (hnU := ?hnU)
    (hnR := fun r' hr' => ?hnR)
  case hon => rw [hr, onAt_insertAll]; exact or_iff_left fun h' => hx h'.1
  case hun => rw [memU]; exact and_iff_right hx
  case hpart =>
    subst hx
    obtain ⟨⟨v, p⟩, hvp⟩ := List.exists_mem_of_ne_nil vps hne
    refine iff_of_false (fun h' => ((memU x).1 h').1 rfl) (not_not_intro ?_)
    exact (onRoute_iff_onAt s' x).2 ⟨v, hr ▸ onAt_insertAll.2 (.inr ⟨rfl, (hvalid _ hvp).1, p, hvp⟩)⟩
  case hsingle =>
    -- a single-vehicle customer was inserted on exactly one route
    subst hx
    obtain ⟨p, hp⟩ := onC i hi
    obtain ⟨q, hq⟩ := onC j hj
    obtain ⟨vp, hvp⟩ := List.length_eq_one_iff.1 (hone h1)
    rw [hvp] at hp hq
    exact congrArg Prod.fst ((List.mem_singleton.1 hp).trans (List.mem_singleton.1 hq).symm)
  case hnU => rw [hu.nodup_iff]; exact h.nodupU.erase c
  case hnR =>
    obtain ⟨i, hi⟩ := List.mem_iff_getElem?.1 hr'
    rw [hr, getElem?_insertAll] at hi
    obtain ⟨r, hri, rfl⟩ := Option.map_eq_some_iff.1 hi
    have hrm := List.mem_iff_getElem?.2 ⟨i, hri⟩
    unfold insOne
    split
    · exact nodup_insAt (fun hc => hnot i ⟨r, hri, hc⟩) (h.nodupR r hrm)
    · exact h.nodupR r hrm

theorem stepRel_equiv {P : Prob} {st : Step} {s t t' : VState} (h : StepRel P st s t) (e : t.Equiv t')
    (hst : st ≠ .recompute) : StepRel P st s t' := by
  obtain ⟨er, eu⟩ := e
  cases st with
  | remove S =>
    obtain ⟨hnd, hrange, hr, hu⟩ := h
    exact ⟨hnd, hrange, er ▸ hr, eu.symm.trans hu⟩
  | insert c vps =>
    obtain ⟨hcr, hcu, hne, hdist, hvalid, hone, hr, hu⟩ := h
    exact ⟨hcr, hcu, hne, hdist, hvalid, hone, er ▸ hr, eu.symm.trans hu⟩
  | recompute => exact absurd rfl hst

theorem runPlan_sound (P : Prob) {plan : List Step} {s t : VState} (h : runPlan P plan s = some t) :
    Run P plan s t := by
  induction plan generalizing s with
  | nil => simp only [runPlan, Option.some.injEq] at h; subst h; exact Run.nil ⟨rfl, .refl _⟩
  | cons st sts ih =>
    simp only [runPlan] at h
    split at h
    · rename_i hrel; exact Run.cons hrel (ih h)
    · cases h

theorem run_equiv {P : Prob} {plan : List Step} {s t t' : VState} (h : Run P plan s t) (e : t.Equiv t') :
    Run P plan s t' := by
  induction h with
  | nil e0 => exact Run.nil ⟨e0.1.trans e.1, e0.2.trans e.2⟩
  | cons hrel _ ih => exact Run.cons hrel (ih e)

theorem insertPlan_go_isInsert (post : VState) (ins : List Nat) :
    ∀ st ∈ insertPlan.go post ins, st.isInsert = true := by
  induction ins with
  | nil => intro st hst; cases hst
  | cons c later ih =>
    intro st hst
    simp only [insertPlan.go, List.mem_cons] at hst
    rcases hst with rfl | hst
    · rfl
    · exact ih st hst

theorem length_arrFrom (P : Prob) (t : Rat) (c : Nat) (r : List Nat) : (arrFrom P t c r).length = r.length + 1 := by
  induction r generalizing t c with
  | nil => rfl
  | cons d r ih => exact congrArg (· + 1) (ih _ _)

theorem length_arrivals (P : Prob) (r : List Nat) : (arrivals P r).length = r.length := by
  cases r with
  | nil => rfl
  | cons c r => exact length_arrFrom P _ c r

theorem arrFrom_unique (P : Prob) (t : Rat) (c : Nat) (r : List Nat) (ts : List Rat) :
    (ts.length = r.length + 1 ∧ ts[0]? = some (max t (P.twStart c)) ∧
      ∀ (i x y : Nat) (a : Rat), (c :: r)[i]? = some x → (c :: r)[i + 1]? = some y → ts[i]? = some a →
        ts[i + 1]? = some (max (a + P.service x + P.dist x y) (P.twStart y)))
    ↔ ts = arrFrom P t c r := by
  induction r generalizing t c ts with
  | nil =>
    constructor
    · rintro ⟨hl, h0, _⟩
      cases ts with
      | nil => cases hl
      | cons a ts' =>
        cases ts' with
        | nil => exact congrArg (· :: []) (Option.some.inj h0)
        | cons _ _ => cases hl
    · rintro rfl
      exact ⟨rfl, rfl, fun i x y a _ h2 => by cases h2⟩
  | cons d r ih =>
    constructor
    · rintro ⟨hl, h0, hn⟩
      cases ts with
      | nil => cases hl
      | cons a ts' =>
        obtain rfl : a = max t (P.twStart c) := Option.some.inj h0
        -- the tail satisfies the recurrence from `d` on
        exact congrArg (_ :: ·) ((ih _ d ts').1 ⟨Nat.succ.inj hl, hn 0 c d _ rfl rfl rfl,
          fun i x y b h1 h2 h3 => hn (i + 1) x y b h1 h2 h3⟩)
    · rintro rfl
      obtain ⟨_, h0, hn⟩ := (ih (max t (P.twStart c) + P.service c + P.dist c d) d _).2 rfl
      refine ⟨length_arrFrom P t c (d :: r), rfl, fun i x y a h1 h2 h3 => ?_⟩
      cases i with
      | zero => cases h1; cases h2; cases h3; exact h0
      | succ i => exact hn i x y a h1 h2 h3

theorem mem_range1 {n c : Nat} : c ∈ List.range' 1 n ↔ 1 ≤ c ∧ c ≤ n := by
  rw [List.mem_range'_1, Nat.add_comm, Nat.lt_succ_iff]

theorem chkNotLostBoth_iff (P : Prob) (s : VState) :
    (chkNotLost P s = true ∧ chkNotBoth P s = true) ↔
      ∀ c, 1 ≤ c → c ≤ P.n → (c ∈ s.unassigned ↔ ¬ onRoute s c) := by
  unfold chkNotLost chkNotBoth onRoute
  simp only [List.all_eq_true, mem_range1, Bool.or_eq_true, List.contains_iff_mem, List.any_eq_true,
    Bool.not_eq_eq_eq_not, Bool.not_true, Bool.and_eq_false_imp, List.any_eq_false, and_imp]
  -- left: "unassigned or on a route" and "unassigned → on no route", for every customer `c` with `h1 : 1 ≤ c`, `h2 : c ≤ n`
  exact ⟨fun h c h1 h2 =>
      ⟨fun hu hon => hon.elim fun r hr => h.2 c h1 h2 hu r hr.1 hr.2, (h.1 c h1 h2).resolve_right⟩,
    fun h => ⟨fun c h1 h2 => Classical.or_iff_not_imp_right.2 (h c h1 h2).2,
      fun c h1 h2 hu r hr hc => (h c h1 h2).1 hu ⟨r, hr, hc⟩⟩⟩

theorem chkSingle_iff (P : Prob) (s : VState) :
    chkSingle P s = true ↔
      ∀ c, 1 ≤ c → c ≤ P.n → P.req c ≤ 1 → ∀ (i j : Nat) (r r' : List Nat), s.routes[i]? = some r →
        s.routes[j]? = some r' → c ∈ r → c ∈ r' → i = j := by
  unfold chkSingle
  simp only [not_or_eq_true, Bool.and_eq_true, List.all_eq_true, mem_range1, decide_eq_true_eq, List.mem_range,
    List.contains_iff_mem, beq_iff_eq, and_imp]
  have key : ∀ {i : Nat} {r : List Nat}, s.routes[i]? = some r → s.routes.getD i [] = r := fun h => by
    rw [List.getD_eq_getElem?_getD, h]; rfl
  -- left: the same statement with the routes read by `getD i []` for `i < s.routes.length`
  constructor
  · intro h c h1 h2 hreq i j r r' hi hj hc hc'
    exact h c h1 h2 hreq i (List.getElem?_eq_some_iff.1 hi).1 j (List.getElem?_eq_some_iff.1 hj).1
      (key hi ▸ hc) (key hj ▸ hc')
  · intro h c h1 h2 hreq i li j lj hc hc'
    have hi := List.getElem?_eq_getElem li
    have hj := List.getElem?_eq_getElem lj
    exact h c h1 h2 hreq i j _ _ hi hj (key hi ▸ hc) (key hj ▸ hc')

theorem legs_eq (P : Prob) (prev : Nat) (r : List Nat) :
    legs P prev r = (((prev :: r).zip (r ++ [0])).map fun ab => P.dist ab.1 ab.2).sum := by
  induction r generalizing prev with
  | nil => exact (Rat.add_zero _).symm
  | cons c r ih => exact congrArg (P.dist prev c + ·) (ih c)

theorem routeDist_eq (P : Prob) (r : List Nat) :
    routeDist P r = if r = [] then 0 else (((0 :: r).zip (r ++ [0])).map fun ab => P.dist ab.1 ab.2).sum := by
  cases r with
  | nil => rfl
  | cons c r => exact congrArg (P.dist 0 c + ·) (legs_eq P c r)

theorem unassigned_count {P : Prob} {s : VState} (h : Inv P s) :
    s.unassigned.length = ((List.range' 1 P.n).filter fun c => decide (¬ onRoute s c)).length := by
  apply List.Perm.length_eq
  apply (List.perm_ext_iff_of_nodup h.nodupU ((List.nodup_range' 1).sublist List.filter_sublist)).2
  intro c
  simp only [List.mem_filter, mem_range1, decide_eq_true_eq]
  constructor
  · intro hc
    have := h.rangeU c hc
    exact ⟨this, (h.part c this.1 this.2).1 hc⟩
  · rintro ⟨⟨h1, h2⟩, h3⟩
    exact (h.part c h1 h2).2 h3

end Solvor.Sched
