import Solvor.Dlx.Run
/-! Dlx: without cut-offs the mirror of `solve_exact_cover` returns exactly the pure search. -/
namespace Solvor.Dlx
variable (M : Mat)

/-- number of `search()` invocations of the full DFS below a node -/
def calls : Nat → List Nat → Nat
  | 0, _ => 0
  | fuel+1, cov =>
    match choose M cov (upc M cov) with
    | none => 1
    | some c =>
      if size M cov c = 0 then 1
      else 1 + ((cand M cov c).map fun p => calls fuel (cov ++ p.1)).sum

theorem calls_succ (fuel : Nat) (cov : List Nat) :
    calls M (fuel + 1) cov =
      match choose M cov (upc M cov) with
      | none => 1
      | some c => 1 + ((cand M cov c).map fun p => calls M fuel (cov ++ p.1)).sum := by
  rw [calls]
  cases choose M cov (upc M cov) with
  | none => rfl
  | some c =>
    exact size_zero_idle M cov c fun l => 1 + (l.map fun p => calls M fuel (cov ++ p.1)).sum

theorem run_unlimited (L : Lim) (hfa : L.findAll = true) (hms : L.maxSol = 0) :
    ∀ fuel cov cur (st : St), st.iters + calls M fuel cov ≤ L.maxIter →
      run M L fuel cov cur st =
        (⟨st.iters + calls M fuel cov,
          ((search M fuel cov).map (cur.reverse ++ ·)).reverse ++ st.sols⟩, false) := by
  intro fuel
  induction fuel with
  | zero => exact fun cov cur st _ => rfl
  | succ fuel ih =>
    intro cov cur st
    rw [run_succ, calls_succ, search_succ]
    cases choose M cov (upc M cov) with
    | none =>
      intro hle
      rw [if_neg (Nat.not_lt.2 hle)]
      simp only [stopNow, hfa, hms, List.map_cons, List.map_nil, List.append_nil, List.reverse_singleton,
        List.singleton_append]
      rfl
    | some c =>
      dsimp only
      rw [← Nat.add_assoc]
      intro hle
      rw [if_neg (by omega)]
      -- the loop over the candidate rows never stops early
      have fold : ∀ (l : List (List Nat × Nat)) (st0 : St),
          st0.iters + (l.map fun p => calls M fuel (cov ++ p.1)).sum ≤ L.maxIter →
          l.foldl (tryRow M L fuel cov cur) (st0, false) =
            (⟨st0.iters + (l.map fun p => calls M fuel (cov ++ p.1)).sum,
              ((l.flatMap fun p => (search M fuel (cov ++ p.1)).map (p.2 :: ·)).map
                (cur.reverse ++ ·)).reverse ++ st0.sols⟩, false) := by
        intro l
        induction l with
        | nil => exact fun st0 _ => rfl
        | cons p l ihl =>
          intro st0 hb
          rw [List.map_cons, List.sum_cons, ← Nat.add_assoc] at hb
          have hrun := ih (cov ++ p.1) (p.2 :: cur) st0 (by omega)
          have hp : tryRow M L fuel cov cur (st0, false) p
              = ((run M L fuel (cov ++ p.1) (p.2 :: cur) st0).1, false) := by
            unfold tryRow; rw [hrun]; rfl
          rw [List.foldl_cons, hp, hrun, ihl _ hb]
          simp only [List.map_cons, List.sum_cons, List.flatMap_cons, List.map_append, List.map_map,
            List.reverse_append, List.append_assoc, Nat.add_assoc, Function.comp_def, List.reverse_cons,
            List.singleton_append]
      exact fold (cand M cov c) ⟨st.iters + 1, st.sols⟩ hle

theorem solveLim_unlimited (L : Lim) (hfa : L.findAll = true) (hms : L.maxSol = 0)
    (hn : M.ncols ≠ 0) (hit : calls M (M.ncols + 1) [] ≤ L.maxIter) :
    (solveLim M L).sols = (if (solve M).isEmpty then none else some (solve M)) ∧
    (solveLim M L).status = (if (solve M).isEmpty then .INFEASIBLE else .OPTIMAL) := by
  unfold solveLim
  rw [if_neg hn]
  have hr := run_unlimited M L hfa hms (M.ncols + 1) [] [] ⟨0, []⟩ (by simpa using hit)
  simp only [hr, List.reverse_nil, List.nil_append, List.append_nil, List.map_id', List.reverse_reverse,
    Nat.zero_add, hfa, hms]
  have : ¬ (calls M (M.ncols + 1) [] > L.maxIter) := by omega
  simp only [this, if_false, solve]
  by_cases he : (search M (M.ncols + 1) []).isEmpty <;> simp [he]

end Solvor.Dlx
