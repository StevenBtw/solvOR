import Solvor.Dlx.Model
/-! Dlx: covers of what is left (`ResCover`) and the pure search (core Lean only). -/
namespace Solvor.Dlx
variable (M : Mat)

/-- `S` is an exact cover of what is left once the columns `cov` are covered (`act`: a row with a 1 in a covered
column has been unlinked).  `ResCover M []` is the property's exact cover. -/
structure ResCover (cov : List Nat) (S : List Nat) : Prop where
  nodup  : S.Nodup
  valid  : ∀ i ∈ S, i < M.rows.length
  act    : ∀ i ∈ S, active cov (rowAt M i) = true
  disj   : ∀ i ∈ S, ∀ j ∈ S, i ≠ j → ∀ c, c ∈ rowAt M i → c ∉ rowAt M j
  covers : ∀ c ∈ upc M cov, ∃ i ∈ S, c ∈ rowAt M i
  hits   : ∀ i ∈ S, ∃ c ∈ upc M cov, c ∈ rowAt M i

variable {M}

theorem active_iff {cov r : List Nat} : active cov r = true ↔ ∀ c ∈ r, c ∉ cov := by
  simp [active]

theorem mem_cand {cov : List Nat} {c : Nat} {p : List Nat × Nat} :
    p ∈ cand M cov c ↔ p.2 < M.rows.length ∧ p.1 = rowAt M p.2 ∧ active cov p.1 = true ∧ c ∈ p.1 := by
  unfold cand rowAt
  rw [List.mem_filter, List.mem_zipIdx_iff_getElem?, Bool.and_eq_true, List.contains_iff_mem,
    List.getD_eq_getElem?_getD]
  constructor
  · rintro ⟨h1, h2⟩
    exact ⟨(List.getElem?_eq_some_iff.1 h1).1, by rw [h1]; rfl, h2⟩
  · rintro ⟨hlt, heq, h2⟩
    exact ⟨by rw [heq, List.getElem?_eq_getElem hlt]; rfl, h2⟩

theorem mem_upc {cov : List Nat} {c : Nat} :
    c ∈ upc M cov ↔ c < M.ncols ∧ M.prim c = true ∧ c ∉ cov := by
  simp [upc]

theorem argminFirst_mem (f : Nat → Nat) (cs : List Nat) (b : Nat) :
    argminFirst f cs b = b ∨ argminFirst f cs b ∈ cs := by
  induction cs generalizing b with
  | nil => left; rfl
  | cons c cs ih =>
    simp only [argminFirst]
    rcases ih (if f c < f b then c else b) with h | h
    · rw [h]; split
      · right; simp
      · left; rfl
    · right; exact List.mem_cons_of_mem _ h

theorem choose_mem {cov l : List Nat} {c : Nat} (h : choose M cov l = some c) : c ∈ l := by
  cases l with
  | nil => cases h
  | cons a as =>
    rw [← Option.some.inj h]
    exact (argminFirst_mem _ as a).elim (fun e => e.symm ▸ List.mem_cons_self) (List.mem_cons_of_mem _)

theorem choose_none {cov l : List Nat} (h : choose M cov l = none) : l = [] := by
  cases l with
  | nil => rfl
  | cons a as => cases h

theorem active_append {cov r x : List Nat} :
    active (cov ++ r) x = true ↔ active cov x = true ∧ ∀ c ∈ x, c ∉ r := by
  simp only [active_iff, List.mem_append, not_or]
  constructor
  · intro h; exact ⟨fun c hc => (h c hc).1, fun c hc => (h c hc).2⟩
  · rintro ⟨h1, h2⟩ c hc; exact ⟨h1 c hc, h2 c hc⟩

theorem mem_upc_append {cov r : List Nat} {c : Nat} :
    c ∈ upc M (cov ++ r) ↔ c ∈ upc M cov ∧ c ∉ r := by
  simp only [mem_upc, List.mem_append, not_or, and_assoc]

/-- the tests `if size M cov c = 0` of the model are idle: the loop over no rows gives the same -/
theorem size_zero_idle (M : Mat) {β : Type} (cov : List Nat) (c : Nat) (f : List (List Nat × Nat) → β) :
    (if size M cov c = 0 then f [] else f (cand M cov c)) = f (cand M cov c) := by
  split
  · rename_i h; rw [List.eq_nil_of_length_eq_zero h]
  · rfl

theorem search_succ (M : Mat) (fuel : Nat) (cov : List Nat) :
    search M (fuel + 1) cov =
      match choose M cov (upc M cov) with
      | none => [[]]
      | some c => (cand M cov c).flatMap fun p => (search M fuel (cov ++ p.1)).map (p.2 :: ·) := by
  rw [search]
  cases choose M cov (upc M cov) with
  | none => rfl
  | some c =>
    exact size_zero_idle M cov c fun l => l.flatMap fun p => (search M fuel (cov ++ p.1)).map (p.2 :: ·)

theorem ResCover.nil {cov : List Nat} (h : upc M cov = []) : ResCover M cov [] :=
  { nodup := List.nodup_nil, valid := nofun, act := nofun, disj := nofun, covers := by rw [h]; nofun, hits := nofun }

theorem ResCover.cons {cov S : List Nat} {c : Nat} {p : List Nat × Nat} (hc : c ∈ upc M cov)
    (hp : p ∈ cand M cov c) (R : ResCover M (cov ++ p.1) S) : ResCover M cov (p.2 :: S) := by
  obtain ⟨hlt, heq, hact, hcp⟩ := mem_cand.1 hp
  have avoid : ∀ j ∈ S, ∀ x ∈ rowAt M j, x ∉ p.1 := fun j hj => (active_append.1 (R.act j hj)).2
  have hnot : p.2 ∉ S := fun hmem => avoid p.2 hmem c (heq ▸ hcp) hcp
  refine { nodup := List.nodup_cons.2 ⟨hnot, R.nodup⟩, valid := List.forall_mem_cons.2 ⟨hlt, R.valid⟩,
           act := List.forall_mem_cons.2 ⟨heq ▸ hact, fun i hi => (active_append.1 (R.act i hi)).1⟩,
           disj := ?_, covers := ?_, hits := List.forall_mem_cons.2 ⟨⟨c, hc, heq ▸ hcp⟩, fun i hi => ?_⟩ }
  · intro i hi j hj hij x hx
    rcases List.mem_cons.1 hi with rfl | hi <;> rcases List.mem_cons.1 hj with rfl | hj
    · exact absurd rfl hij
    · exact fun hxj => avoid j hj x hxj (heq ▸ hx)
    · exact fun hxj => avoid i hi x hx (heq ▸ hxj)
    · exact R.disj i hi j hj hij x hx
  · intro x hx
    by_cases hxp : x ∈ p.1
    · exact ⟨p.2, List.mem_cons_self, heq ▸ hxp⟩
    · obtain ⟨i, hi, hxi⟩ := R.covers x (mem_upc_append.2 ⟨hx, hxp⟩)
      exact ⟨i, List.mem_cons_of_mem _ hi, hxi⟩
  · obtain ⟨x, hx, hxi⟩ := R.hits i hi
    exact ⟨x, (mem_upc_append.1 hx).1, hxi⟩

theorem ResCover.erase {cov S : List Nat} {i : Nat} (hS : ResCover M cov S) (hi : i ∈ S) :
    ResCover M (cov ++ rowAt M i) (S.erase i) := by
  have hmem : ∀ j, j ∈ S.erase i → j ∈ S ∧ j ≠ i := fun j hj =>
    ⟨List.mem_of_mem_erase hj, fun h => List.Nodup.not_mem_erase hS.nodup (h ▸ hj)⟩
  refine { nodup := hS.nodup.erase i, valid := fun j hj => hS.valid j (hmem j hj).1, act := fun j hj => ?_,
           disj := fun a ha b hb => hS.disj a (hmem a ha).1 b (hmem b hb).1, covers := fun x hx => ?_,
           hits := fun j hj => ?_ }
  · exact active_append.2 ⟨hS.act j (hmem j hj).1, hS.disj j (hmem j hj).1 i hi (hmem j hj).2⟩
  · obtain ⟨hx1, hx2⟩ := mem_upc_append.1 hx
    obtain ⟨j, hj, hxj⟩ := hS.covers x hx1
    exact ⟨j, (List.mem_erase_of_ne fun (e : j = i) => hx2 (e ▸ hxj)).2 hj, hxj⟩
  · obtain ⟨x, hx, hxj⟩ := hS.hits j (hmem j hj).1
    exact ⟨x, mem_upc_append.2 ⟨hx, hS.disj j (hmem j hj).1 i hi (hmem j hj).2 x hxj⟩, hxj⟩

theorem search_sound (M : Mat) (fuel : Nat) (cov : List Nat) :
    ∀ s ∈ search M fuel cov, ResCover M cov s := by
  induction fuel generalizing cov with
  | zero => exact nofun
  | succ fuel ih =>
    intro s hs
    rw [search_succ] at hs
    cases hch : choose M cov (upc M cov) with
    | none =>
      rw [hch] at hs
      exact List.mem_singleton.1 hs ▸ ResCover.nil (choose_none hch)
    | some c =>
      rw [hch] at hs
      obtain ⟨p, hp, hs⟩ := List.mem_flatMap.1 hs
      obtain ⟨s', hs', rfl⟩ := List.mem_map.1 hs
      exact (ih _ s' hs').cons (choose_mem hch) hp

theorem upc_append_length_lt {cov r : List Nat} {c : Nat} (hc : c ∈ upc M cov) (hr : c ∈ r) :
    (upc M (cov ++ r)).length < (upc M cov).length := by
  have hsub : upc M (cov ++ r) = (upc M cov).filter (fun x => !r.contains x) := by
    unfold upc
    rw [List.filter_filter]
    congr 1
    funext x
    cases M.prim x <;> simp [Bool.and_comm]
  rw [hsub]
  exact List.length_filter_lt_length_iff_exists.2 ⟨c, hc, by simp [hr]⟩

theorem search_complete (M : Mat) (fuel : Nat) (cov S : List Nat) (hS : ResCover M cov S)
    (hf : (upc M cov).length < fuel) :
    ∃ S', S'.Perm S ∧ S' ∈ search M fuel cov := by
  induction fuel generalizing cov S with
  | zero => omega
  | succ fuel ih =>
    rw [search_succ]
    cases hch : choose M cov (upc M cov) with
    | none =>
      cases S with
      | nil => exact ⟨[], .refl _, List.mem_singleton_self _⟩
      | cons i t =>
        obtain ⟨x, hx, _⟩ := hS.hits i List.mem_cons_self
        rw [choose_none hch] at hx; cases hx
    | some c =>
      have hc := choose_mem hch
      obtain ⟨i, hi, hci⟩ := hS.covers c hc
      have hp : (rowAt M i, i) ∈ cand M cov c := mem_cand.2 ⟨hS.valid i hi, rfl, hS.act i hi, hci⟩
      have hlen := upc_append_length_lt hc hci
      obtain ⟨S₁, hperm, hmem⟩ := ih _ _ (hS.erase hi) (by omega)
      exact ⟨i :: S₁, (hperm.cons i).trans (List.perm_cons_erase hi).symm,
        List.mem_flatMap.2 ⟨_, hp, List.mem_map.2 ⟨S₁, hmem, rfl⟩⟩⟩

theorem cand_pairwise (M : Mat) (cov : List Nat) (c : Nat) :
    (cand M cov c).Pairwise (fun p q => p.2 ≠ q.2) := by
  unfold cand
  apply List.Pairwise.filter
  have : (M.rows.zipIdx.map Prod.snd).Nodup := by
    rw [List.zipIdx_map_snd]; exact List.nodup_range' ..
  exact (List.pairwise_map.1 this)

theorem search_nodup (M : Mat) (fuel : Nat) (cov : List Nat) :
    (search M fuel cov).Pairwise (fun a b => ¬ a.Perm b) := by
  induction fuel generalizing cov with
  | zero => exact List.Pairwise.nil
  | succ fuel ih =>
    rw [search_succ]
    cases choose M cov (upc M cov) with
    | none => exact List.pairwise_singleton _ _
    | some c =>
      refine List.pairwise_flatMap.2 ⟨fun p _ => ?_, (cand_pairwise M cov c).imp_of_mem ?_⟩
      · exact List.pairwise_map.2 ((ih (cov ++ p.1)).imp fun h hp => h ((List.perm_cons _).1 hp))
      · intro p q hp hq hne x hx y hy hperm
        obtain ⟨s', hs', rfl⟩ := List.mem_map.1 hx
        obtain ⟨s'', _, rfl⟩ := List.mem_map.1 hy
        obtain ⟨_, heqq, _, hcq⟩ := mem_cand.1 hq
        obtain ⟨_, _, _, hcp⟩ := mem_cand.1 hp
        -- `q`'s row would sit in a cover of what `p`'s row leaves, yet both rows hold column `c`
        rcases List.mem_cons.1 (hperm.symm.subset List.mem_cons_self) with h | h
        · exact hne h.symm
        · exact (active_append.1 ((search_sound M fuel _ s' hs').act q.2 h)).2 c (heqq ▸ hcq) hcp

end Solvor.Dlx
