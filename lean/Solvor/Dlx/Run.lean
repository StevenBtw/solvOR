import Solvor.Dlx.Lemmas
import Solvor.Common.ListLemmas
/-! Dlx: the mirror `run` of the nested `search()` — its equation with the loop over the candidate
rows as a named step, and what `solveLim` makes of its result (core Lean only). -/
namespace Solvor.Dlx
variable (M : Mat)

/-- the two tests `if not find_all` and `if max_solutions and len(solutions) >= max_solutions` after either of which
`search()` returns `True`, as one -/
def stopNow (L : Lim) (st : St) : Bool :=
  !L.findAll || (L.maxSol != 0 && decide (st.sols.length ≥ L.maxSol))

theorem stopNow_ite (L : Lim) (st : St) :
    (if !L.findAll then (st, true)
      else if L.maxSol != 0 && st.sols.length ≥ L.maxSol then (st, true) else (st, false))
      = (st, stopNow L st) := by
  unfold stopNow
  cases L.findAll <;> cases (L.maxSol != 0 && decide (st.sols.length ≥ L.maxSol)) <;> rfl

/-- one round of the loop `while row_node is not min_col` -/
def tryRow (L : Lim) (fuel : Nat) (cov cur : List Nat) (acc : St × Bool) (p : List Nat × Nat) :
    St × Bool :=
  if acc.2 then acc else
    let r := run M L fuel (cov ++ p.1) (p.2 :: cur) acc.1
    (r.1, r.2 && stopNow L r.1)

theorem run_succ (L : Lim) (fuel : Nat) (cov cur : List Nat) (st : St) :
    run M L (fuel + 1) cov cur st =
      if st.iters + 1 > L.maxIter then (⟨st.iters + 1, st.sols⟩, false) else
      match choose M cov (upc M cov) with
      | none => (⟨st.iters + 1, cur.reverse :: st.sols⟩, stopNow L ⟨st.iters + 1, cur.reverse :: st.sols⟩)
      | some c => (cand M cov c).foldl (tryRow M L fuel cov cur) (⟨st.iters + 1, st.sols⟩, false) := by
  unfold run
  simp only [stopNow_ite]
  congr 1
  cases choose M cov (upc M cov) with
  | none => exact stopNow_ite L ⟨st.iters + 1, cur.reverse :: st.sols⟩
  | some c =>
    refine (size_zero_idle M cov c fun l => l.foldl _ _).trans ?_
    congr 1
    funext acc p
    unfold tryRow
    split
    · rfl
    · dsimp only
      cases (run M L fuel (cov ++ p.1) (p.2 :: cur) acc.1).2 <;> rfl

theorem foldl_tryRow_inv (L : Lim) (fuel : Nat) (cov cur : List Nat) (P : St → Prop)
    (l : List (List Nat × Nat)) (acc : St × Bool) (h0 : P acc.1)
    (hstep : ∀ p ∈ l, ∀ s, P s → P (run M L fuel (cov ++ p.1) (p.2 :: cur) s).1) :
    P (l.foldl (tryRow M L fuel cov cur) acc).1 := by
  refine foldl_inv (fun acc : St × Bool => P acc.1) h0 fun acc p hp hacc => ?_
  unfold tryRow
  split
  · exact hacc
  · exact hstep p hp _ hacc

theorem solveLim_sols (L : Lim) (hn : M.ncols ≠ 0) {st : St} {b : Bool}
    (hr : run M L (M.ncols + 1) [] [] ⟨0, []⟩ = (st, b)) :
    (solveLim M L).sols =
      if st.sols.reverse.isEmpty then none
      else some (if L.findAll then st.sols.reverse else st.sols.reverse.take 1) := by
  unfold solveLim
  rw [if_neg hn, hr]
  simp only [apply_ite Out.sols, ← apply_ite some, ite_self]

end Solvor.Dlx
