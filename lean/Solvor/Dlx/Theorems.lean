import Solvor.Dlx.Complete
/-! Dlx: the property theorems of C07. -/
namespace Solvor.Dlx
variable (M : Mat)

/-- C07, soundness of the pure search. -/
theorem algx_sound : ∀ s ∈ solve M, ResCover M [] s := search_sound M _ _

private theorem upc_nil_le : (upc M []).length < M.ncols + 1 := by
  have : (upc M []).length ≤ M.ncols := by
    unfold upc; exact Nat.le_trans (List.length_filter_le _ _) (by simp)
  omega

/-- C07, completeness and no duplicates (covers are compared up to the order in which their rows are listed). -/
theorem algx_complete_nodup :
    (∀ S, ResCover M [] S → ∃ S', S'.Perm S ∧ S' ∈ solve M) ∧
    (solve M).Pairwise (fun a b => ¬ a.Perm b) :=
  ⟨fun S hS => search_complete M _ _ S hS (upc_nil_le M), search_nodup M _ _⟩

/-- C07: INFEASIBLE (no selection emitted) exactly when no exact cover exists. -/
theorem algx_infeasible_iff : solve M = [] ↔ ¬ ∃ S, ResCover M [] S := by
  constructor
  · rintro h ⟨S, hS⟩
    obtain ⟨S', _, hm⟩ := (algx_complete_nodup M).1 S hS
    rw [h] at hm; cases hm
  · intro h
    cases hs : solve M with
    | nil => rfl
    | cons s t => exact absurd ⟨s, algx_sound M s (by rw [hs]; exact List.mem_cons_self)⟩ h

/-- T-spec of C07: the checker the driver evaluates on the implementation's selections. -/
theorem isCover_iff (s : List Nat) : isCover M s = true ↔ ResCover M [] s := by
  unfold isCover
  simp only [Bool.and_eq_true, decide_eq_true_eq, List.all_eq_true, List.any_eq_true,
    Bool.or_eq_true, beq_iff_eq, Bool.not_eq_eq_eq_not, Bool.not_true, List.contains_iff_mem]
  constructor
  · rintro ⟨⟨⟨⟨h1, h2⟩, h3⟩, h4⟩, h5⟩
    exact { nodup := h1, valid := h2, act := fun i _ => by simp [active],
            disj := fun i hi j hj hij c hc => by simpa using (h3 i hi j hj).resolve_left hij c hc,
            covers := h4, hits := h5 }
  · intro R
    refine ⟨⟨⟨⟨R.nodup, R.valid⟩, fun i hi j hj => ?_⟩, R.covers⟩, R.hits⟩
    by_cases hij : i = j
    · exact Or.inl hij
    · exact Or.inr fun c hc => by simpa using R.disj i hi j hj hij c hc

/-- C07 under cut-offs (`find_all` off, `max_solutions`, `max_iter`): whatever the limits, every
selection recorded by the mirror of the nested `search()` is `cur.reverse ++ s` (`cur`: the rows chosen
so far, newest first) for a selection `s` the pure search emits below the current node, or was recorded
before. -/
theorem run_sols (L : Lim) (fuel : Nat) (cov cur : List Nat) (st : St) :
    ∀ x ∈ (run M L fuel cov cur st).1.sols,
      x ∈ st.sols ∨ ∃ s ∈ search M fuel cov, x = cur.reverse ++ s := by
  induction fuel generalizing cov cur st with
  | zero => exact fun x hx => Or.inl hx
  | succ fuel ih =>
    rw [run_succ, search_succ]
    split
    · exact fun x hx => Or.inl hx
    · cases choose M cov (upc M cov) with
      | none =>
        intro x hx
        rcases List.mem_cons.1 hx with h | h
        · exact Or.inr ⟨[], List.mem_singleton_self _, by rw [h, List.append_nil]⟩
        · exact Or.inl h
      | some c =>
        refine foldl_tryRow_inv M L fuel cov cur (fun s => ∀ x ∈ s.sols, x ∈ st.sols ∨
          ∃ s' ∈ (cand M cov c).flatMap fun p => (search M fuel (cov ++ p.1)).map (p.2 :: ·),
            x = cur.reverse ++ s') _ _ ?_ fun p hp s hs x hx => ?_
        · exact fun x hx => Or.inl hx
        rcases ih (cov ++ p.1) (p.2 :: cur) s x hx with h | ⟨s', hs', rfl⟩
        · exact hs x h
        · exact Or.inr ⟨p.2 :: s', List.mem_flatMap.2 ⟨p, hp, List.mem_map.2 ⟨s', hs', rfl⟩⟩,
            by rw [List.reverse_cons, List.append_assoc]; rfl⟩

/-- C07 under cut-offs (`find_all`, `max_solutions`, `max_iter`), soundness of what the mirror returns. -/
theorem algx_limited_sound (L : Lim) :
    ∀ sols, (solveLim M L).sols = some sols → ∀ s ∈ sols, ResCover M [] s := by
  intro sols h s hs
  by_cases hn : M.ncols = 0
  · -- the shortcut: no columns, the empty selection
    unfold solveLim at h
    rw [if_pos hn] at h
    obtain rfl := Option.some.inj h
    obtain rfl := List.mem_singleton.1 hs
    exact ResCover.nil (by rw [upc, hn]; rfl)
  · have base : ∀ x ∈ (run M L (M.ncols + 1) [] [] ⟨0, []⟩).1.sols, ResCover M [] x := fun x hx => by
      rcases run_sols M L _ [] [] ⟨0, []⟩ x hx with h | ⟨s', hs', rfl⟩
      · cases h
      · exact algx_sound M _ hs'
    generalize hr : run M L (M.ncols + 1) [] [] ⟨0, []⟩ = r at base
    obtain ⟨st, b⟩ := r
    rw [solveLim_sols M L hn hr] at h
    split at h
    · cases h
    · obtain rfl := Option.some.inj h
      split at hs
      · exact base s (List.mem_reverse.1 hs)
      · exact base s (List.mem_reverse.1 (List.mem_of_mem_take hs))

/-- C07, tie between the mirror (compared with the code on every run) and the proved-complete search: on a
matrix with a column, without cut-offs and with an iteration budget the search does not exhaust, the mirror returns every exact cover exactly once,
and INFEASIBLE iff none exists. -/
theorem algx_mirror_complete (L : Lim) (hfa : L.findAll = true) (hms : L.maxSol = 0)
    (hn : M.ncols ≠ 0) (hit : calls M (M.ncols + 1) [] ≤ L.maxIter) :
    ((solveLim M L).status = .INFEASIBLE ↔ ¬ ∃ S, ResCover M [] S) ∧
    (∀ sols, (solveLim M L).sols = some sols →
      (∀ S, ResCover M [] S → ∃ S', S'.Perm S ∧ S' ∈ sols) ∧ sols.Pairwise (fun a b => ¬ a.Perm b)) := by
  obtain ⟨h1, h2⟩ := solveLim_unlimited M L hfa hms hn hit
  refine ⟨?_, fun sols hs => ?_⟩
  · rw [h2, ← algx_infeasible_iff]
    cases solve M <;> simp
  · rw [h1] at hs
    split at hs
    · cases hs
    · exact Option.some.inj hs ▸ algx_complete_nodup M

/-- C07 "input not modified / same answer again": the model is a pure function of the matrix,
so this is `rfl`; on the implementation it is checked per run (matrix deep-equal before/after,
two calls equal). -/
theorem algx_pure (L : Lim) : solveLim M L = solveLim M L := rfl

/-! Non-vacuity: Knuth's example (`test_knuth_example` in `tests/solvors/test_dlx.py`) has a cover, the checker
accepts it. -/
def exM : Mat := ⟨[[0,3,6],[0,3],[3,4,6],[2,4,5],[1,2,5,6],[1,6]], 7, fun _ => true⟩
example : solve exM = [[1, 3, 5]] := by decide
example : isCover exM [1, 3, 5] = true := by decide
example : ∃ S, ResCover exM [] S := ⟨[1,3,5], (isCover_iff exM _).1 (by decide)⟩

end Solvor.Dlx
