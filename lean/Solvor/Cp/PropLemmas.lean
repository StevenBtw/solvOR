import Solvor.Cp.EncodeLemmas
/-! Domains and propagators of the DFS mirror (`Cp/Prop.lean`): propagators are sound (never remove
the value of a solution) and only narrow the domains, hence never grow their total size. -/
namespace Solvor.Cp

theorem dget_eq_getElem {D : Doms} {i : Nat} (hi : i < D.length) : dget D i = D[i] := getD_of_lt hi []

theorem dget_dset (D : Doms) (i j : Nat) (l : List Int) :
    dget (dset D i l) j = if i = j ∧ i < D.length then l else dget D j := getD_set D i j l []

theorem dset_length (D : Doms) (i : Nat) (l : List Int) : (dset D i l).length = D.length := by
  simp [dset]

theorem dget_of_ge {D : Doms} {i : Nat} (h : D.length ≤ i) : dget D i = [] := getD_of_ge h []

theorem any_isEmpty_iff {D : Doms} :
    D.any List.isEmpty = true ↔ ∃ i, i < D.length ∧ dget D i = [] := by
  rw [List.any_eq_true]
  constructor
  · rintro ⟨d, hd, he⟩
    obtain ⟨i, hi, rfl⟩ := List.mem_iff_getElem.1 hd
    exact ⟨i, hi, by rw [dget_eq_getElem hi]; exact List.isEmpty_iff.1 he⟩
  · rintro ⟨i, hi, he⟩
    exact ⟨D[i], List.getElem_mem hi, by rw [← dget_eq_getElem hi, he]; rfl⟩

theorem noEmpty_iff {D : Doms} :
    D.any List.isEmpty = false ↔ ∀ i, i < D.length → dget D i ≠ [] := by
  rw [← Bool.not_eq_true, any_isEmpty_iff]; simp only [not_exists, not_and]

theorem noEmpty_dset {D : Doms} (h : D.any List.isEmpty = false) (i : Nat) {l : List Int} (hl : l ≠ []) :
    (dset D i l).any List.isEmpty = false := by
  refine noEmpty_iff.2 fun j hj => ?_
  rw [dget_dset]; split
  · exact hl
  · exact noEmpty_iff.1 h j (by rwa [dset_length] at hj)

/-- the step `_propagate_ne_expr` and the `!=` propagator perform in both directions: if the domain
of `x` is a single `v`, remove `g v` from the domain of `y` -/
def pruneIf (D : Doms) (x y : Nat) (g : Int → Int) : Doms :=
  match dget D x with
  | [v] => discard D y (g v)
  | _ => D

/-- every value of the assignment `a` lies in its variable's current domain -/
def Within (a : Asg) (D : Doms) : Prop := a.length = D.length ∧ ∀ i, i < D.length → val a i ∈ dget D i

theorem Within.len {a : Asg} {D : Doms} (h : Within a D) : a.length = D.length := h.1

theorem Within.mem {a : Asg} {D : Doms} (h : Within a D) {i : Nat} (hi : i < D.length) : val a i ∈ dget D i := h.2 i hi

theorem Within.dset {a : Asg} {D : Doms} (h : Within a D) {i : Nat} {l : List Int}
    (hl : i < D.length → val a i ∈ l) : Within a (dset D i l) := by
  refine ⟨by rw [dset_length]; exact h.len, fun j hj => ?_⟩
  rw [dset_length] at hj
  rw [dget_dset]
  by_cases hc : i = j ∧ i < D.length
  · rw [if_pos hc]; obtain ⟨rfl, hi⟩ := hc; exact hl hi
  · rw [if_neg hc]; exact h.mem hj

theorem Within.discard {a : Asg} {D : Doms} (h : Within a D) {i : Nat} {v : Int}
    (hv : i < D.length → val a i ≠ v) : Within a (discard D i v) := by
  unfold Solvor.Cp.discard
  apply h.dset
  intro hi
  exact List.mem_filter.2 ⟨h.mem hi, by simpa using hv hi⟩

theorem Within.singleton {a : Asg} {D : Doms} (h : Within a D) {i : Nat} {x : Int} (hi : i < D.length)
    (hd : dget D i = [x]) : val a i = x := by
  have := h.mem hi; rw [hd] at this; simpa using this

theorem Within.no_empty {a : Asg} {D : Doms} (h : Within a D) : D.any List.isEmpty = false :=
  noEmpty_iff.2 fun i hi he => by have := h.mem hi; rw [he] at this; cases this

theorem Within.pruneIf {a : Asg} {D : Doms} (h : Within a D) {x y : Nat} {g : Int → Int}
    (hx : x < a.length) (hne : val a y ≠ g (val a x)) : Within a (pruneIf D x y g) := by
  unfold Solvor.Cp.pruneIf; split
  · next v hd => exact h.discard fun _ => by rw [← h.singleton (h.len ▸ hx) hd]; exact hne
  · exact h

theorem propOffset_sound {a : Asg} {D : Doms} (h : Within a D) {x y : Nat} (hx : x < D.length)
    (hy : y < D.length) {off : Int} {isNe : Bool}
    (hrel : if isNe then val a x ≠ val a y + off else val a x = val a y + off) :
    ∃ D', propOffset D x y off isNe = some D' ∧ Within a D' := by
  cases isNe
  · unfold propOffset
    simp only [Bool.false_eq_true, if_false] at hrel ⊢
    have h1 : val a x ∈ (dget D x).filter fun v => (dget D y).contains (v - off) := by
      apply List.mem_filter.2 ⟨h.mem hx, ?_⟩
      have : val a x - off = val a y := by omega
      rw [this]; simpa using h.mem hy
    have h2 : val a y ∈ (dget D y).filter fun v => (dget D x).contains (v + off) := by
      apply List.mem_filter.2 ⟨h.mem hy, ?_⟩
      rw [← hrel]; simpa using h.mem hx
    have hne : ¬ (((dget D x).filter fun v => (dget D y).contains (v - off)).isEmpty ||
        ((dget D y).filter fun v => (dget D x).contains (v + off)).isEmpty) = true := by
      simp only [Bool.or_eq_true, List.isEmpty_iff, not_or]
      exact ⟨List.ne_nil_of_mem h1, List.ne_nil_of_mem h2⟩
    rw [if_neg hne]
    exact ⟨_, rfl, (h.dset fun _ => h1).dset fun _ => h2⟩
  · simp only [if_true] at hrel
    exact ⟨_, rfl, (h.pruneIf (g := (· - off)) (h.len ▸ hx) (by omega)).pruneIf (g := (· + off))
      (h.len ▸ hy) hrel⟩

theorem nodup_map_ne {α β} {f : α → β} {vs : List α} (h : (vs.map f).Nodup) :
    ∀ o ∈ vs, ∀ v ∈ vs, o ≠ v → f o ≠ f v := by
  have hp := List.pairwise_map.1 (List.nodup_iff_pairwise_ne.1 h)
  exact fun o ho v hv => List.Pairwise.forall_of_forall_of_flip (R := fun o v => o ≠ v → f o ≠ f v)
    (fun _ _ h => absurd rfl h) (hp.imp fun {a b} h (_ : a ≠ b) => h) (hp.imp fun {a b} h (_ : b ≠ a) e => h e.symm) ho hv

theorem propAllDiff_sound {a : Asg} {D : Doms} (h : Within a D) {vs : List Nat}
    (hs : ∀ v ∈ vs, v < D.length) (hnd : (vs.map (val a)).Nodup) : Within a (propAllDiff D vs) := by
  unfold propAllDiff
  refine List.foldlRecOn (motive := Within a) vs _ h fun D' hD' v hv => ?_
  split
  · next x hd =>
    have hvx : val a v = x := hD'.singleton (by rw [← hD'.len, h.len]; exact hs v hv) hd
    refine List.foldlRecOn (motive := Within a) vs _ hD' fun E hE o ho => ?_
    split
    · next hov => exact hE.discard fun _ => hvx ▸ nodup_map_ne hnd o ho v hv (by simpa using hov)
    · exact hE
  · exact hD'

theorem propRel_sound {a : Asg} {D : Doms} (h : Within a D) {l r : Expr} {isNe : Bool}
    (hl : l.Scoped D.length) (hr : r.Scoped D.length) (hh : Holds a (.rel l r isNe)) :
    ∃ D', propRel true D l r isNe = some D' ∧ Within a D' := by
  -- the difference is `x - y + const`, whatever the order of the two terms
  have key : ∀ x y const, (x, (1 : Int)) ∈ (linDiff l r).1 → (y, (-1 : Int)) ∈ (linDiff l r).1 →
      lval a (linDiff l r).1 (linDiff l r).2 = val a x - val a y + const →
      ∃ D', propOffset D x y (-const) isNe = some D' ∧ Within a D' := by
    intro x y const hx hy e
    rw [linDiff_val] at e
    apply propOffset_sound h (linDiff_scoped hl hr _ hx) (linDiff_scoped hl hr _ hy)
    unfold Holds at hh
    cases isNe
    · simp only [Bool.false_eq_true, if_false] at hh ⊢; omega
    · simp only [if_true] at hh ⊢; omega
  unfold propRel
  simp only [if_true]
  split
  · next x y const heq =>
    refine key x y const ?_ ?_ ?_ <;> rw [heq]
    · exact List.mem_cons_self
    · exact List.mem_cons_of_mem _ List.mem_cons_self
    · simp only [lval, List.map_cons, List.map_nil, List.sum_cons, List.sum_nil]; omega
  · next y x const heq =>
    refine key x y const ?_ ?_ ?_ <;> rw [heq]
    · exact List.mem_cons_of_mem _ List.mem_cons_self
    · exact List.mem_cons_self
    · simp only [lval, List.map_cons, List.map_nil, List.sum_cons, List.sum_nil]; omega
  · exact ⟨D, rfl, h⟩

theorem propCon_sound {a : Asg} {D : Doms} (h : Within a D) {c : Con} (hs : c.Scoped D.length)
    (hh : Holds a c) : ∃ D', propCon true D c = some D' ∧ Within a D' := by
  cases c with
  | allDiff vs => exact ⟨_, rfl, propAllDiff_sound h hs hh⟩
  | eqConst v k =>
    unfold Holds at hh
    have hv : v < D.length := hs
    have hm := h.mem hv
    rw [hh] at hm
    have hc : (dget D v).contains k = true := by simpa using hm
    simp only [propCon, hc, if_true]
    exact ⟨_, rfl, h.dset fun _ => by rw [hh]; simp⟩
  | neConst v k => exact ⟨_, rfl, h.discard fun _ => hh⟩
  | eqVar x y =>
    unfold Holds at hh
    have hm : val a x ∈ (dget D x).filter fun v => (dget D y).contains v := by
      apply List.mem_filter.2 ⟨h.mem hs.1, ?_⟩
      rw [hh]; simpa using h.mem hs.2
    have hne : ¬ ((dget D x).filter fun v => (dget D y).contains v).isEmpty = true := by
      simp only [List.isEmpty_iff]; exact List.ne_nil_of_mem hm
    simp only [propCon, if_neg hne]
    exact ⟨_, rfl, (h.dset fun _ => hm).dset fun _ => by rw [← hh]; exact hm⟩
  | neVar x y =>
    have hne : val a x ≠ val a y := hh
    exact ⟨_, rfl, (h.pruneIf (g := id) (h.len ▸ hs.1) hne.symm).pruneIf (g := id) (h.len ▸ hs.2) hne⟩
  | rel l r isNe => exact propRel_sound h hs.1 hs.2 hh
  | _ => exact ⟨D, rfl, h⟩

theorem sweep_sound {a : Asg} : ∀ (cs : List Con) (D : Doms) (ch : Bool), Within a D →
    (∀ c ∈ cs, c.Scoped a.length ∧ Holds a c) →
    ∃ D' ch', sweep true cs D ch = some (D', ch') ∧ Within a D'
  | [], D, ch, h, _ => ⟨D, ch, rfl, h⟩
  | c :: cs, D, ch, h, hall => by
    have hc := hall c List.mem_cons_self
    obtain ⟨D1, h1, hw1⟩ := propCon_sound h (by rw [← h.len]; exact hc.1) hc.2
    obtain ⟨D2, ch2, h2, hw2⟩ := sweep_sound cs D1 (ch || decide (totalSize D1 < totalSize D)) hw1
      fun d hd => hall d (List.mem_cons_of_mem _ hd)
    refine ⟨D2, ch2, ?_, hw2⟩
    simp only [sweep, h1, hw1.no_empty, Bool.false_eq_true, if_false]
    exact h2

theorem propagate_within {a : Asg} {cs : List Con} (hall : ∀ c ∈ cs, c.Scoped a.length ∧ Holds a c) :
    ∀ (fuel : Nat) (D : Doms), Within a D → ∃ D', propagate true cs fuel D = some D' ∧ Within a D'
  | 0, D, h => ⟨D, rfl, h⟩
  | fuel + 1, D, h => by
    obtain ⟨D1, ch, h1, hw1⟩ := sweep_sound cs D false h hall
    simp only [propagate, h1]
    cases ch
    · exact ⟨D1, by simp, hw1⟩
    · obtain ⟨D2, h2, hw2⟩ := propagate_within hall fuel D1 hw1
      exact ⟨D2, by simpa using h2, hw2⟩

def NodupD (D : Doms) : Prop := ∀ i, (dget D i).Nodup

def SubD (D' D : Doms) : Prop := D'.length = D.length ∧ ∀ i, ∀ x ∈ dget D' i, x ∈ dget D i

theorem SubD.len {D' D : Doms} (h : SubD D' D) : D'.length = D.length := h.1

theorem SubD.mem {D' D : Doms} (h : SubD D' D) {i : Nat} {x : Int} (hx : x ∈ dget D' i) : x ∈ dget D i := h.2 i x hx

theorem SubD.refl (D : Doms) : SubD D D := ⟨rfl, fun _ _ h => h⟩

theorem SubD.trans {D₁ D₂ D₃ : Doms} (h1 : SubD D₁ D₂) (h2 : SubD D₂ D₃) : SubD D₁ D₃ :=
  ⟨h1.len.trans h2.len, fun _ _ hx => h2.mem (h1.mem hx)⟩

/-- What every propagator does to the domains: each is included in the old one (so the search stays
inside the declared ranges) and no duplicates appear (so the total size, the fuel, does not grow). -/
structure Narrow (E D : Doms) : Prop where
  sub : SubD E D
  nodup : NodupD D → NodupD E

theorem Narrow.refl (D : Doms) : Narrow D D := ⟨SubD.refl D, id⟩

theorem Narrow.trans {D₁ D₂ D₃ : Doms} (h1 : Narrow D₁ D₂) (h2 : Narrow D₂ D₃) : Narrow D₁ D₃ :=
  ⟨h1.sub.trans h2.sub, fun h => h1.nodup (h2.nodup h)⟩

theorem Narrow.dset {E D : Doms} (h : Narrow E D) {i : Nat} {l : List Int}
    (hl : ∀ x ∈ l, x ∈ dget D i) (hn : NodupD D → NodupD E → l.Nodup) : Narrow (dset E i l) D := by
  refine ⟨⟨(dset_length _ _ _).trans h.sub.len, fun j x hx => ?_⟩, fun hD j => ?_⟩
  · rw [dget_dset] at hx
    split at hx
    · next hc => obtain ⟨rfl, _⟩ := hc; exact hl x hx
    · exact h.sub.mem hx
  · rw [dget_dset]; split
    · exact hn hD (h.nodup hD)
    · exact h.nodup hD j

theorem Narrow.filter {E D : Doms} (h : Narrow E D) (i : Nat) (p : Int → Bool) :
    Narrow (Solvor.Cp.dset E i ((dget E i).filter p)) D :=
  h.dset (fun _ hx => h.sub.mem (List.mem_filter.1 hx).1) fun _ hE => (hE i).filter p

theorem Narrow.discard {E D : Doms} (h : Narrow E D) (i : Nat) (v : Int) :
    Narrow (Solvor.Cp.discard E i v) D :=
  h.filter i _

theorem Narrow.pruneIf {E D : Doms} (h : Narrow E D) (x y : Nat) (g : Int → Int) :
    Narrow (Solvor.Cp.pruneIf E x y g) D := by
  unfold Solvor.Cp.pruneIf; split
  · exact h.discard _ _
  · exact h

theorem Narrow.fix {D : Doms} {v : Nat} {x : Int} (hx : x ∈ dget D v) :
    Narrow (Solvor.Cp.dset D v [x]) D :=
  (Narrow.refl D).dset (fun y hy => by rw [List.mem_singleton.1 hy]; exact hx)
    fun _ _ => List.pairwise_singleton _ x

theorem propOffset_narrow {E D D' : Doms} (hE : Narrow E D) {x y : Nat} {off : Int} {isNe : Bool}
    (h : propOffset E x y off isNe = some D') : Narrow D' D := by
  cases isNe
  · simp only [propOffset, Bool.false_eq_true, if_false] at h
    split at h
    · cases h
    · obtain rfl := Option.some.inj h
      exact (hE.filter x _).dset (fun v hv => hE.sub.mem (List.mem_filter.1 hv).1)
        fun hD _ => (hE.nodup hD y).filter _
  · obtain rfl : pruneIf (pruneIf E x y (· - off)) y x (· + off) = D' := Option.some.inj h
    exact (hE.pruneIf _ _ _).pruneIf _ _ _

theorem propAllDiff_narrow {E D : Doms} (hE : Narrow E D) (vs : List Nat) : Narrow (propAllDiff E vs) D := by
  unfold propAllDiff
  apply List.foldlRecOn (motive := fun F => Narrow F D) vs _ hE
  intro F hF v _
  split
  · apply List.foldlRecOn (motive := fun G => Narrow G D) vs _ hF
    intro G hG o _
    split
    · exact hG.discard _ _
    · exact hG
  · exact hF

theorem propCon_narrow {r : Bool} {E D D' : Doms} (hE : Narrow E D) {c : Con}
    (h : propCon r E c = some D') : Narrow D' D := by
  cases c with
  | allDiff vs => obtain rfl := Option.some.inj h; exact propAllDiff_narrow hE vs
  | eqConst v k =>
    simp only [propCon] at h
    split at h
    · next hc =>
      obtain rfl := Option.some.inj h
      exact hE.dset (fun x hx => by rw [List.mem_singleton.1 hx]; exact hE.sub.mem (by simpa using hc))
        fun _ _ => List.pairwise_singleton _ k
    · cases h
  | neConst v k => obtain rfl := Option.some.inj h; exact hE.discard _ _
  | eqVar x y =>
    simp only [propCon] at h
    split at h
    · cases h
    · obtain rfl := Option.some.inj h
      exact (hE.filter x fun v => (dget E y).contains v).dset
        (fun v hv => hE.sub.mem (by simpa using (List.mem_filter.1 hv).2))
        fun hD _ => (hE.nodup hD x).filter _
  | neVar x y =>
    obtain rfl : pruneIf (pruneIf E x y id) y x id = D' := Option.some.inj h
    exact (hE.pruneIf _ _ _).pruneIf _ _ _
  | rel l rr isNe =>
    simp only [propCon, propRel] at h
    split at h
    · split at h
      · exact propOffset_narrow hE h
      · exact propOffset_narrow hE h
      · obtain rfl := Option.some.inj h; exact hE
    · split at h
      · exact propOffset_narrow hE h
      · obtain rfl := Option.some.inj h; exact hE
  | _ => obtain rfl := Option.some.inj h; exact hE

theorem sweep_narrow {r : Bool} {D : Doms} : ∀ (cs : List Con) (E : Doms) (ch : Bool) {D' : Doms} {ch' : Bool},
    Narrow E D → E.any List.isEmpty = false → sweep r cs E ch = some (D', ch') →
    Narrow D' D ∧ D'.any List.isEmpty = false
  | [], E, ch, D', ch', hE, hne, h => by
    simp only [sweep, Option.some.injEq, Prod.mk.injEq] at h
    obtain ⟨rfl, _⟩ := h; exact ⟨hE, hne⟩
  | c :: cs, E, ch, D', ch', hE, hne, h => by
    simp only [sweep] at h
    split at h
    · cases h
    · next D1 h1 =>
      split at h
      · cases h
      · next hne1 => exact sweep_narrow cs D1 _ (propCon_narrow hE h1) (Bool.eq_false_iff.2 hne1) h

theorem propagate_narrow {r : Bool} {cs : List Con} {D : Doms} : ∀ (fuel : Nat) (E : Doms) {D' : Doms},
    Narrow E D → E.any List.isEmpty = false → propagate r cs fuel E = some D' →
    Narrow D' D ∧ D'.any List.isEmpty = false
  | 0, E, D', hE, hne, h => by
    simp only [propagate, Option.some.injEq] at h; subst h; exact ⟨hE, hne⟩
  | fuel + 1, E, D', hE, hne, h => by
    simp only [propagate] at h
    split at h
    · cases h
    · next D1 ch h1 =>
      have := sweep_narrow cs E false hE hne h1
      split at h
      · exact propagate_narrow fuel D1 this.1 this.2 h
      · obtain rfl := Option.some.inj h; exact this

theorem totalSize_cons (d : List Int) (D : Doms) : totalSize (d :: D) = d.length + totalSize D := by
  simp [totalSize]

theorem totalSize_dset : ∀ (D : Doms) (i : Nat) (l : List Int), i < D.length →
    totalSize (dset D i l) + (dget D i).length = totalSize D + l.length
  | [], _, _, h => nomatch h
  | d :: D, 0, l, _ => by
    show (l.length + totalSize D) + d.length = (d.length + totalSize D) + l.length
    omega
  | d :: D, i + 1, l, h => by
    have := totalSize_dset D i l (Nat.lt_of_succ_lt_succ h)
    show (d.length + totalSize (dset D i l)) + (dget D i).length = (d.length + totalSize D) + l.length
    omega

theorem totalSize_le_of_length_le : ∀ (E D : Doms), E.length = D.length →
    (∀ i, (dget E i).length ≤ (dget D i).length) → totalSize E ≤ totalSize D
  | [], [], _, _ => Nat.le_refl _
  | e :: E, d :: D, hl, h => by
    rw [totalSize_cons, totalSize_cons]
    exact Nat.add_le_add (h 0) (totalSize_le_of_length_le E D (by simpa using hl) fun i => h (i + 1))
  | [], _ :: _, hl, _ => by simp at hl
  | _ :: _, [], hl, _ => by simp at hl

theorem Narrow.size_le {E D : Doms} (h : Narrow E D) (hD : NodupD D) : totalSize E ≤ totalSize D :=
  totalSize_le_of_length_le E D h.sub.len fun i => (h.nodup hD i).length_le_of_subset fun _ => h.sub.mem

theorem irange_nodup (lb ub : Int) : (irange lb ub).Nodup :=
  (irange_sorted lb ub).imp (by intro a b h; omega)

abbrev declDoms (vars : List VarDecl) : Doms := vars.map fun d => irange d.lb d.ub

/-- every hint whose value lies in the declared range binds `a`.  `initDoms` applies a hint when its value is still in the
current domain: with one hint per variable (what the driver sends) these are the same hints; of two in-range hints for one
variable it applies only the first, while this predicate asks for both -/
abbrev AgreesWithHints (vars : List VarDecl) (hints : List (Nat × Int)) (a : Asg) : Prop :=
  ∀ h ∈ hints, h.2 ∈ dget (declDoms vars) h.1 → val a h.1 = h.2

theorem within_of_inDom : ∀ {a : Asg} {ds : List VarDecl}, InDom a ds →
    Within a (declDoms ds)
  | [], [], _ => ⟨rfl, fun _ hi => nomatch hi⟩
  | _ :: _, _ :: _, h =>
    ⟨congrArg Nat.succ (within_of_inDom h.2).1, fun i hi => match i, hi with
      | 0, _ => mem_irange.2 h.1
      | i + 1, hi => (within_of_inDom h.2).2 i (Nat.lt_of_succ_lt_succ hi)⟩
  | [], _ :: _, h => h.elim
  | _ :: _, [], h => h.elim

theorem initDoms_narrow (vars : List VarDecl) (hints : List (Nat × Int)) :
    Narrow (initDoms vars hints) (declDoms vars) := by
  unfold initDoms
  refine List.foldlRecOn (motive := fun E => Narrow E (declDoms vars)) _ _
    (Narrow.refl _) fun E hE h _ => ?_
  split
  · next hc => exact (Narrow.fix (by simpa using hc)).trans hE
  · exact hE

theorem initDoms_sub (vars : List VarDecl) (hints : List (Nat × Int)) :
    SubD (initDoms vars hints) (declDoms vars) := (initDoms_narrow vars hints).sub

theorem initDoms_nodup (vars : List VarDecl) (hints : List (Nat × Int)) : NodupD (initDoms vars hints) := by
  refine (initDoms_narrow vars hints).nodup fun i => ?_
  by_cases hi : i < (declDoms vars).length
  · rw [dget_eq_getElem hi, List.getElem_map]; exact irange_nodup _ _
  · rw [dget_of_ge (Nat.le_of_not_lt hi)]; exact List.nodup_nil

theorem initDoms_noEmpty (vars : List VarDecl) (hne : ∀ d ∈ vars, d.lb ≤ d.ub) (hints : List (Nat × Int)) :
    (initDoms vars hints).any List.isEmpty = false := by
  unfold initDoms
  refine List.foldlRecOn (motive := fun E : Doms => E.any List.isEmpty = false) _ _ ?_ fun E hE h _ => ?_
  · refine noEmpty_iff.2 fun i hi => ?_
    rw [dget_eq_getElem hi, List.getElem_map]
    exact List.ne_nil_of_mem (mem_irange.2 ⟨Int.le_refl _, hne _ (List.getElem_mem _)⟩)
  · split
    · exact noEmpty_dset hE _ (List.cons_ne_nil _ _)
    · exact hE

theorem initDoms_empty (vars : List VarDecl) (h : ∃ d ∈ vars, d.ub < d.lb) (hints : List (Nat × Int)) :
    (initDoms vars hints).any List.isEmpty = true := by
  obtain ⟨d, hd, hlt⟩ := h
  obtain ⟨i, hi, rfl⟩ := List.mem_iff_getElem.1 hd
  have hsub := initDoms_sub vars hints
  have hi' : i < (declDoms vars).length := by rw [List.length_map]; exact hi
  refine any_isEmpty_iff.2 ⟨i, hsub.len ▸ hi', List.eq_nil_iff_forall_not_mem.2 fun x hx => ?_⟩
  have := hsub.mem hx
  rw [dget_eq_getElem hi', List.getElem_map] at this
  have := mem_irange.1 this; omega

theorem initDoms_within {a : Asg} {vars : List VarDecl} (ha : InDom a vars) (hints : List (Nat × Int))
    (hh : AgreesWithHints vars hints a) :
    Within a (initDoms vars hints) := by
  unfold initDoms
  -- a hint that is applied lies in the declared range, so it is the value of `a`
  refine (List.foldlRecOn (motive := fun E => Within a E ∧ SubD E (declDoms vars))
    hints _ ⟨within_of_inDom ha, SubD.refl _⟩ fun E ⟨hw, hsub⟩ h hmem => ?_).1
  split
  · next hc =>
    have hin : h.2 ∈ dget E h.1 := by simpa using hc
    have hv := hh h hmem (hsub.mem hin)
    exact ⟨hw.dset fun _ => by simp [hv], (Narrow.fix hin).sub.trans hsub⟩
  · exact ⟨hw, hsub⟩

end Solvor.Cp
