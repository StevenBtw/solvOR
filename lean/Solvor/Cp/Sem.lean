import Solvor.Cp.Syntax
/-! Cp.Sem: the denotation of every constraint kind (`Holds`, the spec), its verified Bool
evaluator `check` (`check_iff`), and the exhaustive solution enumerator `solutions`
(`mem_solutions`). No Mathlib. -/
namespace Solvor.Cp

/-- An assignment: value of variable `i` at position `i`. -/
abbrev Asg := List Int

def val (a : Asg) (i : Nat) : Int := a.getD i 0

def Expr.eval (a : Asg) : Expr → Int
  | .var i => val a i
  | .const c => c
  | .add x y => x.eval a + y.eval a
  | .sub x y => x.eval a - y.eval a
  | .rsub x c => c - x.eval a
  | .mul x c => x.eval a * c

/-- `lb..ub` inclusive, ascending. -/
def irange (lb ub : Int) : List Int := (List.range (ub + 1 - lb).toNat).map fun (k : Nat) => lb + (k : Int)

theorem mem_irange {lb ub x : Int} : x ∈ irange lb ub ↔ lb ≤ x ∧ x ≤ ub := by
  simp only [irange, List.mem_map, List.mem_range]
  constructor
  · rintro ⟨k, hk, rfl⟩; omega
  · rintro ⟨h1, h2⟩; exact ⟨(x - lb).toNat, by omega, by omega⟩

/-- `k`-th successor of node `cur` when node `i` points to `xs[i]`. -/
def iter (xs : List Int) : Nat → Int → Int
  | 0, cur => cur
  | k + 1, cur => iter xs k (xs.getD cur.toNat 0)

/-- Tasks of a cumulative constraint: `(start variable, duration, demand)`. -/
def tasks (ss : List Nat) (ds dm : List Int) : List (Nat × Int × Int) := ss.zip (ds.zip dm)

/-- Total demand of the tasks running at time `t` (`start ≤ t < start + duration`). -/
def load (a : Asg) (ts : List (Nat × Int × Int)) (t : Int) : Int :=
  (ts.map fun (s, d, dem) => if val a s ≤ t ∧ t < val a s + d then dem else 0).sum

/-- **The spec**: what it means for an assignment to satisfy a constraint. -/
def Holds (a : Asg) : Con → Prop
  | .allDiff vs => (vs.map (val a)).Nodup
  | .eqConst v c => val a v = c
  | .neConst v c => val a v ≠ c
  | .eqVar x y => val a x = val a y
  | .neVar x y => val a x ≠ val a y
  | .rel l r isNe => if isNe then l.eval a ≠ r.eval a else l.eval a = r.eval a
  | .sumEq vs t => (vs.map (val a)).sum = t
  | .sumLe vs t => (vs.map (val a)).sum ≤ t
  | .sumGe vs t => (vs.map (val a)).sum ≥ t
  | .circuit vs =>
    -- successors are node indices, no self loop, and following the successors from node 0
    -- visits `n` distinct nodes and returns to 0: one Hamiltonian cycle
    let xs := vs.map (val a)
    let n := vs.length
    (∀ x ∈ xs, 0 ≤ x ∧ x < n) ∧ (∀ i, i < n → xs.getD i 0 ≠ i) ∧
      ((List.range n).map fun k => iter xs k 0).Nodup ∧ iter xs n 0 = 0
  | .noOverlap ss ds =>
    (ss.zip ds).Pairwise fun p q => val a p.1 + p.2 ≤ val a q.1 ∨ val a q.1 + q.2 ≤ val a p.1
  | .cumulative ss ds dm cap => ∀ t : Int, load a (tasks ss ds dm) t ≤ cap

theorem load_eq_zero {a : Asg} {ts : List (Nat × Int × Int)} {t : Int}
    (h : ∀ p ∈ ts, ¬ (val a p.1 ≤ t ∧ t < val a p.1 + p.2.1)) : load a ts t = 0 := by
  induction ts with
  | nil => rfl
  | cons p ts ih =>
    obtain ⟨s, d, dem⟩ := p
    have h1 := h (s, d, dem) List.mem_cons_self
    have h2 := ih fun q hq => h q (List.mem_cons_of_mem _ hq)
    simp only [load, List.map_cons, List.sum_cons] at h2 ⊢
    simp only [h1, if_false, h2]; rfl

theorem foldl_min_le {α} (f : α → Int) : ∀ (l : List α) (z : Int),
    l.foldl (fun m p => min m (f p)) z ≤ z ∧ ∀ p ∈ l, l.foldl (fun m p => min m (f p)) z ≤ f p
  | [], z => by simp
  | q :: l, z => by
    have := foldl_min_le f l (min z (f q))
    simp only [List.foldl_cons, List.mem_cons, forall_eq_or_imp]
    exact ⟨by omega, by omega, this.2⟩

/-- Bounded form of the cumulative clause: only times inside some task matter, which makes it decidable. -/
def cumBounded (a : Asg) (ts : List (Nat × Int × Int)) (cap : Int) : Prop :=
  0 ≤ cap ∧ ∀ p ∈ ts, ∀ t ∈ irange (val a p.1) (val a p.1 + p.2.1 - 1), load a ts t ≤ cap

theorem cumulative_iff_bounded (a : Asg) (ts : List (Nat × Int × Int)) (cap : Int) :
    (∀ t : Int, load a ts t ≤ cap) ↔ cumBounded a ts cap := by
  constructor
  · intro h
    refine ⟨?_, fun p _ t _ => h t⟩
    -- a time before every task: nothing runs
    let t0 : Int := (ts.map fun p => val a p.1).foldl min 0 - 1
    have : load a ts t0 = 0 := by
      apply load_eq_zero
      intro p hp hact
      have : (ts.map fun p => val a p.1).foldl min 0 ≤ val a p.1 :=
        (foldl_min_le id _ 0).2 _ (List.mem_map.2 ⟨p, hp, rfl⟩)
      omega
    have := h t0; omega
  · rintro ⟨h0, h⟩ t
    by_cases hex : ∃ p ∈ ts, val a p.1 ≤ t ∧ t < val a p.1 + p.2.1
    · obtain ⟨p, hp, hact⟩ := hex
      exact h p hp t (mem_irange.2 ⟨hact.1, by omega⟩)
    · rw [load_eq_zero (by intro p hp hact; exact hex ⟨p, hp, hact⟩)]; exact h0

instance (a : Asg) (ts : List (Nat × Int × Int)) (cap : Int) : Decidable (cumBounded a ts cap) := by
  unfold cumBounded; infer_instance

instance instDecidableHolds (a : Asg) : (c : Con) → Decidable (Holds a c)
  | .allDiff vs => inferInstanceAs (Decidable ((vs.map (val a)).Nodup))
  | .eqConst .. | .neConst .. | .eqVar .. | .neVar .. => by unfold Holds; infer_instance
  | .rel l r isNe => by unfold Holds; infer_instance
  | .sumEq .. | .sumLe .. | .sumGe .. => by unfold Holds; infer_instance
  | .circuit vs => by unfold Holds; infer_instance
  | .noOverlap ss ds => by unfold Holds; infer_instance
  | .cumulative ss ds dm cap => decidable_of_iff _ (cumulative_iff_bounded a (tasks ss ds dm) cap).symm

/-- The verified evaluator. -/
def check (a : Asg) (c : Con) : Bool := decide (Holds a c)

theorem check_iff (a : Asg) (c : Con) : check a c = true ↔ Holds a c := by simp [check]

/-- Every variable has a value inside its domain (and there are exactly as many values as variables). -/
def InDom : Asg → List VarDecl → Prop
  | [], [] => True
  | x :: a, d :: ds => (d.lb ≤ x ∧ x ≤ d.ub) ∧ InDom a ds
  | _, _ => False

instance : (a : Asg) → (ds : List VarDecl) → Decidable (InDom a ds)
  | [], [] => isTrue trivial
  | x :: a, d :: ds =>
    have := instDecidableInDom a ds  -- recursive instance
    by unfold InDom; infer_instance
  | [], _ :: _ => isFalse (by simp [InDom])
  | _ :: _, [] => isFalse (by simp [InDom])

def allAsg : List VarDecl → List Asg
  | [] => [[]]
  | d :: ds => (irange d.lb d.ub).flatMap fun x => (allAsg ds).map (x :: ·)

theorem mem_allAsg {a : Asg} {ds : List VarDecl} : a ∈ allAsg ds ↔ InDom a ds := by
  induction ds generalizing a with
  | nil => cases a <;> simp [allAsg, InDom]
  | cons d ds ih =>
    cases a with
    | nil => simp [allAsg, InDom]
    | cons x a =>
      simp only [allAsg, List.mem_flatMap, List.mem_map, InDom, mem_irange]
      constructor
      · rintro ⟨y, hy, b, hb, h⟩
        obtain ⟨rfl, rfl⟩ := List.cons.inj h
        exact ⟨hy, ih.1 hb⟩
      · rintro ⟨hx, ha⟩; exact ⟨x, hx, a, ih.2 ha, rfl⟩

def satisfies (M : Model) (a : Asg) : Bool := M.cons.all (check a)

/-- All solutions of the model, by exhaustive enumeration. -/
def solutions (M : Model) : List Asg := (allAsg M.vars).filter (satisfies M)

/-- The CP solutions of a model (the set the properties C05/C06 speak about). -/
def IsSolution (M : Model) (a : Asg) : Prop := InDom a M.vars ∧ ∀ c ∈ M.cons, Holds a c

theorem mem_solutions {M : Model} {a : Asg} : a ∈ solutions M ↔ IsSolution M a := by
  simp [solutions, satisfies, IsSolution, mem_allAsg, check_iff]

end Solvor.Cp
