import Solvor.Cp.CircuitLemmas
import Solvor.Cp.ModelLemmas
/-! The clause-level part of the circuit encoding — order variables, MTZ clauses — and its exactness (`encCircuit_exact`). -/
namespace Solvor.Cp
open Solvor.Cp.Sat

def orderDecl (n i : Nat) : VarDecl := ⟨if i = 0 then 0 else 1, (n : Int) - 1⟩

theorem mkOrderVars_eq_mkVars (n nx : Nat) :
    mkOrderVars n n nx = mkVars ((List.range n).map (orderDecl n)) nx := by
  -- `mkOrderVars n k` allocates for the nodes `n - k, …, n - 1`
  have gen : ∀ k nx, k ≤ n →
      mkOrderVars n k nx = mkVars ((List.range k).map fun p => orderDecl n (n - k + p)) nx := by
    intro k
    induction k with
    | zero => intro _ _; rfl
    | succ k ih =>
      intro nx hk
      have e : (List.range (k + 1)).map (fun p => orderDecl n (n - (k + 1) + p))
          = orderDecl n (n - (k + 1)) :: (List.range k).map fun p => orderDecl n (n - k + p) := by
        rw [List.range_succ_eq_map, List.map_cons, List.map_map]
        congr 1
        apply List.map_congr_left
        intro p _
        show orderDecl n (n - (k + 1) + (p + 1)) = _
        rw [show n - (k + 1) + (p + 1) = n - k + p by omega]
      rw [e]
      show (mkAux _ _ nx :: (mkOrderVars n k _).1, (mkOrderVars n k _).2) = _
      rw [ih _ (by omega)]; rfl
  rw [gen n nx (Nat.le_refl _)]
  congr 1
  apply List.map_congr_left
  intro p _; rw [Nat.sub_self, Nat.zero_add]

/-- what the clause lemmas need of the order variables `Ts` of `n` nodes -/
structure OrderVars (n : Nat) (Ts : List EVar) : Prop where
  lb : ∀ p, p < n → (Ts.getD p default).lb = if p = 0 then 0 else 1
  ub : ∀ p, p < n → (Ts.getD p default).ub = (n : Int) - 1
  pos : ∀ p, p < n → 0 < (Ts.getD p default).base

theorem mkOrderVars_orderVars (n nx : Nat) (hnx : 0 < nx) :
    (mkOrderVars n n nx).1.length = n ∧ nx ≤ (mkOrderVars n n nx).2 ∧
      OrderVars n (mkOrderVars n n nx).1 ∧
      ∀ p, p < n → ((mkOrderVars n n nx).1.getD p default).Below (mkOrderVars n n nx).2 := by
  rw [mkOrderVars_eq_mkVars]
  have hlen : (mkVars ((List.range n).map (orderDecl n)) nx).1.length = n := by
    rw [mkVars_length, List.length_map, List.length_range]
  have hB := fun p (hp : p < n) =>
    mkVars_below _ nx hnx _ (ev_mem (Vs := (mkVars ((List.range n).map (orderDecl n)) nx).1)
      (by rw [hlen]; exact hp))
  have hr : ∀ p, p < n → VarDecl.mk ((mkVars ((List.range n).map (orderDecl n)) nx).1.getD p default).lb
      ((mkVars ((List.range n).map (orderDecl n)) nx).1.getD p default).ub = orderDecl n p := fun p hp => by
    rw [mkVars_getD, getD_map_range _ _ hp]
  exact ⟨hlen, mkVars_mono _ _, ⟨fun p hp => congrArg VarDecl.lb (hr p hp),
    fun p hp => congrArg VarDecl.ub (hr p hp), fun p hp => (hB p hp).1⟩, hB⟩

theorem mkOrderVars_encode (n nx : Nat) (τ : Nat → Int) (β : Nat → Bool) (hnx : 0 < nx)
    (h : ∀ p, p < n → (if p = 0 then (0 : Int) else 1) ≤ τ p ∧ τ p ≤ (n : Int) - 1) :
    ∃ β', AgreeBelow nx β β' ∧
      ∀ p, p < n → Rep β' ((mkOrderVars n n nx).1.getD p default) (τ p) := by
  rw [mkOrderVars_eq_mkVars]
  obtain ⟨β', hag, hr⟩ := mkVars_encode _ nx ((List.range n).map τ) β hnx
    (inDom_map τ (orderDecl n) _ fun p hp => h p (List.mem_range.1 hp))
  refine ⟨β', hag, fun p hp => ?_⟩
  have := (hr.repP (i := p) (by rw [mkVars_length, List.length_map, List.length_range]; exact hp)).rep
  rwa [show val ((List.range n).map τ) p = τ p from getD_map_range τ 0 hp] at this

theorem cnfTrue_zipIdx {α} {β : Nat → Bool} {l : List α} {F : α × Nat → Cnf} :
    cnfTrue β (l.zipIdx.flatMap F) = true ↔ ∀ i (h : i < l.length), cnfTrue β (F (l[i], i)) = true :=
  cnfTrue_flatMap.trans
    ⟨fun h i hi => h (l[i], i) (List.mem_zipIdx_iff_getElem?.2 (List.getElem?_eq_getElem hi)),
     fun h p hp => by
      obtain ⟨hi, e⟩ := List.getElem?_eq_some_iff.1 (List.mem_zipIdx_iff_getElem?.1 hp)
      exact (Prod.ext e rfl : (l[p.2], p.2) = p) ▸ h p.2 hi⟩

theorem cnfTrue_filterMap {α} {β : Nat → Bool} {l : List α} {F : α → Option Clause} :
    cnfTrue β (l.filterMap F) = true ↔ ∀ x ∈ l, ∀ c, F x = some c → clauseTrue β c = true := by
  rw [cnfTrue_iff, List.forall_mem_filterMap]

theorem clause_not3 {β : Nat → Bool} {X Y Z : EVar} {x y z : Int} (hx : RepP β X x) (hy : RepP β Y y)
    (hz : RepP β Z z) {u v w : Int} (hu : u ∈ X.dom) (hv : v ∈ Y.dom) (hw : w ∈ Z.dom) :
    clauseTrue β [-(X.lit u), -(Y.lit v), -(Z.lit w)] = true ↔ ¬ (u = x ∧ v = y ∧ w = z) :=
  ((hx.clause_neg hu _).trans (imp_congr_right fun _ => (hy.clause_neg hv _).trans
    (imp_congr_right fun _ => hz.clause_not hw))).trans (by simp only [not_and, ne_eq])

/-- the part of the circuit encoding without order variables -/
def circuitBase (Xs : List EVar) : Cnf :=
  encAllDiff Xs ++
    (Xs.zipIdx.flatMap fun (X, i) => if X.has i then [[-(X.lit i)]] else []) ++
    (Xs.flatMap fun X => forbid1 X fun v => !(decide (0 ≤ v) && decide (v < Xs.length)))

theorem circuitBase_iff {β : Nat → Bool} {Vs : List EVar} {a : Asg} (h : Enc β Vs a) {vs : List Nat}
    (hs : ∀ v ∈ vs, v < Vs.length) :
    cnfTrue β (circuitBase (vs.map (ev Vs))) = true ↔
      (vs.map (val a)).Nodup ∧ (∀ i, i < vs.length → (vs.map (val a)).getD i 0 ≠ i) ∧
        InRange (vs.map (val a)) := by
  unfold circuitBase InRange
  rw [cnfTrue_append_iff, cnfTrue_append_iff, encAllDiff_iff h hs, cnfTrue_zipIdx, cnfTrue_flatMap,
    and_assoc, List.forall_mem_map, List.forall_mem_map]
  simp only [List.length_map, List.getElem_map]
  refine and_congr_right fun _ => and_congr (forall₂_congr fun i hi => ?_) (forall₂_congr fun v hv => ?_)
  · have hr := h.repP (hs _ (List.getElem_mem hi))
    have hget : (vs.map (val a)).getD i 0 = val a vs[i] := by
      simp [List.getD_eq_getElem?_getD, hi]
    rw [hget]
    exact encNeConst_iff hr i
  · have hr := h.repP (hs v hv)
    rw [forbid1_iff hr]
    simp

def circuitMtz (Xs Ts : List EVar) : Cnf :=
  Xs.zipIdx.flatMap fun (X, i) =>
    (List.range (Xs.length - 1)).flatMap fun j' =>
      if X.has ((j' + 1 : Nat) : Int) then
        (Ts.getD i default).dom.flatMap fun ti => (irange (Ts.getD (j' + 1) default).lb ti).filterMap fun tj =>
          if (Ts.getD (j' + 1) default).has tj then
            some [-(X.lit ((j' + 1 : Nat) : Int)), -((Ts.getD i default).lit ti), -((Ts.getD (j' + 1) default).lit tj)]
          else none
      else []

theorem mtzArc_iff {β : Nat → Bool} {X Ti Tj : EVar} {x a b j : Int} (hx : RepP β X x)
    (ha : RepP β Ti a) (hb : RepP β Tj b) (hj : j ∈ X.dom) :
    cnfTrue β (Ti.dom.flatMap fun ti => (irange Tj.lb ti).filterMap fun tj =>
      if Tj.has tj then some [-(X.lit j), -(Ti.lit ti), -(Tj.lit tj)] else none) = true ↔
      (j = x → ¬ b ≤ a) := by
  rw [cnfTrue_flatMap]
  constructor
  · intro hall hjx hle
    have h3 := cnfTrue_filterMap.1 (hall a ha.rep.mem_dom) b (mem_irange.2 ⟨hb.rep.bounds.1, hle⟩) _ (if_pos hb.rep.has)
    exact (clause_not3 hx ha hb hj ha.rep.mem_dom hb.rep.mem_dom).1 h3 ⟨hjx, rfl, rfl⟩
  · intro hall ti hti
    rw [cnfTrue_filterMap]
    intro tj htj c hc
    split at hc
    · next hhj =>
      rw [← Option.some.inj hc]
      refine (clause_not3 hx ha hb hj hti (EVar.mem_dom_of_has hhj)).2 ?_
      rintro ⟨hjx, rfl, rfl⟩
      exact hall hjx (mem_irange.1 htj).2
    · cases hc

theorem circuitMtz_iff {β : Nat → Bool} {Vs : List EVar} {a : Asg} (h : Enc β Vs a) {vs : List Nat}
    (hs : ∀ v ∈ vs, v < Vs.length) {Ts : List EVar} {t : Nat → Int}
    (hT : ∀ i, i < vs.length → RepP β (Ts.getD i default) (t i)) :
    cnfTrue β (circuitMtz (vs.map (ev Vs)) Ts) = true ↔
      ∀ i (hi : i < vs.length), ∀ j : Nat, 1 ≤ j → j < vs.length → val a vs[i] = (j : Int) → ¬ t j ≤ t i := by
  unfold circuitMtz
  rw [cnfTrue_zipIdx]
  simp only [List.length_map, List.getElem_map]
  refine forall₂_congr fun i hi => ?_
  have hr := h.repP (hs _ (List.getElem_mem hi))
  have harc := fun (j : Nat) (hj : j < vs.length) (hhas : (ev Vs vs[i]).has (j : Int) = true) =>
    mtzArc_iff hr (hT i hi) (hT j hj)
      (EVar.mem_dom.2 (EVar.has_iff.1 hhas))
  rw [cnfTrue_flatMap]
  constructor
  · intro h1 j hj1 hjn hxj
    obtain ⟨j', rfl⟩ := Nat.exists_eq_succ_of_ne_zero (Nat.ne_of_gt hj1)
    have hhas : (ev Vs vs[i]).has ((j' + 1 : Nat) : Int) = true := by rw [← hxj]; exact hr.rep.has
    have h2 := h1 j' (List.mem_range.2 (by omega))
    rw [if_pos hhas] at h2
    exact (harc (j' + 1) hjn hhas).1 h2 hxj.symm
  · intro hall j' hj'
    have hj'' := List.mem_range.1 hj'
    split
    · next hhas => exact (harc (j' + 1) (by omega) hhas).2 fun hx => hall (j' + 1) (by omega) (by omega) hx.symm
    · rfl

theorem encCircuit_eq (Xs : List EVar) (next : Nat) (hn : 2 ≤ Xs.length) :
    encCircuit Xs next =
      (circuitBase Xs ++ (mkOrderVars Xs.length Xs.length next).1.flatMap auxClauses ++
        [[((mkOrderVars Xs.length Xs.length next).1.getD 0 default).lit 0]] ++
        circuitMtz Xs (mkOrderVars Xs.length Xs.length next).1,
       (mkOrderVars Xs.length Xs.length next).2) := by
  unfold encCircuit
  have h0 : ¬ Xs.length = 0 := by omega
  have h1 : ¬ Xs.length ≤ 1 := by omega
  simp only [h0, h1, if_false]
  rfl

theorem encCircuit_small (Xs : List EVar) (next : Nat) (hn : Xs.length ≤ 1) :
    encCircuit Xs next = (circuitBase Xs, next) := by
  match Xs, hn with
  | [], _ => rfl
  | [_], _ => rfl

theorem holds_circuit_iff (a : Asg) (vs : List Nat) :
    Holds a (.circuit vs) ↔
      InRange (vs.map (val a)) ∧ (∀ i, i < vs.length → (vs.map (val a)).getD i 0 ≠ i) ∧
        ((List.range vs.length).map fun k => iter (vs.map (val a)) k 0).Nodup ∧
        iter (vs.map (val a)) vs.length 0 = 0 := by
  unfold Holds InRange
  simp only [List.length_map]

theorem succN_map {a : Asg} {vs : List Nat} (hr : InRange (vs.map (val a))) {i : Nat} (hi : i < vs.length) :
    succN (vs.map (val a)) i < vs.length ∧ val a vs[i] = (succN (vs.map (val a)) i : Int) := by
  have hi' : i < (vs.map (val a)).length := by rw [List.length_map]; exact hi
  exact ⟨List.length_map (val a) ▸ succN_lt hr hi', by rw [← getElem_eq_succN hr hi', List.getElem_map]⟩

theorem clause_t0 {β : Nat → Bool} {T : EVar} {t : Int} (ht : RepP β T t)
    (h0 : T.lb ≤ 0 ∧ 0 ≤ T.ub) : cnfTrue β [[T.lit 0]] = true ↔ t = 0 := by
  have := encEqConst_iff ht 0
  rwa [encEqConst, if_pos (EVar.has_iff.2 h0)] at this

theorem circuit_sound {β : Nat → Bool} {Vs : List EVar} {a : Asg} (he : Enc β Vs a) {vs : List Nat}
    (hs : ∀ v ∈ vs, v < Vs.length) (hbig : 2 ≤ vs.length) {Ts : List EVar}
    (hT : OrderVars vs.length Ts)
    (hbase : cnfTrue β (circuitBase (vs.map (ev Vs))) = true)
    (haux : ∀ p, p < vs.length → cnfTrue β (auxClauses (Ts.getD p default)) = true)
    (ht0 : cnfTrue β [[(Ts.getD 0 default).lit 0]] = true)
    (hmtz : cnfTrue β (circuitMtz (vs.map (ev Vs)) Ts) = true) : Holds a (.circuit vs) := by
  let t : Nat → Int := fun p => (decodeVar β (Ts.getD p default)).getD 0
  have hrep : ∀ p, p < vs.length → RepP β (Ts.getD p default) (t p) := by
    intro p hp
    obtain ⟨x, hx⟩ := (exactlyOne_iff (hT.pos p hp)
      (by rw [hT.lb p hp, hT.ub p hp]; split <;> omega)).1 (haux p hp)
    refine ⟨hT.pos p hp, ?_⟩
    simp only [t, decodeVar_of_rep hx, Option.getD_some]; exact hx
  obtain ⟨hnd, hself, hrange⟩ := (circuitBase_iff he hs).1 hbase
  have hmtz' := (circuitMtz_iff he hs hrep).1 hmtz
  have ht00 : t 0 = 0 := by
    have h0 := hrep 0 (by omega)
    refine (clause_t0 h0 ?_).1 ht0
    rw [hT.lb 0 (by omega), hT.ub 0 (by omega)]; simp only [if_true]; omega
  have hord : MtzOrder (succN (vs.map (val a))) vs.length t := by
    refine ⟨ht00, fun p hp => ?_, fun i hi hne => ?_⟩
    · have := (hrep p hp).rep.bounds
      rwa [hT.lb p hp, hT.ub p hp] at this
    · exact Int.not_le.1 (hmtz' i hi _ (Nat.pos_of_ne_zero hne) (succN_map hrange hi).1 (succN_map hrange hi).2)
  exact (holds_circuit_iff a vs).2 ⟨hrange, hself, (circuit_iff_ord hrange (List.length_map _)).2 ⟨hnd, t, hord⟩⟩

theorem circuit_complete {β : Nat → Bool} {Vs : List EVar} {a : Asg} (he : Enc β Vs a) {vs : List Nat}
    (hs : ∀ v ∈ vs, v < Vs.length) (hbig : 2 ≤ vs.length) {Ts : List EVar}
    (hT : OrderVars vs.length Ts) {τ : Nat → Int} (hord : MtzOrder (succN (vs.map (val a))) vs.length τ)
    (hnd : (vs.map (val a)).Nodup) (hself : ∀ i, i < vs.length → (vs.map (val a)).getD i 0 ≠ i)
    (hrange : InRange (vs.map (val a)))
    (hrep : ∀ p, p < vs.length → Rep β (Ts.getD p default) (τ p)) :
    cnfTrue β (circuitBase (vs.map (ev Vs))) = true ∧
      (∀ p, p < vs.length → cnfTrue β (auxClauses (Ts.getD p default)) = true) ∧
      cnfTrue β [[(Ts.getD 0 default).lit 0]] = true ∧
      cnfTrue β (circuitMtz (vs.map (ev Vs)) Ts) = true := by
  refine ⟨(circuitBase_iff he hs).2 ⟨hnd, hself, hrange⟩,
    fun p hp => auxClauses_of_rep (hT.pos p hp) (hrep p hp), ?_, ?_⟩
  · have h0 := hrep 0 (by omega)
    refine (clause_t0 ⟨hT.pos 0 (by omega), h0⟩ ?_).2 hord.zero
    have := h0.bounds; rwa [hord.zero] at this
  · apply (circuitMtz_iff he hs (t := τ) fun p hp => ⟨hT.pos p hp, hrep p hp⟩).2
    intro i hi j hj1 _ hxj
    obtain rfl : succN (vs.map (val a)) i = j := Int.ofNat.inj ((succN_map hrange hi).2.symm.trans hxj)
    exact Int.not_le.2 (hord.step i hi (Nat.ne_of_gt hj1))

theorem encCircuit_exact {Vs : List EVar} {nx : Nat} (hB : ∀ V ∈ Vs, V.Below nx)
    {vs : List Nat} (hs : ∀ v ∈ vs, v < Vs.length) :
    Exact Vs (fun a => Holds a (.circuit vs)) (encCircuit (vs.map (ev Vs)) nx).1 nx
      (encCircuit (vs.map (ev Vs)) nx).2 := by
  have hlen : (vs.map (ev Vs)).length = vs.length := List.length_map _
  rcases Nat.lt_or_ge vs.length 2 with hsmall | hbig
  · -- at most one node: no order variables; a single node would be its own successor or out of range
    rw [encCircuit_small _ _ (by rw [hlen]; omega)]
    refine Exact.of_iff hB fun β a he => ?_
    rw [circuitBase_iff he hs, holds_circuit_iff]
    have key : InRange (vs.map (val a)) → (∀ i, i < vs.length → (vs.map (val a)).getD i 0 ≠ i) →
        vs = [] := by
      intro hr hself
      rcases vs with _ | ⟨v, _ | ⟨w, r⟩⟩
      · rfl
      · have h1 : 0 ≤ val a v ∧ val a v < 1 := hr _ List.mem_cons_self
        have h2 : val a v ≠ 0 := hself 0 (Nat.lt_succ_self 0)
        omega
      · exact absurd hsmall (by simp)
    constructor
    · rintro ⟨_, h2, h3⟩; obtain rfl := key h3 h2; exact ⟨h3, h2, List.nodup_nil, rfl⟩
    · rintro ⟨h1, h2, _⟩; obtain rfl := key h1 h2; exact ⟨List.nodup_nil, h2, h1⟩
  · have hnx : 0 < nx := (hB _ (ev_mem (hs _ (List.getElem_mem (Nat.lt_of_lt_of_le Nat.zero_lt_two hbig))))).pos
    obtain ⟨hTlen, hmono, hT, hTb⟩ := mkOrderVars_orderVars vs.length nx hnx
    rw [encCircuit_eq _ _ (by rw [hlen]; exact hbig), hlen]
    have hmem : ∀ T ∈ (mkOrderVars vs.length vs.length nx).1, ∃ p, p < vs.length ∧
        T = (mkOrderVars vs.length vs.length nx).1.getD p default := by
      intro T hT
      obtain ⟨p, hp, rfl⟩ := List.mem_iff_getElem.1 hT
      exact ⟨p, hTlen ▸ hp, (getD_of_lt hp default).symm⟩
    refine ⟨hmono, fun β a he hc => ?_, fun β a he hh => ?_⟩
    · rw [cnfTrue_append_iff, cnfTrue_append_iff, cnfTrue_append_iff] at hc
      obtain ⟨⟨⟨hbase, haux⟩, ht0⟩, hmtz⟩ := hc
      exact circuit_sound he hs hbig hT hbase
        (fun p hp => cnfTrue_flatMap.1 haux _ (ev_mem (by rw [hTlen]; exact hp))) ht0 hmtz
    · obtain ⟨hrange, hself, horb, hret⟩ := (holds_circuit_iff a vs).1 hh
      obtain ⟨hnd, τ, hord⟩ := (circuit_iff_ord hrange (List.length_map _)).1 ⟨horb, hret⟩
      -- encode the order values `τ` in the order variables
      obtain ⟨β₁, hag1, hr1⟩ := mkOrderVars_encode vs.length nx τ β hnx hord.bound
      refine ⟨β₁, hag1, fun β₂ hag2 => ?_⟩
      obtain ⟨h1, h2, h3, h4⟩ := circuit_complete (he.of_agree hB (hag1.trans hag2 hmono)) hs hbig hT
        hord hnd hself hrange fun p hp => (hr1 p hp).of_agree (hTb p hp) hag2
      rw [cnfTrue_append_iff, cnfTrue_append_iff, cnfTrue_append_iff, cnfTrue_flatMap]
      exact ⟨⟨⟨h1, fun T hT => by obtain ⟨p, hp, rfl⟩ := hmem T hT; exact h2 p hp⟩, h3⟩, h4⟩

end Solvor.Cp
