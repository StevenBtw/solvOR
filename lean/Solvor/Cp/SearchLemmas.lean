import Solvor.Cp.PropLemmas
/-! The search of the repaired DFS mirror as a fold of `branch` over the values tried, down to `leaf`:
what it keeps (`backtrackG_preserves`), and that it follows a solution lying within the domains unless
it stops at the limit (so INFEASIBLE is reported only when no solution exists). -/
namespace Solvor.Cp

/-- the assignment read off all-singleton domains: the first value of each -/
def heads (D : Doms) : Asg := D.map fun d => d.headD 0

theorem inDom_heads : ∀ (D : Doms) (ds : List VarDecl), SubD D (declDoms ds) →
    D.any List.isEmpty = false → InDom (heads D) ds
  | [], [], _, _ => trivial
  | [], _ :: _, h, _ => nomatch h.1
  | _ :: _, [], h, _ => nomatch h.1
  | d :: D, v :: ds, h, hne => by
    have h' : (∀ x ∈ d, x ∈ irange v.lb v.ub) ∧ SubD D (declDoms ds) :=
      ⟨h.2 0, Nat.succ.inj h.1, fun i => h.2 (i + 1)⟩
    simp only [List.any_cons, Bool.or_eq_false_iff] at hne
    match d, hne.1, h'.1 with
    | y :: d', _, hy => exact ⟨mem_irange.1 (hy y List.mem_cons_self), inDom_heads D ds h'.2 hne.2⟩

def record (sols : List Asg) (a : Asg) : List Asg := if sols.contains a then sols else sols ++ [a]

theorem mem_record {sols : List Asg} {a b : Asg} : b ∈ record sols a ↔ b ∈ sols ∨ b = a := by
  unfold record; split
  · next h => exact ⟨Or.inl, fun h' => h'.elim id fun e => e ▸ List.contains_iff_mem.1 h⟩
  · simp only [List.mem_append, List.mem_singleton]

theorem nodup_record {sols : List Asg} (a : Asg) (h : sols.Nodup) : (record sols a).Nodup := by
  unfold record; split
  · exact h
  · next hc => exact nodup_concat h fun ha => hc (List.contains_iff_mem.2 ha)

/-- what the search does with all-singleton domains `D` (repaired: check, record once) -/
def leaf (cs : List Con) (limit : Nat) (D : Doms) (st : DfsState) : DfsState :=
  if !(cs.all (check (heads D))) then st
  else ⟨record st.sols (heads D), decide ((record st.sols (heads D)).length ≥ limit)⟩

theorem leaf_fail {cs : List Con} {limit : Nat} {D : Doms} {st : DfsState}
    (h : cs.all (check (heads D)) = false) : leaf cs limit D st = st := by
  unfold leaf; rw [h]; rfl

theorem leaf_pass {cs : List Con} {limit : Nat} {D : Doms} {st : DfsState}
    (h : cs.all (check (heads D)) = true) :
    leaf cs limit D st = ⟨record st.sols (heads D), decide ((record st.sols (heads D)).length ≥ limit)⟩ := by
  unfold leaf; rw [h]; rfl

/-- what the search does with the value `x` for the selected variable `v` -/
def branch (sel : Doms → Option Nat) (ord : Doms → Nat → List Int) (cs : List Con) (limit fuel : Nat)
    (D : Doms) (v : Nat) (st : DfsState) (x : Int) : DfsState :=
  if st.stop then st
  else match propagate true cs (totalSize D + 1) (dset D v [x]) with
    | none => st
    | some D' => backtrackG sel ord true cs limit fuel D' st

theorem backtrackG_succ (sel : Doms → Option Nat) (ord : Doms → Nat → List Int) (cs : List Con)
    (limit fuel : Nat) (D : Doms) (st : DfsState) :
    backtrackG sel ord true cs limit (fuel + 1) D st =
      match sel D with
      | none => leaf cs limit D st
      | some v => (ord D v).foldl (branch sel ord cs limit fuel D v) st := rfl

/-- A property `P` of the state that every leaf keeps is kept by the search; the leaves reached
satisfy any `I` that holds at the root and survives fixing a variable and propagating. -/
theorem backtrackG_preserves {sel : Doms → Option Nat} {ord : Doms → Nat → List Int} {cs : List Con}
    {limit : Nat} (I : Doms → Prop) (P : DfsState → Prop)
    (hI : ∀ D v x D', I D → x ∈ ord D v →
      propagate true cs (totalSize D + 1) (dset D v [x]) = some D' → I D')
    (hleaf : ∀ D st, I D → P st → cs.all (check (heads D)) = true →
      P ⟨record st.sols (heads D), decide ((record st.sols (heads D)).length ≥ limit)⟩) :
    ∀ (fuel : Nat) (D : Doms) (st : DfsState), I D → P st →
      P (backtrackG sel ord true cs limit fuel D st)
  | 0, _, _, _, h => h
  | fuel + 1, D, st, hD, h => by
    rw [backtrackG_succ]
    split
    · cases hc : cs.all (check (heads D)) with
      | false => rw [leaf_fail hc]; exact h
      | true => rw [leaf_pass hc]; exact hleaf D st hD h hc
    · next v _ =>
      refine List.foldlRecOn _ _ h fun s hs x hx => ?_
      unfold branch
      split
      · exact hs
      · split
        · exact hs
        · next D' hp => exact backtrackG_preserves I P hI hleaf fuel D' s (hI D v x D' hD hx hp) hs

theorem backtrack_sound {M : Model} {sel : Doms → Option Nat} {ord : Doms → Nat → List Int} (hord : OrdOK ord)
    (limit : Nat) (fuel : Nat) (D : Doms) (st : DfsState)
    (hD : SubD D (declDoms M.vars)) (hne : D.any List.isEmpty = false)
    (hst : ∀ a ∈ st.sols, IsSolution M a) :
    ∀ a ∈ (backtrackG sel ord true M.cons limit fuel D st).sols, IsSolution M a := by
  refine backtrackG_preserves
    (I := fun D => SubD D (declDoms M.vars) ∧ D.any List.isEmpty = false)
    (P := fun s => ∀ a ∈ s.sols, IsSolution M a) ?_ ?_ fuel D st ⟨hD, hne⟩ hst
  · intro D v x D' hD hx hp
    obtain ⟨hnar, hne⟩ := propagate_narrow _ _ (Narrow.fix ((hord D v x).1 hx)) (noEmpty_dset hD.2 v (List.cons_ne_nil x [])) hp
    exact ⟨hnar.sub.trans hD.1, hne⟩
  · intro D st hD hst hc a ha
    rcases mem_record.1 ha with h | rfl
    · exact hst a h
    · exact ⟨inDom_heads D M.vars hD.1 hD.2, fun c hc' => (check_iff _ c).1 (List.all_eq_true.1 hc c hc')⟩

theorem foldl_pick_none {α} (f : Option Nat → α → Option Nat) (hf : ∀ b p, ∃ v, f b p = some v) :
    ∀ (l : List α) (b : Option Nat), l.foldl f b = none → l = [] ∧ b = none
  | [], b, h => ⟨rfl, h⟩
  | p :: l, b, h => by
    obtain ⟨v, hv⟩ := hf b p
    simp only [List.foldl_cons, hv] at h
    have := (foldl_pick_none f hf l (some v) h).2
    cases this

theorem mem_zipIdx_dget {D : Doms} {d : List Int} {i : Nat} :
    (d, i) ∈ D.zipIdx ↔ i < D.length ∧ dget D i = d := by
  rw [List.mem_zipIdx_iff_getElem?]
  constructor
  · intro hg
    have hi : i < D.length := by
      rcases Nat.lt_or_ge i D.length with h | h
      · exact h
      · rw [List.getElem?_eq_none h] at hg; cases hg
    rw [List.getElem?_eq_getElem hi] at hg
    exact ⟨hi, (dget_eq_getElem hi).trans (Option.some.inj hg)⟩
  · rintro ⟨hi, rfl⟩; rw [List.getElem?_eq_getElem hi, dget_eq_getElem hi]

theorem pickVar_selOK : SelOK pickVar := by
  intro D
  unfold pickVar
  constructor
  · intro h i hi
    -- the fold never goes back to `none`, so nothing passed the filter
    have hnil := (foldl_pick_none _ (by
      intro b p
      cases b with
      | none => exact ⟨_, rfl⟩
      | some b => by_cases hc : p.1.length < (dget D b).length <;> simp [hc]) _ none h).1
    refine Nat.le_of_not_lt fun hlt => ?_
    have : (dget D i, i) ∈ D.zipIdx.filter fun p => p.1.length > 1 :=
      List.mem_filter.2 ⟨mem_zipIdx_dget.2 ⟨hi, rfl⟩, by simpa using hlt⟩
    rw [hnil] at this; cases this
  · intro v h
    refine List.foldlRecOn (motive := fun b => ∀ w, b = some w → w < D.length ∧ (dget D w).length > 1)
      _ _ (fun _ hw => by cases hw) (fun b hb p hp w hw => ?_) v h
    have hp' := List.mem_filter.1 hp
    have hd := mem_zipIdx_dget.1 hp'.1
    have hpw : p.2 < D.length ∧ (dget D p.2).length > 1 := ⟨hd.1, by rw [hd.2]; simpa using hp'.2⟩
    cases b with
    | none => cases hw; exact hpw
    | some b0 =>
      simp only at hw
      split at hw
      · cases hw; exact hpw
      · cases hw; exact hb _ rfl

theorem dget_ordOK : OrdOK (fun D v => dget D v) := fun _ _ _ => Iff.rfl

def StopLen (limit : Nat) (st : DfsState) : Prop := st.stop = true → limit ≤ st.sols.length

section
variable {sel : Doms → Option Nat} {ord : Doms → Nat → List Int} {cs : List Con} {limit : Nat}

theorem backtrackG_keeps (P : DfsState → Prop)
    (hleaf : ∀ (a : Asg) st, P st → P ⟨record st.sols a, decide ((record st.sols a).length ≥ limit)⟩)
    (fuel : Nat) (D : Doms) (st : DfsState) (h : P st) : P (backtrackG sel ord true cs limit fuel D st) :=
  backtrackG_preserves (fun _ => True) P (fun _ _ _ _ _ _ _ => trivial) (fun D st _ hst _ => hleaf (heads D) st hst)
    fuel D st trivial h

theorem backtrack_sols_mono (fuel : Nat) (D : Doms) (st : DfsState) {b : Asg} (hb : b ∈ st.sols) :
    b ∈ (backtrackG sel ord true cs limit fuel D st).sols :=
  backtrackG_keeps (fun s => b ∈ s.sols) (fun _ _ hst => mem_record.2 (Or.inl hst)) fuel D st hb

theorem backtrack_stopLen (fuel : Nat) (D : Doms) (st : DfsState) (h : StopLen limit st) :
    StopLen limit (backtrackG sel ord true cs limit fuel D st) :=
  backtrackG_keeps (StopLen limit) (fun _ _ _ hstop => of_decide_eq_true hstop) fuel D st h

theorem backtrack_nodup (fuel : Nat) (D : Doms) (st : DfsState) (h : st.sols.Nodup) :
    (backtrackG sel ord true cs limit fuel D st).sols.Nodup :=
  backtrackG_keeps (fun s => s.sols.Nodup) (fun _ _ hst => nodup_record _ hst) fuel D st h

end

theorem heads_eq {a : Asg} {D : Doms} (h : Within a D) (hs : ∀ i, i < D.length → (dget D i).length ≤ 1) :
    heads D = a := by
  apply List.ext_getElem
  · simp [heads, h.len]
  · intro i h1 h2
    have hi : i < D.length := by simpa [heads] using h1
    have hm := h.mem hi
    have hlen := hs i hi
    have hv : val a i = a[i] := getD_of_lt h2 0
    rw [dget_eq_getElem hi] at hm hlen
    rw [hv] at hm
    simp only [heads, List.getElem_map]
    match hD : D[i], hm, hlen with
    | [y], hm, _ => simpa using (List.mem_singleton.1 hm).symm
    | _ :: _ :: _, _, hlen => simp at hlen

theorem backtrack_covers {sel : Doms → Option Nat} {ord : Doms → Nat → List Int} (hsel : SelOK sel)
    (hord : OrdOK ord) {a : Asg} {cs : List Con} {limit : Nat}
    (hall : ∀ c ∈ cs, c.Scoped a.length ∧ Holds a c) :
    ∀ (fuel : Nat) (D : Doms) (st : DfsState), Within a D → NodupD D → totalSize D < fuel →
      a ∈ (backtrackG sel ord true cs limit fuel D st).sols ∨
        (backtrackG sel ord true cs limit fuel D st).stop = true
  | 0, _, _, _, _, hf => by omega
  | fuel + 1, D, st, hw, hn, hf => by
    rw [backtrackG_succ]
    split
    · next hp =>
      -- every domain is a singleton: the leaf is `a`, and `a` passes the check
      have hleaf := heads_eq hw ((hsel D).1 hp)
      have hchk : cs.all (check (heads D)) = true := by
        rw [hleaf]; exact List.all_eq_true.2 fun c hc => (check_iff a c).2 (hall c hc).2
      rw [leaf_pass hchk]
      exact Or.inl (mem_record.2 (Or.inr hleaf.symm))
    · next v hp =>
      have hv := (hsel D).2 v hp
      have hmem : val a v ∈ ord D v := (hord D v _).2 (hw.mem hv.1)
      obtain ⟨l1, l2, hsplit⟩ := List.append_of_mem hmem
      rw [hsplit, List.foldl_append, List.foldl_cons]
      -- after the branch `x = a[v]`: found or stopped; both persist over the remaining values
      refine List.foldlRecOn (motive := fun s : DfsState => a ∈ s.sols ∨ s.stop = true) l2 _ ?_
        fun s hs x _ => ?_
      · unfold branch
        split
        · next hstop => exact Or.inr hstop
        · have hw' : Within a (dset D v [val a v]) := hw.dset fun _ => List.mem_singleton.2 rfl
          obtain ⟨D', hp', hw''⟩ := propagate_within hall (totalSize D + 1) _ hw'
          rw [hp']
          -- the fuel suffices: fixing `v` drops at least one value (its domain had at least two), and propagation adds none back (`hle`)
          have hn' := (Narrow.fix (hw.mem hv.1)).nodup hn
          have hnar := (propagate_narrow _ _ (Narrow.refl _) hw'.no_empty hp').1
          have hle : totalSize D' ≤ totalSize (dset D v [val a v]) := hnar.size_le hn'
          have hfix : totalSize (dset D v [val a v]) + (dget D v).length = totalSize D + 1 :=
            totalSize_dset D v [val a v] hv.1
          have htwo := hv.2
          exact backtrack_covers hsel hord hall fuel D' _ hw'' (hnar.nodup hn') (by omega)
      · unfold branch
        split
        · exact hs
        · next hst =>
          split
          · exact hs
          · exact Or.inl (backtrack_sols_mono fuel _ s (hs.resolve_right hst))

theorem IsSolution.scoped_holds {M : Model} {a : Asg} (ha : IsSolution M a)
    (hsc : ∀ c ∈ M.cons, c.Scoped M.vars.length) : ∀ c ∈ M.cons, c.Scoped a.length ∧ Holds a c := by
  have hlen : a.length = M.vars.length := by simpa using (within_of_inDom ha.1).1
  exact fun c hc => ⟨by rw [hlen]; exact hsc c hc, ha.2 c hc⟩

theorem dfsSolveG_eq_of_solution {sel : Doms → Option Nat} {ord : Doms → Nat → List Int} {M : Model}
    {a : Asg} (ha : IsSolution M a) (hsc : ∀ c ∈ M.cons, c.Scoped M.vars.length)
    (hints : List (Nat × Int)) (limit : Nat)
    (hh : AgreesWithHints M.vars hints a) :
    ∃ D', Within a D' ∧ NodupD D' ∧
      dfsSolveG sel ord true M hints limit =
        (backtrackG sel ord true M.cons limit (totalSize D' + 1) D' ⟨[], false⟩).sols := by
  have h0 := initDoms_within ha.1 hints hh
  obtain ⟨D', hp, hw⟩ := propagate_within (ha.scoped_holds hsc) (totalSize (initDoms M.vars hints) + 1) _ h0
  refine ⟨D', hw, (propagate_narrow _ _ (Narrow.refl _) h0.no_empty hp).1.nodup (initDoms_nodup _ _), ?_⟩
  unfold dfsSolveG
  simp only [h0.no_empty, Bool.and_false, Bool.false_eq_true, if_false, hp]

theorem dfs_nodup (sel : Doms → Option Nat) (ord : Doms → Nat → List Int) (M : Model) (hints : List (Nat × Int))
    (limit : Nat) : (dfsSolveG sel ord true M hints limit).Nodup := by
  unfold dfsSolveG
  simp only
  split
  · exact List.nodup_nil
  · split
    · exact List.nodup_nil
    · exact backtrack_nodup _ _ _ List.nodup_nil

theorem dfs_covers {sel : Doms → Option Nat} {ord : Doms → Nat → List Int} (hsel : SelOK sel) (hord : OrdOK ord)
    {M : Model} (hsc : ∀ c ∈ M.cons, c.Scoped M.vars.length) (hints : List (Nat × Int)) (limit : Nat) {a : Asg}
    (ha : IsSolution M a)
    (hh : AgreesWithHints M.vars hints a) :
    a ∈ dfsSolveG sel ord true M hints limit ∨ limit ≤ (dfsSolveG sel ord true M hints limit).length := by
  obtain ⟨D', hw, hn, e⟩ := dfsSolveG_eq_of_solution (sel := sel) (ord := ord) ha hsc hints limit hh
  rw [e]
  exact (backtrack_covers hsel hord (ha.scoped_holds hsc) _ D' ⟨[], false⟩ hw hn (Nat.lt_succ_self _)).imp_right
    (backtrack_stopLen _ D' ⟨[], false⟩ (fun h => nomatch h))

end Solvor.Cp
