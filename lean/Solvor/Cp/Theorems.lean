import Solvor.Cp.Model
import Solvor.Cp.DpllLemmas
import Solvor.Cp.EncodeLemmas
import Solvor.Cp.ModelLemmas
import Solvor.Cp.PropLemmas
import Solvor.Cp.SearchLemmas
import Solvor.Cp.CumLemmas
import Solvor.Cp.CircuitEnc
/-! Cp: the property theorems of C05 (the DFS solver) and C06 (the SAT encoder).  `check_decides`, `solutions_complete`,
`solve_correct` and `enumProj_spec` are about the checkers the drivers run on every explored case; `cnfTrue` is the
definition of satisfaction that the C06 statements speak of. -/
namespace Solvor.Cp
open Solvor.Cp.Sat

/-- the evaluator the checks run decides `Holds` (`check_iff` of Sem.lean under the audited name) -/
theorem check_decides (a : Asg) (c : Con) : check a c = true ↔ Holds a c := check_iff a c

example : check [0, 1] (.rel (.add (.var 0) (.var 1)) (.const 10) false) = false := by decide

/-- the enumerator lists exactly the solutions (`mem_solutions` of Sem.lean under the audited name) -/
theorem solutions_complete {M : Model} {a : Asg} : a ∈ solutions M ↔ IsSolution M a := mem_solutions

example : solutions ⟨[⟨0, 2⟩, ⟨0, 2⟩], [.rel (.add (.var 0) (.var 1)) (.const 2) false, .allDiff [0, 1]]⟩
    = [[0, 2], [2, 0]] := by decide

theorem solve_correct (f : Cnf) (h : WF f) : solve f = true ↔ ∃ σ, cnfTrue σ f = true :=
  dpll_correct _ f h (by omega)

example : WF [[1, 2], [-1], [-2, 3]] ∧ solve [[1, 2], [-1], [-2, 3]] = true := by decide

theorem enumProj_spec : ∀ (vs : List Nat) (f : Cnf), WF f → (∀ v ∈ vs, v ≠ 0) → vs.Nodup →
    ∀ bs : List Bool, bs ∈ enumProj vs f ↔ ∃ σ, cnfTrue σ f = true ∧ vs.map σ = bs
  | [], f, hwf, _, _, bs => by
    simp only [enumProj, List.map_nil]
    by_cases hs : solve f = true
    · rw [if_pos hs]
      have := (solve_correct f hwf).1 hs
      constructor
      · intro h; obtain ⟨σ, hσ⟩ := this; exact ⟨σ, hσ, by simpa using (List.mem_singleton.1 h).symm⟩
      · rintro ⟨_, _, rfl⟩; simp
    · rw [if_neg hs]
      simp only [List.not_mem_nil, false_iff, not_exists, not_and]
      intro σ hσ; exact absurd ((solve_correct f hwf).2 ⟨σ, hσ⟩) hs
  | v :: vs, f, hwf, h0, hnd, bs => by
    have hv := h0 v List.mem_cons_self
    have hv0 : (v : Int) ≠ 0 := by omega
    have hvs : v ∉ vs := (List.nodup_cons.1 hnd).1
    -- either branch, for the literal `l` of `v` that it makes true
    have ih : ∀ l : Int, l.natAbs = v → l ≠ 0 → ∀ bs', bs' ∈ enumProj vs (assign l f) ↔
        ∃ σ, cnfTrue σ f = true ∧ litTrue σ l = true ∧ vs.map σ = bs' := fun l hl hl0 bs' =>
      (enumProj_spec vs (assign l f) (WF_assign hwf) (fun w hw => h0 w (List.mem_cons_of_mem _ hw))
        (List.nodup_cons.1 hnd).2 bs').trans (proj_assign hl0 (by rw [hl]; exact hvs) f bs')
    simp only [enumProj]
    by_cases he : f.any List.isEmpty = true
    · rw [if_pos he]
      simp only [List.not_mem_nil, false_iff, not_exists, not_and]
      intro σ hσ; rw [cnfTrue_of_empty_mem he] at hσ; cases hσ
    · rw [if_neg he]
      simp only [List.mem_append, List.mem_map, List.map_cons, ih (v : Int) (Int.natAbs_natCast v) hv0,
        ih (-(v : Int)) (by simp) (by omega), litTrue_neg hv0, litTrue_natCast hv]
      constructor
      · rintro (⟨bs', ⟨σ, hσ, hb, rfl⟩, rfl⟩ | ⟨bs', ⟨σ, hσ, hb, rfl⟩, rfl⟩)
        · exact ⟨σ, hσ, by rw [hb]⟩
        · exact ⟨σ, hσ, by rw [(Bool.not_eq_true' _).mp hb]⟩
      · rintro ⟨σ, hσ, rfl⟩
        cases hb : σ v
        · exact Or.inr ⟨vs.map σ, ⟨σ, hσ, by rw [hb]; rfl, rfl⟩, rfl⟩
        · exact Or.inl ⟨vs.map σ, ⟨σ, hσ, hb, rfl⟩, rfl⟩

example : enumProj [1, 2] [[1, 2, 3], [-1, -2], [-3]] = [[true, false], [false, true]] := by decide

/-! C06, the encoder.  `Vs` are the encoded named variables, `Enc β Vs a` says that the Boolean assignment `β` encodes the
integer assignment `a`.  For auxiliary-free kinds the theorem is `β ⊨ enc(K) ↔ a ⊨ K`; for kinds with auxiliary
variables it is `Exact`. -/

/-- what `_encode_vars` says, and that `decode_sat_solution` returns the one assignment that is encoded -/
theorem encode_vars_decode (ds : List VarDecl) (β : Nat → Bool) :
    (cnfTrue β (encodeVars (mkVars ds 1).1) = true ↔ ∃ a, Enc β (mkVars ds 1).1 a) ∧
    ∀ a, Enc β (mkVars ds 1).1 a →
      InDom a ds ∧ (mkVars ds 1).1.map (decodeVar β) = a.map some ∧
      ∀ b, Enc β (mkVars ds 1).1 b → b = a := by
  refine ⟨encodeVars_iff fun V hV => (mkVars_below ds 1 (by omega) V hV).1, fun a ha => ?_⟩
  have hr := (enc_iff_repL.1 ha).1
  exact ⟨mkVars_bounds ds 1 a ha, hr.decode, fun b hb => RepL.unique (enc_iff_repL.1 hb).1 hr⟩

example : (mkVars [⟨-2, 1⟩, ⟨3, 5⟩] 1).1 = [⟨-2, 1, 1⟩, ⟨3, 5, 5⟩] := by decide

theorem enc_eq_const {β : Nat → Bool} {Vs : List EVar} {a : Asg} (h : Enc β Vs a) {v : Nat} (c : Int)
    (nx : Nat) (hv : v < Vs.length) :
    cnfTrue β (encodeCon Vs (.eqConst v c) nx).1 = true ↔ Holds a (.eqConst v c) :=
  encEqConst_iff (h.repP hv) c

theorem enc_ne_const {β : Nat → Bool} {Vs : List EVar} {a : Asg} (h : Enc β Vs a) {v : Nat} (c : Int)
    (nx : Nat) (hv : v < Vs.length) :
    cnfTrue β (encodeCon Vs (.neConst v c) nx).1 = true ↔ Holds a (.neConst v c) :=
  encNeConst_iff (h.repP hv) c

theorem enc_eq_var {β : Nat → Bool} {Vs : List EVar} {a : Asg} (h : Enc β Vs a) {x y : Nat}
    (nx : Nat) (hx : x < Vs.length) (hy : y < Vs.length) :
    cnfTrue β (encodeCon Vs (.eqVar x y) nx).1 = true ↔ Holds a (.eqVar x y) :=
  encEqVar_iff (h.repP hx) (h.repP hy)

theorem enc_ne_var {β : Nat → Bool} {Vs : List EVar} {a : Asg} (h : Enc β Vs a) {x y : Nat}
    (nx : Nat) (hx : x < Vs.length) (hy : y < Vs.length) :
    cnfTrue β (encodeCon Vs (.neVar x y) nx).1 = true ↔ Holds a (.neVar x y) :=
  encNeVar_iff (h.repP hx) (h.repP hy)

theorem enc_all_different {β : Nat → Bool} {Vs : List EVar} {a : Asg} (h : Enc β Vs a) {vs : List Nat}
    (nx : Nat) (hs : ∀ v ∈ vs, v < Vs.length) :
    cnfTrue β (encodeCon Vs (.allDiff vs) nx).1 = true ↔ Holds a (.allDiff vs) :=
  encAllDiff_iff h hs

theorem enc_no_overlap {β : Nat → Bool} {Vs : List EVar} {a : Asg} (h : Enc β Vs a) {ss : List Nat}
    (ds : List Int) (nx : Nat) (hs : ∀ v ∈ ss, v < Vs.length) :
    cnfTrue β (encodeCon Vs (.noOverlap ss ds) nx).1 = true ↔ Holds a (.noOverlap ss ds) :=
  encNoOverlap_iff h ds hs

-- non-vacuity: a concrete β encoding x0 = 1, x1 = 0 over domains 0..1 / 0..2
example : Enc (fun n => n == 2 || n == 3) [⟨0, 1, 1⟩, ⟨0, 2, 3⟩] [1, 0] := by
  refine ⟨rfl, fun i hi => ?_⟩
  match i, hi with
  | 0, _ =>
    refine ⟨by decide, ⟨by decide, by decide⟩, fun v (h1 : 0 ≤ v) (h2 : v ≤ 1) => ?_⟩
    have : v = 0 ∨ v = 1 := by omega
    rcases this with rfl | rfl <;> decide
  | 1, _ =>
    refine ⟨by decide, ⟨by decide, by decide⟩, fun v (h1 : 0 ≤ v) (h2 : v ≤ 2) => ?_⟩
    have : v = 0 ∨ v = 1 ∨ v = 2 := by omega
    rcases this with rfl | rfl | rfl <;> decide

theorem enc_sum_eq {Vs : List EVar} {nx : Nat} (hB : ∀ V ∈ Vs, V.Below nx) (hnx : 0 < nx)
    {vs : List Nat} (t : Int) (hs : ∀ v ∈ vs, v < Vs.length) :
    Exact Vs (fun a => Holds a (.sumEq vs t)) (encodeCon Vs (.sumEq vs t) nx).1 nx
      (encodeCon Vs (.sumEq vs t) nx).2 :=
  (encSumEq_exact (below_map hB hs) t).comap hs rfl fun _ => Iff.rfl

theorem enc_sum_le {Vs : List EVar} {nx : Nat} (hB : ∀ V ∈ Vs, V.Below nx) (hnx : 0 < nx)
    {vs : List Nat} (t : Int) (hs : ∀ v ∈ vs, v < Vs.length) :
    Exact Vs (fun a => Holds a (.sumLe vs t)) (encodeCon Vs (.sumLe vs t) nx).1 nx
      (encodeCon Vs (.sumLe vs t) nx).2 :=
  (encSumLe_exact (below_map hB hs) t).comap hs rfl fun _ => Iff.rfl

theorem enc_sum_ge {Vs : List EVar} {nx : Nat} (hB : ∀ V ∈ Vs, V.Below nx) (hnx : 0 < nx)
    {vs : List Nat} (t : Int) (hs : ∀ v ∈ vs, v < Vs.length) :
    Exact Vs (fun a => Holds a (.sumGe vs t)) (encodeCon Vs (.sumGe vs t) nx).1 nx
      (encodeCon Vs (.sumGe vs t) nx).2 :=
  (encSumGe_exact (below_map hB hs) t).comap hs rfl fun _ => Iff.rfl

-- non-vacuity of the hypotheses of `enc_sum_*` / `enc_linear`: the variables of a real model
example : (∀ V ∈ (mkVars [⟨0, 2⟩, ⟨1, 3⟩, ⟨-1, 1⟩, ⟨0, 2⟩] 1).1, V.Below (mkVars [⟨0, 2⟩, ⟨1, 3⟩, ⟨-1, 1⟩, ⟨0, 2⟩] 1).2) ∧
    0 < (mkVars [⟨0, 2⟩, ⟨1, 3⟩, ⟨-1, 1⟩, ⟨0, 2⟩] 1).2 ∧
    (∀ v ∈ [0, 1, 2, 3], v < (mkVars [⟨0, 2⟩, ⟨1, 3⟩, ⟨-1, 1⟩, ⟨0, 2⟩] 1).1.length) :=
  ⟨mkVars_below _ 1 (by omega), by decide, by decide⟩

-- the chained encoding of x0+x1+x2+x3 = 4 over these variables: 12 named + 12 auxiliary booleans
example : (encodeCon (mkVars [⟨0, 2⟩, ⟨1, 3⟩, ⟨-1, 1⟩, ⟨0, 2⟩] 1).1 (.sumEq [0, 1, 2, 3] 4) 13).2 = 25 := by
  decide

/-- `_encode_ne_expr`: `left (≠|=) right` for every shape the operators can build (`+`, `-`, `c - x`, `* c`), in one
theorem -/
theorem enc_linear {Vs : List EVar} {nx : Nat} (hB : ∀ V ∈ Vs, V.Below nx) (hnx : 0 < nx)
    {l r : Expr} (isNe : Bool) (hl : l.Scoped Vs.length) (hr : r.Scoped Vs.length) :
    Exact Vs (fun a => Holds a (.rel l r isNe)) (encodeCon Vs (.rel l r isNe) nx).1 nx
      (encodeCon Vs (.rel l r isNe) nx).2 := by
  have hs : ∀ v ∈ (linDiff l r).1.map (·.1), v < Vs.length := List.forall_mem_map.2 (linDiff_scoped hl hr)
  have hX : ((linDiff l r).1.map fun p => (ev Vs p.1, p.2)).map (·.1)
      = ((linDiff l r).1.map (·.1)).map (ev Vs) := by
    simp only [List.map_map, Function.comp_def]
  have henc : encodeCon Vs (.rel l r isNe) nx
      = encLinear ((linDiff l r).1.map fun p => (ev Vs p.1, p.2)) (linDiff l r).2 isNe nx := by
    simp only [encodeCon]
  rw [henc]
  refine (encLinear_exact (by rw [hX]; exact below_map hB hs) (List.forall_mem_map.2 (linDiff_nonzero l r))
    (linDiff l r).2 isNe).comap hs hX fun a => ?_
  rw [dot_map, linDiff_val]
  unfold relHolds Holds
  cases isNe <;> simp <;> omega

/-- `_encode_cumulative` after the repair -/
theorem enc_cumulative {β : Nat → Bool} {Vs : List EVar} {a : Asg} (h : Enc β Vs a) {ss : List Nat}
    (ds dm : List Int) (cap : Int) (nx : Nat) (hs : ∀ v ∈ ss, v < Vs.length)
    (hdm : ∀ x ∈ dm, 0 ≤ x) (hcap : 0 ≤ cap) :
    cnfTrue β (encodeCon Vs (.cumulative ss ds dm cap) nx).1 = true ↔
      Holds a (.cumulative ss ds dm cap) :=
  encCumulative_iff h hs hdm hcap

example : (∀ x ∈ ([1, 1, 0, 2] : List Int), 0 ≤ x) ∧ (0 : Int) ≤ 2 := by decide

/-- `_encode_circuit` after the repair: all_different + no self loop + successor range +
MTZ order variables (with their exactly-one clauses) are exact for "one Hamiltonian cycle"
(`encCircuit_exact` of CircuitEnc.lean under the audited name). -/
theorem enc_circuit {Vs : List EVar} {nx : Nat} (hB : ∀ V ∈ Vs, V.Below nx) (hnx : 0 < nx)
    {vs : List Nat} (hs : ∀ v ∈ vs, v < Vs.length) :
    Exact Vs (fun a => Holds a (.circuit vs)) (encodeCon Vs (.circuit vs) nx).1 nx
      (encodeCon Vs (.circuit vs) nx).2 :=
  encCircuit_exact hB hs

-- the 4-node instance whose unchanged encoding admits two 2-cycles: with the repair 13 order booleans (4 + 3 + 3 + 3) after the 16 named ones
example : (encodeCon (mkVars [⟨0, 3⟩, ⟨0, 3⟩, ⟨0, 3⟩, ⟨0, 3⟩] 1).1 (.circuit [0, 1, 2, 3]) 17).2 = 30 ∧
    ¬ Holds [1, 0, 3, 2] (.circuit [0, 1, 2, 3]) ∧ Holds [1, 2, 3, 0] (.circuit [0, 1, 2, 3]) := by
  decide

/-- side condition of the encoder's minimal-subset argument: `cumulative` with non-negative demands
and capacity (every other kind is unconditional) -/
def Con.Supported : Con → Prop
  | .cumulative _ _ dm cap => (∀ x ∈ dm, 0 ≤ x) ∧ 0 ≤ cap
  | _ => True

theorem encodeCon_exact {Vs : List EVar} {nx : Nat} (hB : ∀ V ∈ Vs, V.Below nx) (hnx : 0 < nx)
    (c : Con) (hs : c.Scoped Vs.length) (hsup : c.Supported) :
    Exact Vs (fun a => Holds a c) (encodeCon Vs c nx).1 nx (encodeCon Vs c nx).2 := by
  cases c
  case rel l r isNe => exact enc_linear hB hnx isNe hs.1 hs.2
  case sumEq vs t => exact enc_sum_eq hB hnx t hs
  case sumLe vs t => exact enc_sum_le hB hnx t hs
  case sumGe vs t => exact enc_sum_ge hB hnx t hs
  case circuit vs => exact enc_circuit hB hnx hs
  -- the other kinds use no auxiliary booleans: their clauses are equivalent to the constraint
  all_goals refine Exact.of_iff hB fun β a he => ?_
  case allDiff vs => exact enc_all_different he nx hs
  case eqConst v k => exact enc_eq_const he k nx hs
  case neConst v k => exact enc_ne_const he k nx hs
  case eqVar x y => exact enc_eq_var he nx hs.1 hs.2
  case neVar x y => exact enc_ne_var he nx hs.1 hs.2
  case noOverlap ss ds => exact enc_no_overlap he ds nx hs
  case cumulative ss ds dm cap => exact enc_cumulative he ds dm cap nx hs hsup.1 hsup.2

/-- models of the union of the clause sets (each over its own fresh auxiliaries) = intersection of the constraint semantics
(`encodeCons_exact` of ModelLemmas.lean under the audited name) -/
theorem encode_compositional {Vs : List EVar} (cs : List Con) (nx : Nat) (hB : ∀ V ∈ Vs, V.Below nx)
    (h : ∀ c ∈ cs, ∀ n, nx ≤ n →
      Exact Vs (fun a => Holds a c) (encodeCon Vs c n).1 n (encodeCon Vs c n).2) :
    Exact Vs (fun a => ∀ c ∈ cs, Holds a c) (encodeCons Vs cs nx).1 nx (encodeCons Vs cs nx).2 :=
  encodeCons_exact cs nx hB h

/-- C06: the decoded models of the clause list handed to `solve_sat` are exactly the CP solutions (well-scoped
constraints; non-negative demands and capacity in `cumulative`) -/
theorem encode_model_exact (M : Model) (hsc : ∀ c ∈ M.cons, c.Scoped M.vars.length)
    (hsup : ∀ c ∈ M.cons, c.Supported) (a : Asg) :
    IsSolution M a ↔
      ∃ β, cnfTrue β (encodeModel M) = true ∧ (mkVars M.vars 1).1.map (decodeVar β) = a.map some := by
  -- the exactly-one clauses of the variables say that `β` encodes some assignment (`hvars`), the clauses of the constraints are
  -- exact (`E`): a solution is encoded, then extended over the auxiliary booleans; a model decodes to a solution
  have hB := mkVars_below M.vars 1 (by omega)
  have hvars := encode_vars_decode M.vars
  have hlen := mkVars_length M.vars 1
  have hmono := mkVars_mono M.vars 1
  have E := encode_compositional (Vs := (mkVars M.vars 1).1) M.cons (mkVars M.vars 1).2 hB
    (fun c hc n hn => encodeCon_exact (fun V hV => (hB V hV).mono hn) (by omega) c
      (by rw [hlen]; exact hsc c hc) (hsup c hc))
  rw [encodeModel_eq]
  constructor
  · rintro ⟨hd, hall⟩
    obtain ⟨β₀, _, he0⟩ := mkVars_encode M.vars 1 a (fun _ => false) (by omega) hd
    obtain ⟨β₁, hag, hst⟩ := E.complete β₀ a he0 hall
    have he1 : Enc β₁ (mkVars M.vars 1).1 a := he0.of_agree hB hag
    refine ⟨β₁, ?_, ((hvars β₁).2 a he1).2.1⟩
    rw [cnfTrue_append_iff]
    exact ⟨(hvars β₁).1.2 ⟨a, he1⟩, hst β₁ (AgreeBelow.refl _ _)⟩
  · rintro ⟨β, hc, hdec⟩
    rw [cnfTrue_append_iff] at hc
    obtain ⟨b, hb⟩ := (hvars β).1.1 hc.1
    obtain ⟨hin, hd, -⟩ := (hvars β).2 b hb
    cases (List.map_inj_right fun _ _ => Option.some.inj).1 (hd.symm.trans hdec)
    exact ⟨hin, E.sound β _ hb hc.2⟩

example : (⟨[⟨0, 2⟩, ⟨0, 2⟩, ⟨-1, 1⟩], [.sumEq [0, 1, 2] 3, .rel (.mul (.var 0) 2) (.add (.var 1) (.const 1)) false]⟩ : Model).cons.length = 2 := rfl

/-! C05, the DFS solver (`Cp/Prop.lean`): `repaired = true` is the code with the proposed leaf check, `repaired = false`
the unchanged code. -/

/-- one propagator: if an assignment lies within the current domains and
satisfies the constraint, `_propagate_constraint` does not report an inconsistency and does not
remove any of the assignment's values (`propCon_sound` of PropLemmas.lean under the audited name). -/
theorem propagator_sound {a : Asg} {D : Doms} (h : Within a D) {c : Con} (hs : c.Scoped D.length)
    (hh : Holds a c) : ∃ D', propCon true D c = some D' ∧ Within a D' :=
  propCon_sound h hs hh

/-- the fixpoint loop `_propagate`: no value that occurs in a solution
extending the current domains is ever removed, and no wipe-out is reported while such a solution
exists — so INFEASIBLE from an exhaustive search is justified (`propagate_within` of PropLemmas.lean under the audited name). -/
theorem propagate_sound {a : Asg} {cs : List Con} (hall : ∀ c ∈ cs, c.Scoped a.length ∧ Holds a c)
    (fuel : Nat) (D : Doms) (h : Within a D) :
    ∃ D', propagate true cs fuel D = some D' ∧ Within a D' :=
  propagate_within hall fuel D h

example : Within [1, 0, 2] [[0, 1], [0], [2]] ∧
    Holds [1, 0, 2] (.rel (.add (.mul (.var 0) 2) (.var 1)) (.var 2) false) := by
  refine ⟨⟨rfl, fun i hi => ?_⟩, by decide⟩
  have : i = 0 ∨ i = 1 ∨ i = 2 := by simp at hi; omega
  rcases this with rfl | rfl | rfl <;> decide

/-- negative, about the unchanged code: singleton domains after
propagation do not imply the constraints.  On `x - y == 2` over `0..1` the unchanged DFS returns
`x = 0, y = 0` although the model has no solution; and its `_flatten_sum` misreads `2*x + y == z`
as `y == z`, so that it reports INFEASIBLE (`[]`) on a model with the solution `(1, 0, 2)`. -/
theorem dfs_leaf_needs_check :
    (let M : Model := ⟨[⟨0, 1⟩, ⟨0, 1⟩], [.rel (.sub (.var 0) (.var 1)) (.const 2) false]⟩
     dfsSolve false M [] 1 = [[0, 0]] ∧ ¬ IsSolution M [0, 0] ∧ solutions M = []) ∧
    (let M : Model := ⟨[⟨0, 1⟩, ⟨0, 0⟩, ⟨2, 2⟩], [.rel (.add (.mul (.var 0) 2) (.var 1)) (.var 2) false]⟩
     dfsSolve false M [] 1 = [] ∧ solutions M = [[1, 0, 2]]) := by
  refine ⟨⟨by decide, ?_, by decide⟩, by decide, by decide⟩
  intro h
  have := mem_solutions.2 h
  revert this
  decide

/-- the repaired DFS on the same two models -/
example : dfsSolve true ⟨[⟨0, 1⟩, ⟨0, 1⟩], [.rel (.sub (.var 0) (.var 1)) (.const 2) false]⟩ [] 1 = [] ∧
    dfsSolve true ⟨[⟨0, 1⟩, ⟨0, 0⟩, ⟨2, 2⟩], [.rel (.add (.mul (.var 0) 2) (.var 1)) (.var 2) false]⟩ [] 1
      = [[1, 0, 2]] := by decide

/-- C05, after the repair: every assignment returned by the DFS solver —
whatever the hints and the solution limit — gives each variable a value inside its domain and
satisfies every constraint of the model.  This holds for *every* variable selection `sel` and every
order `ord` in which the values of the selected variable are tried (so also for CPython's set
iteration order, which the executable mirror does not reproduce). -/
theorem dfs_returns_solutions (sel : Doms → Option Nat) (ord : Doms → Nat → List Int) (hord : OrdOK ord)
    (M : Model) (hints : List (Nat × Int))
    (limit : Nat) : ∀ a ∈ dfsSolveG sel ord true M hints limit, IsSolution M a := by
  intro a ha
  unfold dfsSolveG at ha
  -- `dfsSolveG` branches on this Boolean
  cases h0 : (initDoms M.vars hints).any List.isEmpty with
  | true => simp only [h0, Bool.and_self, if_true] at ha; cases ha
  | false =>
    simp only [h0, Bool.and_false, Bool.false_eq_true, if_false] at ha
    split at ha
    · cases ha
    · next D' hp =>
      obtain ⟨hnar, hne'⟩ := propagate_narrow _ _ (Narrow.refl _) h0 hp
      exact backtrack_sound hord limit _ D' ⟨[], false⟩ (hnar.sub.trans (initDoms_sub _ _)) hne' (by simp) a ha

example : dfsSolve true ⟨[⟨0, 2⟩, ⟨0, 2⟩], [.rel (.add (.var 0) (.var 1)) (.const 2) false, .allDiff [0, 1]]⟩
    [(0, 2), (1, 7)] 100 = [[2, 0]] := by decide

-- the hypotheses are met by the mirror's MRV / ascending order and e.g. by descending values
example : SelOK pickVar ∧ OrdOK (fun D v => dget D v) ∧ OrdOK (fun D v => (dget D v).reverse) :=
  ⟨pickVar_selOK, dget_ordOK, fun _ _ _ => List.mem_reverse⟩

/-- after the repair: if the model has a solution that agrees with every
in-domain hint, the DFS solver returns at least one assignment — INFEASIBLE (`[]`) is reported
only if no such solution exists.  For every variable selection that returns `none` only on
all-singleton domains and `some v` only for an undecided variable (MRV is one), and every value
order. -/
theorem dfs_complete (sel : Doms → Option Nat) (ord : Doms → Nat → List Int) (hsel : SelOK sel)
    (hord : OrdOK ord) (M : Model) (hsc : ∀ c ∈ M.cons, c.Scoped M.vars.length)
    (hints : List (Nat × Int)) (limit : Nat) (hl : 1 ≤ limit) (a : Asg) (ha : IsSolution M a)
    (hh : ∀ h ∈ hints, h.2 ∈ dget (M.vars.map fun d => irange d.lb d.ub) h.1 → val a h.1 = h.2) :
    dfsSolveG sel ord true M hints limit ≠ [] :=
  (dfs_covers hsel hord hsc hints limit ha hh).elim List.ne_nil_of_mem
    fun h => List.ne_nil_of_length_pos (Nat.lt_of_lt_of_le hl h)

/-- without hints the repaired DFS reports INFEASIBLE exactly when the
model has no solution — whatever the selection and value order. -/
theorem dfs_infeasible_iff (sel : Doms → Option Nat) (ord : Doms → Nat → List Int) (hsel : SelOK sel)
    (hord : OrdOK ord) (M : Model)
    (hsc : ∀ c ∈ M.cons, c.Scoped M.vars.length) (limit : Nat) (hl : 1 ≤ limit) :
    dfsSolveG sel ord true M [] limit = [] ↔ ¬ ∃ a, IsSolution M a := by
  constructor
  · rintro h ⟨a, ha⟩
    exact dfs_complete sel ord hsel hord M hsc [] limit hl a ha (by simp) h
  · intro h
    cases hd : dfsSolveG sel ord true M [] limit with
    | nil => rfl
    | cons a l =>
      exact absurd ⟨a, dfs_returns_solutions sel ord hord M [] limit a
        (by rw [hd]; exact List.mem_cons_self)⟩ h

/-- after the repair: with a solution limit above the number of solutions
the DFS solver returns exactly the solutions of the model, each once — for every variable selection
and value order. -/
theorem dfs_enumerates_all (sel : Doms → Option Nat) (ord : Doms → Nat → List Int) (hsel : SelOK sel)
    (hord : OrdOK ord) (M : Model) (hsc : ∀ c ∈ M.cons, c.Scoped M.vars.length) (limit : Nat)
    (hbig : (solutions M).length < limit) :
    (dfsSolveG sel ord true M [] limit).Nodup ∧
      ∀ a, a ∈ dfsSolveG sel ord true M [] limit ↔ IsSolution M a := by
  have hsound := dfs_returns_solutions sel ord hord M [] limit
  have hnd := dfs_nodup sel ord M [] limit
  refine ⟨hnd, fun a => ⟨hsound a, fun ha =>
    (dfs_covers hsel hord hsc [] limit ha (by simp)).resolve_right fun h => ?_⟩⟩
  -- the limit exceeds the number of solutions
  have := hnd.length_le_of_subset fun b hb => mem_solutions.2 (hsound b hb)
  omega

example : (solutions ⟨[⟨0, 2⟩, ⟨0, 2⟩], [.rel (.add (.var 0) (.var 1)) (.const 2) false]⟩).length < 100 ∧
    dfsSolve true ⟨[⟨0, 2⟩, ⟨0, 2⟩], [.rel (.add (.var 0) (.var 1)) (.const 2) false]⟩ [] 100
      = [[0, 2], [1, 1], [2, 0]] := by decide

/-- two runs of the repaired DFS that differ only in the variable
selection and in the order in which values are tried agree on feasibility (both return something
or both return nothing).  (That what either returns are solutions is `dfs_returns_solutions`.) -/
theorem dfs_order_independent (sel₁ sel₂ : Doms → Option Nat) (ord₁ ord₂ : Doms → Nat → List Int)
    (h₁ : SelOK sel₁) (h₂ : SelOK sel₂) (o₁ : OrdOK ord₁) (o₂ : OrdOK ord₂) (M : Model)
    (hsc : ∀ c ∈ M.cons, c.Scoped M.vars.length) (limit : Nat) (hl : 1 ≤ limit) :
    (dfsSolveG sel₁ ord₁ true M [] limit = [] ↔ dfsSolveG sel₂ ord₂ true M [] limit = []) := by
  rw [dfs_infeasible_iff sel₁ ord₁ h₁ o₁ M hsc limit hl, dfs_infeasible_iff sel₂ ord₂ h₂ o₂ M hsc limit hl]

example : (∀ c ∈ ([.rel (.add (.var 0) (.var 1)) (.const 2) false, .allDiff [0, 1]] : List Con),
    c.Scoped 2) := by
  intro c hc
  simp only [List.mem_cons, List.not_mem_nil, or_false] at hc
  rcases hc with rfl | rfl
  · exact ⟨⟨by show (0 : Nat) < 2; omega, by show (1 : Nat) < 2; omega⟩, trivial⟩
  · intro v hv; simp at hv; omega

/-- with solver='auto' a model goes to the SAT encoder exactly when it
contains a SAT-only kind (sum_*, circuit, no_overlap, cumulative) or a linear equality that still has
three or more variables after merging coefficients; in particular every model with a SAT-only kind
is routed to SAT, under 'auto' and (fallback of `_solve_dfs`) under 'dfs'. -/
theorem choose_solver_total (M : Model) :
    (chooseSat M = true ↔ ∃ c ∈ M.cons, c.satRequired = true ∨
      ∃ l r, c = .rel l r false ∧ 3 ≤ (linDiff l r).1.length) ∧
    (dfsFallback M = true ↔ ∃ c ∈ M.cons, c.satRequired = true) ∧
    (dfsFallback M = true → chooseSat M = true) := by
  have hlin : ∀ c : Con, c.linEq3 = true ↔ ∃ l r, c = .rel l r false ∧ 3 ≤ (linDiff l r).1.length := by
    intro c
    constructor
    · intro h
      unfold Con.linEq3 at h
      split at h
      · next l r => exact ⟨l, r, rfl, of_decide_eq_true h⟩
      · cases h
    · rintro ⟨l, r, rfl, h⟩; exact decide_eq_true h
  refine ⟨?_, by simp [dfsFallback], ?_⟩
  · simp only [chooseSat, List.any_eq_true, Bool.or_eq_true, hlin]
  · simp only [chooseSat, dfsFallback, List.any_eq_true, Bool.or_eq_true]
    rintro ⟨c, hc, h⟩; exact ⟨c, hc, Or.inl h⟩

-- x0 + x1 + x2 == 3 is routed to SAT, x0 + x1 == 3 and x0 + x1 + x2 != 3 are not,
-- x0 + x1 - x0 == x2 merges to two variables and stays with DFS
example : chooseSat ⟨[⟨0, 3⟩, ⟨0, 3⟩, ⟨0, 3⟩], [.rel (.add (.add (.var 0) (.var 1)) (.var 2)) (.const 3) false]⟩ = true ∧
    chooseSat ⟨[⟨0, 3⟩, ⟨0, 3⟩], [.rel (.add (.var 0) (.var 1)) (.const 3) false]⟩ = false ∧
    chooseSat ⟨[⟨0, 3⟩, ⟨0, 3⟩, ⟨0, 3⟩], [.rel (.add (.add (.var 0) (.var 1)) (.var 2)) (.const 3) true]⟩ = false ∧
    chooseSat ⟨[⟨0, 3⟩, ⟨0, 3⟩, ⟨0, 3⟩], [.rel (.sub (.add (.var 0) (.var 1)) (.var 0)) (.var 2) false]⟩ = false := by
  decide

example : chooseSat ⟨[⟨0, 1⟩], [.neConst 0 0, .sumLe [0] 1]⟩ = true := by decide

end Solvor.Cp
