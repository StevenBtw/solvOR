import Solvor.Cp.EncodeLemmas
/-! The named variables of a model (`mkVars`, `encodeVars`), the composition of constraint encodings (`encodeCons`),
and `RepL`: `Enc` without the numbering from 1. -/
namespace Solvor.Cp
open Solvor.Cp.Sat

theorem ev_cons_succ (V : EVar) (Vs : List EVar) (i : Nat) : ev (V :: Vs) (i + 1) = ev Vs i := rfl

theorem ev_cons_zero (V : EVar) (Vs : List EVar) : ev (V :: Vs) 0 = V := rfl

theorem val_cons_succ (x : Int) (a : Asg) (i : Nat) : val (x :: a) (i + 1) = val a i := rfl

theorem val_cons_zero (x : Int) (a : Asg) : val (x :: a) 0 = x := rfl

def RepL (β : Nat → Bool) : List EVar → List Int → Prop
  | [], [] => True
  | V :: Vs, x :: xs => Rep β V x ∧ RepL β Vs xs
  | _, _ => False

theorem enc_iff_repL {β : Nat → Bool} : ∀ {Vs : List EVar} {a : Asg},
    Enc β Vs a ↔ RepL β Vs a ∧ ∀ V ∈ Vs, 0 < V.base
  | [], [] => ⟨fun _ => ⟨trivial, fun _ h => nomatch h⟩, fun _ => ⟨rfl, fun _ h => nomatch h⟩⟩
  | [], _ :: _ => ⟨fun h => (nomatch h.1), fun h => h.1.elim⟩
  | _ :: _, [] => ⟨fun h => (nomatch h.1), fun h => h.1.elim⟩
  | V :: Vs, x :: a => by
    rw [enc_cons, enc_iff_repL (Vs := Vs) (a := a), List.forall_mem_cons]
    exact ⟨fun h => ⟨⟨h.1.rep, h.2.1⟩, h.1.pos, h.2.2⟩, fun h => ⟨⟨h.2.1, h.1.1⟩, h.1.2, h.2.2⟩⟩

theorem RepL.decode {β : Nat → Bool} : ∀ {Vs : List EVar} {a : Asg}, RepL β Vs a →
    Vs.map (decodeVar β) = a.map some
  | [], [], _ => rfl
  | V :: Vs, x :: a, h => by simp [decodeVar_of_rep h.1, RepL.decode h.2]
  | [], _ :: _, h => h.elim
  | _ :: _, [], h => h.elim

theorem RepL.unique {β : Nat → Bool} : ∀ {Vs : List EVar} {a b : Asg}, RepL β Vs a → RepL β Vs b → a = b :=
  fun h1 h2 => (List.map_inj_right fun _ _ => Option.some.inj).1 (h1.decode.symm.trans h2.decode)

theorem mkVars_mono : ∀ (ds : List VarDecl) (nx : Nat), nx ≤ (mkVars ds nx).2
  | [], _ => Nat.le_refl _
  | _ :: ds, _ => Nat.le_trans (Nat.le_add_right _ _) (mkVars_mono ds _)

theorem mkVars_decls : ∀ (ds : List VarDecl) (nx : Nat),
    (mkVars ds nx).1.map (fun V => VarDecl.mk V.lb V.ub) = ds
  | [], _ => rfl
  | d :: ds, _ => congrArg (d :: ·) (mkVars_decls ds _)

theorem mkVars_length (ds : List VarDecl) (nx : Nat) : (mkVars ds nx).1.length = ds.length := by
  rw [← List.length_map (fun V : EVar => VarDecl.mk V.lb V.ub), mkVars_decls]

theorem mkVars_getD (ds : List VarDecl) (nx p : Nat) :
    VarDecl.mk ((mkVars ds nx).1.getD p default).lb ((mkVars ds nx).1.getD p default).ub = ds.getD p default :=
  (getD_map (fun V : EVar => VarDecl.mk V.lb V.ub) _ p default).symm.trans
    (congrArg (·.getD p default) (mkVars_decls ds nx))

theorem mkVars_below : ∀ (ds : List VarDecl) (nx : Nat), 0 < nx →
    ∀ V ∈ (mkVars ds nx).1, V.Below (mkVars ds nx).2
  | [], _, _ => fun _ h => nomatch h
  | _ :: ds, _, hnx => fun V hV => by
    rcases List.mem_cons.1 hV with rfl | hV
    · exact ⟨hnx, mkVars_mono ds _⟩
    · exact mkVars_below ds _ (Nat.lt_of_lt_of_le hnx (Nat.le_add_right _ _)) V hV

theorem mkVars_bounds {β : Nat → Bool} : ∀ (ds : List VarDecl) (nx : Nat) (a : Asg),
    Enc β (mkVars ds nx).1 a → InDom a ds
  | [], _, [], _ => trivial
  | _ :: ds, _, _ :: a, h => ⟨h.head.rep.bounds, mkVars_bounds ds _ a h.tail⟩
  | [], _, _ :: _, h => nomatch h.1
  | _ :: _, _, [], h => nomatch h.1

theorem mkVars_encode : ∀ (ds : List VarDecl) (nx : Nat) (a : Asg) (β : Nat → Bool), 0 < nx →
    InDom a ds → ∃ β', AgreeBelow nx β β' ∧ Enc β' (mkVars ds nx).1 a
  | [], _, [], β, _, _ => ⟨β, AgreeBelow.refl _ _, Enc.nil⟩
  | d :: ds, nx, x :: a, β, hnx, h => by
    obtain ⟨β', hag, hr⟩ := mkVars_encode ds (nx + (EVar.mk d.lb d.ub nx).size) a
      (setVar β ⟨d.lb, d.ub, nx⟩ x) (Nat.lt_of_lt_of_le hnx (Nat.le_add_right _ _)) h.2
    exact ⟨β', (setVar_agree_below (P := ⟨d.lb, d.ub, nx⟩)).trans hag (Nat.le_add_right _ _),
      enc_cons.2 ⟨⟨hnx, (setVar_rep (P := ⟨d.lb, d.ub, nx⟩) h.1).of_agree ⟨hnx, Nat.le_refl _⟩ hag⟩, hr⟩⟩
  | [], _, _ :: _, _, _, h => h.elim
  | _ :: _, _, [], _, _, h => h.elim

theorem inDom_map {α} (g : α → Int) (f : α → VarDecl) : ∀ (l : List α),
    (∀ x ∈ l, (f x).lb ≤ g x ∧ g x ≤ (f x).ub) → InDom (l.map g) (l.map f)
  | [], _ => trivial
  | x :: l, h => ⟨h x List.mem_cons_self, inDom_map g f l fun y hy => h y (List.mem_cons_of_mem _ hy)⟩

/-- `_encode_vars` (repaired): with an empty domain neither side holds -/
theorem encodeVars_iff {β : Nat → Bool} : ∀ {Vs : List EVar}, (∀ V ∈ Vs, 0 < V.base) →
    (cnfTrue β (encodeVars Vs) = true ↔ ∃ a, Enc β Vs a)
  | [], _ => by simp only [encodeVars, List.flatMap_nil, cnfTrue_nil, true_iff]; exact ⟨[], Enc.nil⟩
  | V :: Vs, hp => by
    have ih := encodeVars_iff (β := β) (Vs := Vs) fun W hW => hp W (List.mem_cons_of_mem _ hW)
    have hV := hp V List.mem_cons_self
    have hcons : (∃ a, Enc β (V :: Vs) a) ↔ (∃ x, Rep β V x) ∧ ∃ a, Enc β Vs a :=
      ⟨fun ⟨a, ha⟩ => match a, ha with
        | x :: a, ha => ⟨⟨x, ha.head.rep⟩, a, ha.tail⟩
        | [], ha => (nomatch ha.1),
       fun ⟨⟨x, hx⟩, a, ha⟩ => ⟨x :: a, enc_cons.2 ⟨⟨hV, hx⟩, ha⟩⟩⟩
    unfold encodeVars at ih ⊢
    rw [List.flatMap_cons, cnfTrue_append_iff, ih, hcons]
    refine and_congr_left fun _ => ?_
    by_cases hne : V.lb ≤ V.ub
    · rw [if_neg fun h => Int.not_lt.2 hne (EVar.lits_isEmpty.1 h), exactlyOne_iff hV hne]
    · -- an empty domain: the (repaired) clause `[]`, and no value to represent
      rw [if_pos (EVar.lits_isEmpty.2 (Int.not_le.1 hne))]
      exact ⟨fun h => (nomatch h), fun ⟨x, hx⟩ => absurd (Int.le_trans hx.1.1 hx.1.2) hne⟩

/-- a variable with an empty domain makes `_encode_vars` (repaired) unsatisfiable -/
theorem encodeVars_empty {β : Nat → Bool} {Vs : List EVar} (h : ∃ V ∈ Vs, V.ub < V.lb) :
    cnfTrue β (encodeVars Vs) = false := by
  obtain ⟨V, hV, hlt⟩ := h
  cases hc : cnfTrue β (encodeVars Vs)
  · rfl
  · unfold encodeVars at hc
    have := cnfTrue_flatMap.1 hc V hV
    have hl : V.lits.isEmpty = true := EVar.lits_isEmpty.2 hlt
    rw [hl] at this
    simp [cnfTrue_empty_clause] at this

theorem encodeModel_eq (M : Model) : encodeModel M = encodeVars (mkVars M.vars 1).1 ++
    (encodeCons (mkVars M.vars 1).1 M.cons (mkVars M.vars 1).2).1 := rfl

theorem encodeCons_exact {Vs : List EVar} : ∀ (cs : List Con) (nx : Nat), (∀ V ∈ Vs, V.Below nx) →
    (∀ c ∈ cs, ∀ n, nx ≤ n →
      Exact Vs (fun a => Holds a c) (encodeCon Vs c n).1 n (encodeCon Vs c n).2) →
    Exact Vs (fun a => ∀ c ∈ cs, Holds a c) (encodeCons Vs cs nx).1 nx (encodeCons Vs cs nx).2
  | [], _, hB, _ => Exact.of_iff hB fun _ _ _ => ⟨fun _ _ h => (nomatch h), fun _ => rfl⟩
  | c :: cs, nx, hB, h => by
    have E1 := h c List.mem_cons_self nx (Nat.le_refl _)
    have E2 := encodeCons_exact cs (encodeCon Vs c nx).2 (fun V hV => (hB V hV).mono E1.mono)
      (fun d hd n hn => h d (List.mem_cons_of_mem _ hd) n (Nat.le_trans E1.mono hn))
    simp only [encodeCons]
    refine ⟨Nat.le_trans E1.mono E2.mono, ?_, ?_⟩
    · intro β a he hc d hd
      rw [cnfTrue_append_iff] at hc
      rcases List.mem_cons.1 hd with rfl | hd
      · exact E1.sound β a he hc.1
      · exact E2.sound β a he hc.2 d hd
    · intro β a he hall
      obtain ⟨β₁, hag1, hst1⟩ := E1.complete β a he (hall c List.mem_cons_self)
      have he1 : Enc β₁ Vs a := he.of_agree hB hag1
      obtain ⟨β₂, hag2, hst2⟩ := E2.complete β₁ a he1 fun d hd => hall d (List.mem_cons_of_mem _ hd)
      refine ⟨β₂, hag1.trans hag2 E1.mono, fun β₃ hag3 => ?_⟩
      rw [cnfTrue_append_iff]
      exact ⟨hst1 β₃ (hag2.trans hag3 E2.mono), hst2 β₃ hag3⟩

end Solvor.Cp
