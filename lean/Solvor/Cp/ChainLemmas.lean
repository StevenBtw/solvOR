import Solvor.Cp.Lemmas
/-! The encodings with auxiliary partial-sum variables (`_encode_sum_eq/_le/_ge`, `_encode_linear`): exactness over a list of
variables (`Exact`), the one step the four chains share (`Exact.chain`), the chains, and the encoders that start them. -/
namespace Solvor.Cp
open Solvor.Cp.Sat

theorem AgreeBelow.trans {n m : Nat} {β₀ β₁ β₂ : Nat → Bool} (h1 : AgreeBelow n β₀ β₁)
    (h2 : AgreeBelow m β₁ β₂) (hnm : n ≤ m) : AgreeBelow n β₀ β₂ :=
  fun k hk => by rw [h2 k (by omega), h1 k hk]

theorem AgreeBelow.mono {n m : Nat} {β₀ β₁ : Nat → Bool} (h : AgreeBelow m β₀ β₁) (hnm : n ≤ m) :
    AgreeBelow n β₀ β₁ := fun k hk => h k (by omega)

theorem AgreeBelow.refl (n : Nat) (β : Nat → Bool) : AgreeBelow n β β := fun _ _ => rfl

theorem EVar.Below.mono {V : EVar} {n m : Nat} (h : V.Below n) (hnm : n ≤ m) : V.Below m :=
  ⟨h.1, by have := h.2; omega⟩

theorem EVar.Below.pos {V : EVar} {n : Nat} (h : V.Below n) : 0 < n := by
  have := h.1; have := h.2; omega

theorem auxClauses_of_rep {β : Nat → Bool} {P : EVar} {p : Int} (hP : 0 < P.base) (h : Rep β P p) :
    cnfTrue β (auxClauses P) = true :=
  (exactlyOne_iff hP (by have := h.1; omega)).2 ⟨p, h⟩

theorem stable_of_iff {β : Nat → Bool} {cls : Cnf} {nx : Nat} {P : Prop}
    (h : ∀ β₂, AgreeBelow nx β β₂ → (cnfTrue β₂ cls = true ↔ P)) (hp : P) :
    ∃ β₁, AgreeBelow nx β β₁ ∧ ∀ β₂, AgreeBelow nx β₁ β₂ → cnfTrue β₂ cls = true :=
  ⟨β, AgreeBelow.refl _ _, fun β₂ hag => (h β₂ hag).2 hp⟩

/-- The clauses `cls`, which may use the fresh booleans `[nx, nx')`, encode the set `S` of assignments of `Vs`.
Completeness is stated stably under any change from `nx'` on: the clauses of a later constraint use those booleans, and
setting them afterwards must not undo this constraint's clauses (`encodeCons_exact`). -/
structure Exact (Vs : List EVar) (S : Asg → Prop) (cls : Cnf) (nx nx' : Nat) : Prop where
  mono : nx ≤ nx'
  sound : ∀ β a, Enc β Vs a → cnfTrue β cls = true → S a
  complete : ∀ β a, Enc β Vs a → S a →
    ∃ β₁, AgreeBelow nx β β₁ ∧ ∀ β₂, AgreeBelow nx' β₁ β₂ → cnfTrue β₂ cls = true

theorem Exact.of_iff {Vs : List EVar} {S : Asg → Prop} {cls : Cnf} {nx : Nat}
    (hB : ∀ V ∈ Vs, V.Below nx)
    (h : ∀ β a, Enc β Vs a → (cnfTrue β cls = true ↔ S a)) : Exact Vs S cls nx nx :=
  ⟨Nat.le_refl _, fun β a he hc => (h β a he).1 hc,
   fun _ a he hs => stable_of_iff (fun β₂ hag => h β₂ a (he.of_agree hB hag)) hs⟩

theorem Exact.nil {R : Asg → Prop} {cls : Cnf} {nx : Nat}
    (h : ∀ β, cnfTrue β cls = true ↔ R []) : Exact [] R cls nx nx :=
  Exact.of_iff (fun _ hV => nomatch hV) fun β xs hr =>
    match xs, hr with
    | [], _ => h β

theorem Exact.single {X : EVar} {R : Asg → Prop} {cls : Cnf} {nx : Nat}
    (hB : ∀ V ∈ [X], V.Below nx)
    (h : ∀ β x, RepP β X x → (cnfTrue β cls = true ↔ R [x])) : Exact [X] R cls nx nx :=
  Exact.of_iff hB fun β xs hr =>
    match xs, hr with
    | [x], hr => h β x hr.head

theorem Exact.pair {X Y : EVar} {R : Asg → Prop} {cls : Cnf} {nx : Nat}
    (hB : ∀ V ∈ [X, Y], V.Below nx)
    (h : ∀ β x y, RepP β X x → RepP β Y y → (cnfTrue β cls = true ↔ R [x, y])) :
    Exact [X, Y] R cls nx nx :=
  Exact.of_iff hB fun β xs hr =>
    match xs, hr with
    | [x, y], hr => h β x y hr.head hr.tail.head

/-- The chain step: `X`, `Y` are folded into a fresh `P = mkAux lb ub nx` linked by `P = f X Y`.
`f x y` must lie in the range of `P` whenever `R` holds, and always when pairs outside the range are
not forbidden (`orElse = false`).  `tail` asks for the exactness of the rest only once the new variable list is known to lie
below the new counter, which is what the induction hypothesis of each chain asks for in turn. -/
theorem Exact.chain {X Y : EVar} {Zs : List EVar} {R R' : Asg → Prop} {f : Int → Int → Int}
    {orElse : Bool} {lb ub : Int} {nx nx' : Nat} {cls : Cnf}
    (hB : ∀ V ∈ X :: Y :: Zs, V.Below nx)
    (tail : (∀ V ∈ mkAux lb ub nx :: Zs, V.Below (nx + (mkAux lb ub nx).size)) →
      Exact (mkAux lb ub nx :: Zs) R' cls (nx + (mkAux lb ub nx).size) nx')
    (hin : ∀ β x y zs, Enc β (X :: Y :: Zs) (x :: y :: zs) → orElse = false ∨ R (x :: y :: zs) →
      lb ≤ f x y ∧ f x y ≤ ub)
    (hR : ∀ x y zs, R (x :: y :: zs) ↔ R' (f x y :: zs)) :
    Exact (X :: Y :: Zs) R
      (auxClauses (mkAux lb ub nx) ++ link X Y (mkAux lb ub nx) f orElse ++ cls) nx nx' := by
  have hX := hB X List.mem_cons_self
  have hle : nx ≤ nx + (mkAux lb ub nx).size := Nat.le_add_right _ _
  have hP : (mkAux lb ub nx).Below (nx + (mkAux lb ub nx).size) := ⟨hX.pos, Nat.le_refl _⟩
  have hBP : ∀ V ∈ mkAux lb ub nx :: Zs, V.Below (nx + (mkAux lb ub nx).size) := fun V hV => by
    rcases List.mem_cons.1 hV with rfl | hV
    · exact hP
    · exact (hB V (List.mem_cons_of_mem _ (List.mem_cons_of_mem _ hV))).mono hle
  have tail := tail hBP
  refine ⟨Nat.le_trans hle tail.mono, fun β xs hr hc => ?_, fun β xs hr hRx => ?_⟩
  · match xs, hr with
    | x :: y :: zs, hr =>
      rw [cnfTrue_append_iff, cnfTrue_append_iff] at hc
      obtain ⟨⟨haux, hlink⟩, htail⟩ := hc
      have hls := link_sound hr.head hr.tail.head hP.1 hlink
      have hhas : lb ≤ f x y ∧ f x y ≤ ub := by
        cases ho : orElse
        · exact hin β x y zs hr (Or.inl ho)
        · exact EVar.has_iff.1 (hls.2 ho)
      obtain ⟨q, hq⟩ := (exactlyOne_iff hP.1 (Int.le_trans hhas.1 hhas.2)).1 haux
      rw [← (hq.2 _ hhas.1 hhas.2).1 (hls.1 (EVar.has_iff.2 hhas))] at hq
      exact (hR x y zs).2 (tail.sound β (f x y :: zs) (enc_cons.2 ⟨⟨hP.1, hq⟩, hr.tail.tail⟩) htail)
  · match xs, hr with
    | x :: y :: zs, hr =>
      have hin' := hin β x y zs hr (Or.inr hRx)
      have haga : AgreeBelow nx β (setVar β (mkAux lb ub nx) (f x y)) :=
        setVar_agree_below (P := mkAux lb ub nx)
      have hr' := hr.of_agree hB haga
      obtain ⟨β₁, hag1, hst⟩ := tail.complete _ (f x y :: zs)
        (enc_cons.2 ⟨⟨hP.1, setVar_rep hin'⟩, hr'.tail.tail⟩) ((hR x y zs).1 hRx)
      refine ⟨β₁, haga.trans hag1 hle, fun β₂ hag2 => ?_⟩
      have hagP := hag1.trans hag2 tail.mono
      have hr2 := hr'.of_agree (fun V hV => (hB V hV).mono hle) hagP
      have hp2 : Rep β₂ (mkAux lb ub nx) (f x y) := (setVar_rep hin').of_agree hP hagP
      rw [cnfTrue_append_iff, cnfTrue_append_iff]
      exact ⟨⟨auxClauses_of_rep hP.1 hp2, link_complete hr2.head hr2.tail.head ⟨hP.1, hp2⟩⟩,
        hst β₂ hag2⟩

theorem Enc.sum_bounds {β : Nat → Bool} : ∀ {Vs : List EVar} {xs : List Int}, Enc β Vs xs →
    sumLb Vs ≤ xs.sum ∧ xs.sum ≤ sumUb Vs
  | [], [], _ => by simp [sumLb, sumUb]
  | V :: Vs, x :: xs, h => by
    have := h.tail.sum_bounds
    have := h.head.rep.bounds
    simp only [sumLb, sumUb, List.map_cons, List.sum_cons] at *
    omega
  | [], _ :: _, h => nomatch h.1
  | _ :: _, [], h => nomatch h.1

theorem encSumEqChain_exact (rest : List EVar) : ∀ (X Y : EVar) (t : Int) (nx : Nat),
    (∀ V ∈ X :: Y :: rest, V.Below nx) →
    Exact (X :: Y :: rest) (fun xs => xs.sum = t) (encSumEqChain X Y rest t nx).1 nx
      (encSumEqChain X Y rest t nx).2 := by
  induction rest with
  | nil =>
    intro X Y t nx hB
    refine Exact.pair hB fun β x y hx hy => ?_
    show cnfTrue β (imply2 X Y fun v1 => some (t - v1)) = true ↔ _
    rw [imply2_iff hx hy]
    simp only [Option.some.injEq, List.sum_cons, List.sum_nil]; omega
  | cons Z rest ih =>
    intro X Y t nx hB
    exact Exact.chain hB (ih _ Z t _)
      (fun _ x y _ hr _ => by have := hr.head.rep.bounds; have := hr.tail.head.rep.bounds; omega)
      (fun x y zs => by simp only [List.sum_cons, Int.add_assoc])

theorem encSumLeChain_exact (rest : List EVar) : ∀ (X Y : EVar) (t : Int) (nx : Nat),
    (∀ V ∈ X :: Y :: rest, V.Below nx) →
    Exact (X :: Y :: rest) (fun xs => xs.sum ≤ t) (encSumLeChain X Y rest t nx).1 nx
      (encSumLeChain X Y rest t nx).2 := by
  induction rest with
  | nil =>
    intro X Y t nx hB
    refine Exact.pair hB fun β x y hx hy => ?_
    show cnfTrue β (forbid2 X Y fun v1 v2 => decide (v1 + v2 > t)) = true ↔ _
    rw [forbid2_iff hx hy]
    simp only [decide_eq_false_iff_not, List.sum_cons, List.sum_nil]; omega
  | cons Z rest ih =>
    intro X Y t nx hB
    -- the partial sum may not exceed `t` minus the least possible rest
    exact Exact.chain hB (ih _ Z t _)
      (fun _ x y zs hr hle => by
        have := hr.head.rep.bounds; have := hr.tail.head.rep.bounds; have := hr.tail.tail.sum_bounds.1
        simp only [List.sum_cons, reduceCtorEq, false_or] at hle; omega)
      (fun x y zs => by simp only [List.sum_cons, Int.add_assoc])

theorem encSumGeChain_exact (rest : List EVar) : ∀ (X Y : EVar) (t : Int) (nx : Nat),
    (∀ V ∈ X :: Y :: rest, V.Below nx) →
    Exact (X :: Y :: rest) (fun xs => xs.sum ≥ t) (encSumGeChain X Y rest t nx).1 nx
      (encSumGeChain X Y rest t nx).2 := by
  induction rest with
  | nil =>
    intro X Y t nx hB
    refine Exact.pair hB fun β x y hx hy => ?_
    show cnfTrue β (forbid2 X Y fun v1 v2 => decide (v1 + v2 < t)) = true ↔ _
    rw [forbid2_iff hx hy]
    simp only [decide_eq_false_iff_not, List.sum_cons, List.sum_nil]; omega
  | cons Z rest ih =>
    intro X Y t nx hB
    exact Exact.chain hB (ih _ Z t _)
      (fun _ x y zs hr hge => by
        have := hr.head.rep.bounds; have := hr.tail.head.rep.bounds; have := hr.tail.tail.sum_bounds.2
        simp only [List.sum_cons, reduceCtorEq, false_or] at hge; omega)
      (fun x y zs => by simp only [List.sum_cons, Int.add_assoc])

def relHolds (isNe : Bool) (s : Int) : Prop := if isNe then s ≠ 0 else s = 0

/-- a linear form over encoded variables, evaluated on a list of their values; over variable indices under an assignment it
is `lval` (`dot_map`) -/
def dot (ts : List (EVar × Int)) (zs : List Int) : Int := (List.zipWith (fun p z => p.2 * z) ts zs).sum

theorem scaled_bounds {X : EVar} {a x : Int} (h : X.lb ≤ x ∧ x ≤ X.ub) :
    scaledLo X a ≤ a * x ∧ a * x ≤ scaledHi X a := by
  unfold scaledLo scaledHi
  rcases Int.le_total 0 a with ha | ha
  · have := Int.mul_le_mul_of_nonneg_left h.1 ha
    have := Int.mul_le_mul_of_nonneg_left h.2 ha
    omega
  · have := Int.mul_le_mul_of_nonpos_left ha h.1
    have := Int.mul_le_mul_of_nonpos_left ha h.2
    omega

theorem div_exact_iff {n b y : Int} (hb : b ≠ 0) :
    (if n % b == 0 then some (n / b) else none) = some y ↔ n = b * y := by
  constructor
  · intro h
    split at h
    · next hm =>
      have := Int.mul_ediv_cancel' (Int.dvd_of_emod_eq_zero (beq_iff_eq.1 hm))
      rw [← Option.some.inj h, this]
    · cases h
  · rintro rfl
    rw [Int.mul_emod_right, Int.mul_ediv_cancel_left _ hb]; rfl

theorem encLinear2_iff {β : Nat → Bool} {X Y : EVar} {a b const x y : Int} {isNe : Bool}
    (hb : b ≠ 0) (hx : RepP β X x) (hy : RepP β Y y) :
    cnfTrue β (encLinear2 X a Y b const isNe) = true ↔ relHolds isNe (a * x + b * y + const) := by
  unfold encLinear2 relHolds
  cases isNe
  · simp only [Bool.false_eq_true, if_false]
    rw [imply2_iff hx hy, div_exact_iff hb]; omega
  · simp only [if_true]
    rw [forbid2_iff hx hy]; simp

theorem dot_cons (X : EVar) (a : Int) (ts : List (EVar × Int)) (x : Int) (xs : List Int) :
    dot ((X, a) :: ts) (x :: xs) = a * x + dot ts xs := rfl

theorem dot_nil : dot [] [] = 0 := rfl

theorem encLinearChain_exact (rest : List (EVar × Int)) : ∀ (X : EVar) (a : Int) (Y : EVar)
    (b const : Int) (isNe : Bool) (nx : Nat),
    (∀ V ∈ X :: Y :: rest.map (·.1), V.Below nx) → b ≠ 0 → (∀ p ∈ rest, p.2 ≠ 0) →
    Exact (X :: Y :: rest.map (·.1))
      (fun xs => relHolds isNe (dot ((X, a) :: (Y, b) :: rest) xs + const))
      (encLinearChain X a Y b rest const isNe nx).1 nx
      (encLinearChain X a Y b rest const isNe nx).2 := by
  induction rest with
  | nil =>
    intro X a Y b const isNe nx hB hb _
    refine Exact.pair hB fun β x y hx hy => ?_
    show cnfTrue β (encLinear2 X a Y b const isNe) = true ↔ _
    rw [encLinear2_iff hb hx hy]
    simp only [dot_cons, dot_nil, Int.add_zero, Int.add_assoc]
  | cons Zc rest ih =>
    intro X a Y b const isNe nx hB _ hc
    exact Exact.chain hB
      (fun h1 => ih _ 1 Zc.1 Zc.2 const isNe _ h1 (hc _ List.mem_cons_self)
        fun p hp => hc p (List.mem_cons_of_mem _ hp))
      (fun _ x y zs hr _ => by
        have := scaled_bounds (a := a) hr.head.rep.bounds; have := scaled_bounds (a := b) hr.tail.head.rep.bounds; omega)
      (fun x y zs => by simp only [dot_cons, Int.one_mul, Int.add_assoc])

theorem encSumEq_exact {Xs : List EVar} {nx : Nat} (hB : ∀ X ∈ Xs, X.Below nx) (t : Int) :
    Exact Xs (fun xs => xs.sum = t) (encSumEq Xs t nx).1 nx (encSumEq Xs t nx).2 := by
  unfold encSumEq
  match Xs, hB with
  | [], _ =>
    refine Exact.nil fun β => ?_
    by_cases ht : t = 0
    · subst ht; exact ⟨fun _ => rfl, fun _ => rfl⟩
    · simp only [bne_iff_ne.2 ht, if_true, cnfTrue_empty_clause, List.sum_nil, Bool.false_eq_true, false_iff]
      exact fun h => ht h.symm
  | X :: rest, hB =>
    simp only
    split
    · -- the target is outside the reachable sums
      next hchk =>
      simp only [Bool.or_eq_true, decide_eq_true_eq] at hchk
      exact Exact.of_iff hB fun β xs hr => by
        have := hr.sum_bounds
        simp only [cnfTrue_empty_clause, Bool.false_eq_true, false_iff]; omega
    · match rest, hB with
      | [], hB =>
        refine Exact.single hB fun β x hx => ?_
        simp only [encEqConst_iff hx, List.sum_cons, List.sum_nil, Int.add_zero]
      | Y :: rest', hB => exact encSumEqChain_exact rest' X Y t nx hB

theorem encSumLe_exact {Xs : List EVar} {nx : Nat} (hB : ∀ X ∈ Xs, X.Below nx) (t : Int) :
    Exact Xs (fun xs => xs.sum ≤ t) (encSumLe Xs t nx).1 nx (encSumLe Xs t nx).2 := by
  unfold encSumLe
  match Xs, hB with
  | [], _ =>
    refine Exact.nil fun β => ?_
    simp only
    split
    · simp only [cnfTrue_empty_clause, List.sum_nil, Bool.false_eq_true, false_iff]; omega
    · simp only [cnfTrue_nil, List.sum_nil, true_iff]; omega
  | [X], hB =>
    refine Exact.single hB fun β x hx => ?_
    simp only [forbid1_iff hx, decide_eq_false_iff_not, List.sum_cons, List.sum_nil]; omega
  | X :: Y :: rest, hB => exact encSumLeChain_exact rest X Y t nx hB

theorem encSumGe_exact {Xs : List EVar} {nx : Nat} (hB : ∀ X ∈ Xs, X.Below nx) (t : Int) :
    Exact Xs (fun xs => xs.sum ≥ t) (encSumGe Xs t nx).1 nx (encSumGe Xs t nx).2 := by
  unfold encSumGe
  match Xs, hB with
  | [], _ =>
    refine Exact.nil fun β => ?_
    simp only
    split
    · simp only [cnfTrue_empty_clause, List.sum_nil, Bool.false_eq_true, false_iff]; omega
    · simp only [cnfTrue_nil, List.sum_nil, true_iff]; omega
  | [X], hB =>
    refine Exact.single hB fun β x hx => ?_
    simp only [forbid1_iff hx, decide_eq_false_iff_not, List.sum_cons, List.sum_nil]; omega
  | X :: Y :: rest, hB => exact encSumGeChain_exact rest X Y t nx hB

theorem encLinear1_iff {β : Nat → Bool} {X : EVar} {a x const : Int} {isNe : Bool}
    (ha : a ≠ 0) (hx : RepP β X x) :
    cnfTrue β (if (-const) % a == 0 then
        (if isNe then encNeConst X ((-const) / a) else encEqConst X ((-const) / a))
      else if isNe then [] else [[]]) = true ↔ relHolds isNe (a * x + const) := by
  have key : (if (-const) % a == 0 then some ((-const) / a) else none) = some x ↔ a * x + const = 0 := by
    rw [div_exact_iff ha]; omega
  unfold relHolds
  split at key
  · next hm =>
    have key' : x = (-const) / a ↔ a * x + const = 0 := by
      rw [← key, Option.some.injEq]; exact eq_comm
    rw [if_pos hm]
    cases isNe
    · simp only [Bool.false_eq_true, if_false, encEqConst_iff hx, key']
    · simp only [if_true, encNeConst_iff hx, ne_eq, key']
  · next hm =>
    have hne : ¬ a * x + const = 0 := fun h => nomatch key.2 h
    rw [if_neg hm]
    cases isNe
    · simp only [Bool.false_eq_true, if_false, cnfTrue_empty_clause, hne]
    · simp only [if_true, cnfTrue_nil, ne_eq, hne, not_false_eq_true]

theorem encLinear_exact {ts : List (EVar × Int)} {nx : Nat} (hB : ∀ V ∈ ts.map (·.1), V.Below nx)
    (hc : ∀ p ∈ ts, p.2 ≠ 0) (const : Int) (isNe : Bool) :
    Exact (ts.map (·.1)) (fun xs => relHolds isNe (dot ts xs + const))
      (encLinear ts const isNe nx).1 nx (encLinear ts const isNe nx).2 := by
  unfold encLinear
  match ts, hB, hc with
  | [], _, _ =>
    refine Exact.nil fun β => ?_
    unfold relHolds
    cases isNe <;> by_cases hk : const = 0 <;> simp [hk, dot_nil, cnfTrue_nil, cnfTrue_empty_clause]
  | [(X, a)], hB, hc =>
    refine Exact.single hB fun β x hx => ?_
    simp only [encLinear1_iff (hc _ List.mem_cons_self) hx, dot_cons, dot_nil, Int.add_zero]
  | (X, a) :: (Y, b) :: rest, hB, hc =>
    exact encLinearChain_exact rest X a Y b const isNe nx hB
      (hc (Y, b) (List.mem_cons_of_mem _ List.mem_cons_self))
      fun p hp => hc p (List.mem_cons_of_mem _ (List.mem_cons_of_mem _ hp))

end Solvor.Cp
