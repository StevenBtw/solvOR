import Solvor.Cp.ChainLemmas
/-! Between the encoder of a model (`encodeCon`: constraints name variables by index) and the encodings over their own
variable lists: scoping, the passage `Exact.comap`, and linearisation (`linDiff` computes `left − right`). -/
namespace Solvor.Cp
open Solvor.Cp.Sat

def Expr.Scoped (n : Nat) : Expr → Prop
  | .var i => i < n
  | .const _ => True
  | .add a b => a.Scoped n ∧ b.Scoped n
  | .sub a b => a.Scoped n ∧ b.Scoped n
  | .rsub a _ => a.Scoped n
  | .mul a _ => a.Scoped n

/-- every variable index of the constraint refers to a declared variable -/
def Con.Scoped (n : Nat) : Con → Prop
  | .allDiff vs | .sumEq vs _ | .sumLe vs _ | .sumGe vs _ | .circuit vs => ∀ v ∈ vs, v < n
  | .eqConst v _ | .neConst v _ => v < n
  | .eqVar a b | .neVar a b => a < n ∧ b < n
  | .rel l r _ => l.Scoped n ∧ r.Scoped n
  | .noOverlap ss _ => ∀ v ∈ ss, v < n
  | .cumulative ss _ _ _ => ∀ v ∈ ss, v < n

theorem below_map {Vs : List EVar} {nx : Nat} (hB : ∀ V ∈ Vs, V.Below nx) {vs : List Nat}
    (hs : ∀ v ∈ vs, v < Vs.length) : ∀ X ∈ vs.map (ev Vs), X.Below nx := by
  intro X hX
  obtain ⟨v, hv, rfl⟩ := List.mem_map.1 hX
  exact hB _ (ev_mem (hs v hv))

/-- the linear form `linDiff` returns, (variable index, coefficient) pairs and a constant, evaluated under `a` -/
def lval (a : Asg) (cs : List (Nat × Int)) (c : Int) : Int := (cs.map fun p => p.2 * val a p.1).sum + c

theorem lval_cons (a : Asg) (p : Nat × Int) (cs : List (Nat × Int)) (c : Int) :
    lval a (p :: cs) c = p.2 * val a p.1 + lval a cs c := Int.add_assoc _ _ _

theorem lval_addCoef (a : Asg) (cs : List (Nat × Int)) (c : Int) (i : Nat) (k : Int) :
    lval a (addCoef cs i k) c = lval a cs c + k * val a i := by
  induction cs with
  | nil => simp only [addCoef, lval, List.map_cons, List.map_nil, List.sum_cons, List.sum_nil]; omega
  | cons p cs ih =>
    obtain ⟨j, d⟩ := p
    unfold addCoef
    split
    · next hj => subst hj; simp only [lval_cons, Int.add_mul]; omega
    · simp only [lval_cons, ih]; omega

theorem addCoef_scoped {n : Nat} {cs : List (Nat × Int)} {i : Nat} {k : Int}
    (h : ∀ p ∈ cs, p.1 < n) (hi : i < n) : ∀ p ∈ addCoef cs i k, p.1 < n := by
  induction cs with
  | nil => simp [addCoef, hi]
  | cons q cs ih =>
    obtain ⟨j, d⟩ := q
    unfold addCoef
    have hq := h _ List.mem_cons_self
    have hcs := fun q hq => h q (List.mem_cons_of_mem _ hq)
    split
    · exact List.forall_mem_cons.2 ⟨hq, hcs⟩
    · exact List.forall_mem_cons.2 ⟨hq, ih hcs⟩

theorem lval_linWalk (a : Asg) : ∀ (e : Expr) (k : Int) (cs : List (Nat × Int)) (c : Int),
    lval a (linWalk e k (cs, c)).1 (linWalk e k (cs, c)).2 = lval a cs c + k * e.eval a
  | .var i, k, cs, c => lval_addCoef a cs c i k
  | .const m, k, cs, c => (Int.add_assoc _ _ _).symm
  | .add x y, k, cs, c => by
    refine (lval_linWalk a y k _ _).trans ?_
    show _ = lval a cs c + k * (x.eval a + y.eval a)
    rw [lval_linWalk a x k cs c, Int.mul_add]; omega
  | .sub x y, k, cs, c => by
    refine (lval_linWalk a y (-k) _ _).trans ?_
    show _ = lval a cs c + k * (x.eval a - y.eval a)
    rw [lval_linWalk a x k cs c, Int.mul_sub, Int.neg_mul]; omega
  | .rsub x m, k, cs, c => by
    refine (lval_linWalk a x (-k) cs (c + k * m)).trans ?_
    show _ = lval a cs c + k * (m - x.eval a)
    rw [Int.mul_sub, Int.neg_mul]; simp only [lval]; omega
  | .mul x m, k, cs, c => by
    refine (lval_linWalk a x (k * m) cs c).trans ?_
    show _ = lval a cs c + k * (x.eval a * m)
    rw [Int.mul_assoc, Int.mul_comm m]

theorem linWalk_scoped {n : Nat} : ∀ (e : Expr) (k : Int) (cs : List (Nat × Int)) (c : Int),
    e.Scoped n → (∀ p ∈ cs, p.1 < n) → ∀ p ∈ (linWalk e k (cs, c)).1, p.1 < n
  | .var _, _, _, _, hs, hc => addCoef_scoped hc hs
  | .const _, _, _, _, _, hc => hc
  | .add x y, k, cs, c, hs, hc => linWalk_scoped y k _ _ hs.2 (linWalk_scoped x k cs c hs.1 hc)
  | .sub x y, k, cs, c, hs, hc => linWalk_scoped y (-k) _ _ hs.2 (linWalk_scoped x k cs c hs.1 hc)
  | .rsub x m, k, cs, c, hs, hc => linWalk_scoped x (-k) cs (c + k * m) hs hc
  | .mul x m, k, cs, c, hs, hc => linWalk_scoped x (k * m) cs c hs hc

theorem lval_foldl_addCoef (a : Asg) : ∀ (cr cl : List (Nat × Int)) (c : Int),
    lval a (cr.foldl (fun acc p => addCoef acc p.1 (-p.2)) cl) c = lval a cl c - lval a cr 0
  | [], cl, c => by simp [lval]
  | q :: cr, cl, c => by
    rw [List.foldl_cons, lval_foldl_addCoef a cr, lval_addCoef, lval_cons, Int.neg_mul]; omega

theorem foldl_addCoef_scoped {n : Nat} : ∀ (cr cl : List (Nat × Int)),
    (∀ p ∈ cr, p.1 < n) → (∀ p ∈ cl, p.1 < n) → ∀ p ∈ cr.foldl (fun acc p => addCoef acc p.1 (-p.2)) cl, p.1 < n
  | [], _, _, hl => hl
  | q :: cr, cl, hr, hl => foldl_addCoef_scoped cr (addCoef cl q.1 (-q.2))
      (fun p hp => hr p (List.mem_cons_of_mem _ hp)) (addCoef_scoped hl (hr q List.mem_cons_self))

theorem lval_filter (a : Asg) (cs : List (Nat × Int)) (c : Int) :
    lval a (cs.filter fun p => p.2 != 0) c = lval a cs c := by
  induction cs with
  | nil => rfl
  | cons p cs ih =>
    rw [List.filter_cons, lval_cons]
    split
    · rw [lval_cons, ih]
    · next hp =>
      have : p.2 = 0 := by simpa using hp
      rw [ih, this, Int.zero_mul, Int.zero_add]

theorem linDiff_val (a : Asg) (l r : Expr) : lval a (linDiff l r).1 (linDiff l r).2 = l.eval a - r.eval a := by
  have e1 := lval_linWalk a l 1 [] 0
  have e2 := lval_linWalk a r 1 [] 0
  simp only [linDiff]
  rw [lval_filter, lval_foldl_addCoef]
  simp only [lval, List.map_nil, List.sum_nil] at e1 e2 ⊢
  omega

theorem linDiff_scoped {n : Nat} {l r : Expr} (hl : l.Scoped n) (hr : r.Scoped n) : ∀ p ∈ (linDiff l r).1, p.1 < n :=
  fun p hp => foldl_addCoef_scoped _ _ (linWalk_scoped r 1 [] 0 hr nofun) (linWalk_scoped l 1 [] 0 hl nofun) p
    (List.mem_filter.1 hp).1

theorem linDiff_nonzero (l r : Expr) : ∀ p ∈ (linDiff l r).1, p.2 ≠ 0 :=
  fun p hp => by simpa using (List.mem_filter.1 hp).2

theorem dot_map (Vs : List EVar) (a : Asg) (cs : List (Nat × Int)) (c : Int) :
    dot (cs.map fun p => (ev Vs p.1, p.2)) ((cs.map (·.1)).map (val a)) + c = lval a cs c := by
  unfold lval; congr 1
  induction cs with
  | nil => rfl
  | cons p cs ih => simp only [List.map_cons, dot_cons, List.sum_cons, ih]

theorem Enc.map {β : Nat → Bool} {Vs : List EVar} {a : Asg} (h : Enc β Vs a) :
    ∀ {vs : List Nat}, (∀ v ∈ vs, v < Vs.length) → Enc β (vs.map (ev Vs)) (vs.map (val a))
  | [], _ => Enc.nil
  | v :: _, hs => enc_cons.2 ⟨h.repP (hs v List.mem_cons_self),
      Enc.map h fun w hw => hs w (List.mem_cons_of_mem _ hw)⟩

theorem Exact.comap {Vs Xs : List EVar} {vs : List Nat} {R S : Asg → Prop}
    {cls : Cnf} {nx nx' : Nat} (h : Exact Xs R cls nx nx') (hs : ∀ v ∈ vs, v < Vs.length)
    (hX : Xs = vs.map (ev Vs)) (hS : ∀ a, R (vs.map (val a)) ↔ S a) : Exact Vs S cls nx nx' := by
  subst hX
  exact ⟨h.mono, fun β a he hc => (hS a).1 (h.sound β _ (he.map hs) hc),
    fun β a he ha => h.complete β _ (he.map hs) ((hS a).2 ha)⟩

end Solvor.Cp
