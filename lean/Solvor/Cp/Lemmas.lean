import Solvor.Cp.Model
import Solvor.Cp.DpllLemmas
import Solvor.Common.ListLemmas
/-! For the encoder theorems: what it means that Booleans encode a value (`Rep`) or an assignment (`Enc`), the
clause-building primitives read under it, and what adding an auxiliary variable needs. -/
namespace Solvor.Cp
open Solvor.Cp.Sat

theorem cnfTrue_nil (β : Nat → Bool) : cnfTrue β [] = true := rfl

theorem cnfTrue_cons (β : Nat → Bool) (c : Clause) (f : Cnf) :
    cnfTrue β (c :: f) = (clauseTrue β c && cnfTrue β f) := by simp [cnfTrue]

theorem cnfTrue_iff {β : Nat → Bool} {f : Cnf} :
    cnfTrue β f = true ↔ ∀ c ∈ f, clauseTrue β c = true := by simp [cnfTrue]

theorem cnfTrue_flatMap {α} {β : Nat → Bool} {l : List α} {F : α → Cnf} :
    cnfTrue β (l.flatMap F) = true ↔ ∀ x ∈ l, cnfTrue β (F x) = true := by
  simp only [cnfTrue_iff, List.forall_mem_flatMap]

theorem cnfTrue_map {α} {β : Nat → Bool} {l : List α} {F : α → Clause} :
    cnfTrue β (l.map F) = true ↔ ∀ x ∈ l, clauseTrue β (F x) = true := by
  rw [cnfTrue_iff, List.forall_mem_map]

theorem cnfTrue_append_iff {β : Nat → Bool} {f g : Cnf} :
    cnfTrue β (f ++ g) = true ↔ cnfTrue β f = true ∧ cnfTrue β g = true := by
  rw [cnfTrue, List.all_append, Bool.and_eq_true]; rfl

theorem cnfTrue_empty_clause {β : Nat → Bool} : cnfTrue β [[]] = false := rfl

theorem EVar.lit_pos {V : EVar} (hV : 0 < V.base) (v : Int) : 0 < V.lit v :=
  Int.natCast_pos.2 (Nat.lt_of_lt_of_le hV (Nat.le_add_right _ _))

theorem litTrue_lit {β : Nat → Bool} {V : EVar} (hV : 0 < V.base) (v : Int) :
    litTrue β (V.lit v) = β (V.var v) := by
  unfold litTrue; rw [if_pos (EVar.lit_pos hV v)]; rfl

theorem litTrue_neg_lit {β : Nat → Bool} {V : EVar} (hV : 0 < V.base) (v : Int) :
    litTrue β (-(V.lit v)) = !β (V.var v) := by
  rw [litTrue_neg (Int.ne_of_gt (EVar.lit_pos hV v)), litTrue_lit hV]

theorem EVar.has_iff {V : EVar} {v : Int} : V.has v = true ↔ V.lb ≤ v ∧ v ≤ V.ub := by
  simp [EVar.has]

theorem EVar.mem_dom {V : EVar} {v : Int} : v ∈ V.dom ↔ V.lb ≤ v ∧ v ≤ V.ub := mem_irange

theorem EVar.mem_dom_of_has {V : EVar} {v : Int} (h : V.has v = true) : v ∈ V.dom :=
  EVar.mem_dom.2 (EVar.has_iff.1 h)

theorem EVar.var_inj {V : EVar} {v w : Int} (hv : V.lb ≤ v) (hw : V.lb ≤ w) (h : V.var v = V.var w) :
    v = w := by unfold EVar.var at h; omega

/-- `β` encodes the value `x` for `V`. -/
def Rep (β : Nat → Bool) (V : EVar) (x : Int) : Prop :=
  (V.lb ≤ x ∧ x ≤ V.ub) ∧ ∀ v, V.lb ≤ v → v ≤ V.ub → (β (V.var v) = true ↔ v = x)

theorem Rep.bounds {β : Nat → Bool} {V : EVar} {x : Int} (h : Rep β V x) : V.lb ≤ x ∧ x ≤ V.ub := h.1

theorem Rep.mem_dom {β : Nat → Bool} {V : EVar} {x : Int} (h : Rep β V x) : x ∈ V.dom :=
  EVar.mem_dom.2 h.bounds

theorem Rep.has {β : Nat → Bool} {V : EVar} {x : Int} (h : Rep β V x) : V.has x = true :=
  EVar.has_iff.2 h.bounds

theorem Rep.iff {β : Nat → Bool} {V : EVar} {x : Int} (h : Rep β V x) {v : Int} (hv : v ∈ V.dom) :
    β (V.var v) = true ↔ v = x :=
  h.2 v (EVar.mem_dom.1 hv).1 (EVar.mem_dom.1 hv).2

theorem Rep.unique {β : Nat → Bool} {V : EVar} {x y : Int} (hx : Rep β V x) (hy : Rep β V y) : x = y :=
  (hy.iff hx.mem_dom).1 ((hx.iff hx.mem_dom).2 rfl)

theorem Rep.self {β : Nat → Bool} {V : EVar} {x : Int} (h : Rep β V x) : β (V.var x) = true :=
  (h.iff h.mem_dom).2 rfl

/-- `Rep` for a variable numbered from 1 on: 0 is not a literal, so the clause lemmas need `0 < base`. -/
def RepP (β : Nat → Bool) (V : EVar) (x : Int) : Prop := 0 < V.base ∧ Rep β V x

theorem RepP.pos {β : Nat → Bool} {V : EVar} {x : Int} (h : RepP β V x) : 0 < V.base := h.1

theorem RepP.rep {β : Nat → Bool} {V : EVar} {x : Int} (h : RepP β V x) : Rep β V x := h.2

theorem clauseTrue_nil (β : Nat → Bool) : clauseTrue β [] = false := rfl

theorem clauseTrue_cons (β : Nat → Bool) (l : Int) (c : Clause) :
    clauseTrue β (l :: c) = (litTrue β l || clauseTrue β c) := rfl

theorem clauseTrue_neg_cons {β : Nat → Bool} {X : EVar} (hX : 0 < X.base) (v : Int) (c : Clause) :
    clauseTrue β (-(X.lit v) :: c) = true ↔ (β (X.var v) = true → clauseTrue β c = true) := by
  rw [clauseTrue_cons, litTrue_neg_lit hX]
  cases β (X.var v) <;> simp

theorem RepP.clause_neg {β : Nat → Bool} {X : EVar} {x : Int} (h : RepP β X x) {v : Int} (hv : v ∈ X.dom)
    (c : Clause) : clauseTrue β (-(X.lit v) :: c) = true ↔ (v = x → clauseTrue β c = true) := by
  rw [clauseTrue_neg_cons h.pos, h.rep.iff hv]

theorem RepP.clause_pos {β : Nat → Bool} {Y : EVar} {y : Int} (h : RepP β Y y) {w : Int} (hw : w ∈ Y.dom) :
    clauseTrue β [Y.lit w] = true ↔ w = y := by
  rw [clauseTrue_cons, clauseTrue_nil, Bool.or_false, litTrue_lit h.pos]
  exact h.rep.iff hw

theorem RepP.clause_not {β : Nat → Bool} {X : EVar} {x : Int} (h : RepP β X x) {v : Int} (hv : v ∈ X.dom) :
    clauseTrue β [-(X.lit v)] = true ↔ v ≠ x :=
  (h.clause_neg hv []).trans ⟨fun f e => Bool.noConfusion (f e), fun f e => absurd e f⟩

theorem forbid1_iff {β : Nat → Bool} {X : EVar} {x : Int} (h : RepP β X x)
    (p : Int → Bool) : cnfTrue β (forbid1 X p) = true ↔ p x = false := by
  unfold forbid1
  rw [cnfTrue_map]
  constructor
  · intro hall
    cases hp : p x
    · rfl
    · have := (h.clause_not h.rep.mem_dom).1 (hall x (List.mem_filter.2 ⟨h.rep.mem_dom, hp⟩))
      exact absurd rfl this
  · intro hp v hv
    have hv' := List.mem_filter.1 hv
    apply (h.clause_not hv'.1).2
    rintro rfl; rw [hp] at hv'; exact absurd hv'.2 (by simp)

/-- guarding every clause of `G v` by `X ≠ v`, for all `v`, leaves the clauses of the encoded value -/
theorem guard_iff {β : Nat → Bool} {X : EVar} {x : Int} (hx : RepP β X x) (G : Int → Cnf) :
    cnfTrue β (X.dom.flatMap fun v => (G v).map (-(X.lit v) :: ·)) = true ↔ cnfTrue β (G x) = true := by
  rw [cnfTrue_flatMap, cnfTrue_iff]
  refine (forall₂_congr (q := fun v _ => ∀ c ∈ G v, v = x → clauseTrue β c = true) fun v hv => ?_).trans
    ⟨fun h c hc => h x hx.rep.mem_dom c hc rfl, fun h v _ c hc e => h c (e ▸ hc)⟩
  rw [cnfTrue_map]
  exact forall₂_congr fun c _ => hx.clause_neg hv c

theorem forbid2_iff {β : Nat → Bool} {X Y : EVar} {x y : Int} (hx : RepP β X x) (hy : RepP β Y y)
    (p : Int → Int → Bool) :
    cnfTrue β (forbid2 X Y p) = true ↔ p x y = false := by
  have e : forbid2 X Y p = X.dom.flatMap fun v => (forbid1 Y (p v)).map (-(X.lit v) :: ·) := by
    simp only [forbid2, forbid1, List.map_map, Function.comp_def]
  rw [e, guard_iff hx, forbid1_iff hy]

theorem imply2_iff {β : Nat → Bool} {X Y : EVar} {x y : Int} (hx : RepP β X x) (hy : RepP β Y y)
    (f : Int → Option Int) : cnfTrue β (imply2 X Y f) = true ↔ f x = some y := by
  unfold imply2
  rw [cnfTrue_map]
  -- the clause of `v` says: if `X = v` then `Y = f v`
  refine (forall₂_congr (q := fun v _ => v = x → f v = some y) fun v hv => ?_).trans
    ⟨fun h => h x hx.rep.mem_dom rfl, fun h v _ e => e ▸ h⟩
  cases f v with
  | none => exact (hx.clause_neg hv []).trans (imp_congr_right fun _ => by simp [clauseTrue_nil])
  | some w =>
    by_cases hh : Y.has w = true
    · simp only [hh, if_true]
      exact (hx.clause_neg hv _).trans (imp_congr_right fun _ =>
        (hy.clause_pos (EVar.mem_dom_of_has hh)).trans (by simp))
    · simp only [hh]
      refine (hx.clause_neg hv []).trans (imp_congr_right fun _ => ?_)
      exact ⟨fun h => Bool.noConfusion h, fun h => absurd (Option.some.inj h ▸ hy.rep.has) hh⟩

theorem irange_sorted (lb ub : Int) : (irange lb ub).Pairwise (· < ·) := by
  unfold irange
  rw [List.pairwise_map]
  have := List.pairwise_lt_range (n := (ub + 1 - lb).toNat)
  exact this.imp (by intro a b h; omega)

theorem pairs_map {α β} (f : α → β) (l : List α) :
    pairs (l.map f) = (pairs l).map fun p => (f p.1, f p.2) := by
  induction l with
  | nil => rfl
  | cons a l ih => simp [pairs, ih, List.map_map, Function.comp_def]

theorem cnfTrue_pairs {α} {β : Nat → Bool} {l : List α} {F : α × α → Cnf} :
    cnfTrue β ((pairs l).flatMap F) = true ↔ l.Pairwise fun p q => cnfTrue β (F (p, q)) = true := by
  induction l with
  | nil => simp [pairs, cnfTrue_nil]
  | cons x xs ih =>
    rw [pairs, List.flatMap_append, cnfTrue_append_iff, ih, List.pairwise_cons, List.flatMap_map,
      cnfTrue_flatMap]

theorem cnfTrue_pairs_map {α} {β : Nat → Bool} {l : List α} {F : α × α → Clause} :
    cnfTrue β ((pairs l).map F) = true ↔ l.Pairwise fun p q => clauseTrue β (F (p, q)) = true := by
  rw [List.map_eq_flatMap, cnfTrue_pairs]
  simp only [cnfTrue_cons, cnfTrue_nil, Bool.and_true]

theorem EVar.lits_isEmpty {V : EVar} : V.lits.isEmpty = true ↔ V.ub < V.lb := by
  rw [List.isEmpty_iff, EVar.lits, List.map_eq_nil_iff, EVar.dom, irange, List.map_eq_nil_iff, List.range_eq_nil]
  omega

theorem exactlyOne_iff {β : Nat → Bool} {V : EVar} (hV : 0 < V.base) (hne : V.lb ≤ V.ub) :
    cnfTrue β (exactlyOne V.lits) = true ↔ ∃ x, Rep β V x := by
  have halo : clauseTrue β V.lits = true ↔ ∃ v ∈ V.dom, β (V.var v) = true := by
    simp only [clauseTrue, EVar.lits, List.any_map, List.any_eq_true, Function.comp_def, litTrue_lit hV]
  have hamo : cnfTrue β (atMostOne V.lits) = true ↔
      V.dom.Pairwise fun v w => β (V.var v) = true → β (V.var w) = true → False := by
    unfold atMostOne EVar.lits
    rw [pairs_map, List.map_map, cnfTrue_pairs_map]
    refine List.Pairwise.iff fun v w => ?_
    show clauseTrue β [-(V.lit v), -(V.lit w)] = true ↔ _
    rw [clauseTrue_neg_cons hV, clauseTrue_neg_cons hV, clauseTrue_nil]
    exact ⟨fun f a b => Bool.noConfusion (f a b), fun f a b => (f a b).elim⟩
  rw [exactlyOne, if_neg (fun h => Int.not_lt.2 hne (EVar.lits_isEmpty.1 h)), cnfTrue_cons,
    Bool.and_eq_true, halo, hamo]
  constructor
  · rintro ⟨⟨x, hx, hbx⟩, hno⟩
    have hall := List.Pairwise.forall_of_forall_of_flip
      (R := fun v w => β (V.var v) = true → β (V.var w) = true → v = w)
      (fun _ _ _ _ => rfl) (hno.imp fun h a b => (h a b).elim) (hno.imp fun h a b => (h b a).elim)
    exact ⟨x, EVar.mem_dom.1 hx, fun v h1 h2 =>
      ⟨fun hbv => hall (EVar.mem_dom.2 ⟨h1, h2⟩) hx hbv hbx, fun h => h ▸ hbx⟩⟩
  · rintro ⟨x, hx⟩
    refine ⟨⟨x, hx.mem_dom, hx.self⟩, (irange_sorted V.lb V.ub).imp_of_mem fun {v w} hv hw hlt bv bw => ?_⟩
    have h1 := (hx.iff hv).1 bv
    have h2 := (hx.iff hw).1 bw
    omega

theorem decodeVar_of_rep {β : Nat → Bool} {V : EVar} {x : Int} (h : Rep β V x) :
    decodeVar β V = some x := by
  unfold decodeVar
  cases hf : V.dom.find? (fun v => β (V.var v)) with
  | none =>
    have := List.find?_eq_none.1 hf x h.mem_dom
    simp [h.self] at this
  | some y =>
    have hy := List.find?_some hf
    have := (h.iff (List.mem_of_find?_eq_some hf)).1 (by simpa using hy)
    rw [this]

theorem encEqConst_iff {β : Nat → Bool} {X : EVar} {x : Int} (h : RepP β X x) (c : Int) :
    cnfTrue β (encEqConst X c) = true ↔ x = c := by
  unfold encEqConst
  by_cases hh : X.has c = true
  · rw [if_pos hh, cnfTrue_cons, cnfTrue_nil, Bool.and_true,
      h.clause_pos (EVar.mem_dom_of_has hh)]
    exact eq_comm
  · rw [if_neg hh]
    exact ⟨fun hc => Bool.noConfusion hc, fun e => absurd (e ▸ h.rep.has) hh⟩

theorem encNeConst_iff {β : Nat → Bool} {X : EVar} {x : Int} (h : RepP β X x) (c : Int) :
    cnfTrue β (encNeConst X c) = true ↔ x ≠ c := by
  unfold encNeConst
  by_cases hh : X.has c = true
  · rw [if_pos hh, cnfTrue_cons, cnfTrue_nil, Bool.and_true,
      h.clause_not (EVar.mem_dom_of_has hh)]
    exact ne_comm
  · rw [if_neg hh]
    exact ⟨fun _ e => hh (e ▸ h.rep.has), fun _ => rfl⟩

theorem encEqVar_iff {β : Nat → Bool} {X Y : EVar} {x y : Int} (hx : RepP β X x) (hy : RepP β Y y) :
    cnfTrue β (encEqVar X Y) = true ↔ x = y := by
  unfold encEqVar
  rw [cnfTrue_append_iff, imply2_iff hx hy, imply2_iff hy hx]
  constructor
  · rintro ⟨h, _⟩; injection h
  · rintro rfl; exact ⟨rfl, rfl⟩

theorem encNeVar_iff {β : Nat → Bool} {X Y : EVar} {x y : Int} (hx : RepP β X x) (hy : RepP β Y y) :
    cnfTrue β (encNeVar X Y) = true ↔ x ≠ y := by
  unfold encNeVar
  rw [forbid2_iff hx hy]
  simp

/-- `β` encodes the assignment `a` on the encoded variables `Vs`. -/
def Enc (β : Nat → Bool) (Vs : List EVar) (a : Asg) : Prop :=
  a.length = Vs.length ∧ ∀ i, i < Vs.length → 0 < (ev Vs i).base ∧ Rep β (ev Vs i) (val a i)

theorem Enc.repP {β : Nat → Bool} {Vs : List EVar} {a : Asg} (h : Enc β Vs a) {i : Nat} (hi : i < Vs.length) :
    RepP β (ev Vs i) (val a i) := h.2 i hi

/-- `Enc` by recursion over the two lists: the form in which the encodings with auxiliary variables use it, on their
own variable lists -/
theorem enc_cons {β : Nat → Bool} {V : EVar} {Vs : List EVar} {x : Int} {a : Asg} :
    Enc β (V :: Vs) (x :: a) ↔ RepP β V x ∧ Enc β Vs a :=
  ⟨fun h => ⟨h.2 0 (Nat.zero_lt_succ _), Nat.succ.inj h.1,
      fun i hi => h.2 (i + 1) (Nat.succ_lt_succ hi)⟩,
   fun h => ⟨congrArg Nat.succ h.2.1, fun i hi => match i, hi with
     | 0, _ => h.1
     | i + 1, hi => h.2.2 i (Nat.lt_of_succ_lt_succ hi)⟩⟩

theorem Enc.nil {β : Nat → Bool} : Enc β [] [] := ⟨rfl, fun _ h => nomatch h⟩

theorem Enc.head {β : Nat → Bool} {V : EVar} {Vs : List EVar} {x : Int} {a : Asg}
    (h : Enc β (V :: Vs) (x :: a)) : RepP β V x := (enc_cons.1 h).1

theorem Enc.tail {β : Nat → Bool} {V : EVar} {Vs : List EVar} {x : Int} {a : Asg}
    (h : Enc β (V :: Vs) (x :: a)) : Enc β Vs a := (enc_cons.1 h).2

theorem ev_mem {Vs : List EVar} {i : Nat} (h : i < Vs.length) : ev Vs i ∈ Vs := getD_mem h default

theorem encAllDiff_iff {β : Nat → Bool} {Vs : List EVar} {a : Asg} (h : Enc β Vs a) {vs : List Nat}
    (hs : ∀ v ∈ vs, v < Vs.length) :
    cnfTrue β (encAllDiff (vs.map (ev Vs))) = true ↔ (vs.map (val a)).Nodup := by
  unfold encAllDiff
  rw [pairs_map, List.flatMap_map, cnfTrue_pairs, List.nodup_iff_pairwise_ne, List.pairwise_map]
  apply List.Pairwise.iff_of_mem
  intro i j hi hj
  exact encNeVar_iff (h.repP (hs i hi)) (h.repP (hs j hj))

theorem encNoOverlap_iff {β : Nat → Bool} {Vs : List EVar} {a : Asg} (h : Enc β Vs a)
    {ss : List Nat} (ds : List Int) (hs : ∀ v ∈ ss, v < Vs.length) :
    cnfTrue β (encNoOverlap ((ss.map (ev Vs)).zip ds)) = true ↔ Holds a (.noOverlap ss ds) := by
  unfold encNoOverlap Holds
  rw [List.zip_map_left, pairs_map, List.flatMap_map, cnfTrue_pairs]
  apply List.Pairwise.iff_of_mem
  intro p q hp hq
  have h1 := h.repP (hs _ (List.of_mem_zip hp).1)
  have h2 := h.repP (hs _ (List.of_mem_zip hq).1)
  simp only [Prod.map_fst, Prod.map_snd, id_eq]
  rw [forbid2_iff h1 h2]
  simp only [Bool.and_eq_false_iff, Bool.not_eq_false', decide_eq_true_eq]

/-- allocated before the counter `n`; carries `0 < base` as well (0 is not a literal) -/
def EVar.Below (V : EVar) (n : Nat) : Prop := 0 < V.base ∧ V.base + V.size ≤ n

theorem EVar.var_lt {V : EVar} {v : Int} (hv : V.lb ≤ v ∧ v ≤ V.ub) : V.var v < V.base + V.size := by
  unfold EVar.var EVar.size; omega

/-- `β'` agrees with `β` on the booleans below `n` (those in use before an auxiliary variable is added) -/
def AgreeBelow (n : Nat) (β β' : Nat → Bool) : Prop := ∀ k, k < n → β' k = β k

theorem Rep.of_agree {β β' : Nat → Bool} {V : EVar} {x : Int} {n : Nat} (h : Rep β V x)
    (hV : V.Below n) (hag : AgreeBelow n β β') : Rep β' V x :=
  ⟨h.1, fun v h1 h2 => by rw [hag _ (Nat.lt_of_lt_of_le (EVar.var_lt ⟨h1, h2⟩) hV.2)]; exact h.2 v h1 h2⟩

theorem Enc.of_agree {β β' : Nat → Bool} {Vs : List EVar} {a : Asg} {n : Nat} (h : Enc β Vs a)
    (hB : ∀ V ∈ Vs, V.Below n) (hag : AgreeBelow n β β') : Enc β' Vs a :=
  ⟨h.1, fun _ hi => ⟨(h.repP hi).pos, (h.repP hi).rep.of_agree (hB _ (ev_mem hi)) hag⟩⟩

def setVar (β : Nat → Bool) (P : EVar) (p : Int) : Nat → Bool :=
  fun k => if P.base ≤ k ∧ k < P.base + P.size then decide (k = P.var p) else β k

theorem setVar_rep {β : Nat → Bool} {P : EVar} {p : Int} (hp : P.lb ≤ p ∧ p ≤ P.ub) :
    Rep (setVar β P p) P p := by
  refine ⟨hp, fun v h1 h2 => ?_⟩
  have : P.base ≤ P.var v ∧ P.var v < P.base + P.size := ⟨Nat.le_add_right _ _, EVar.var_lt ⟨h1, h2⟩⟩
  simp only [setVar, this, and_self, if_true, decide_eq_true_eq]
  constructor
  · intro h; exact EVar.var_inj h1 hp.1 h
  · rintro rfl; rfl

theorem setVar_agree_below {β : Nat → Bool} {P : EVar} {p : Int} :
    AgreeBelow P.base β (setVar β P p) :=
  fun _ hk => if_neg fun h => Nat.not_le_of_lt hk h.1

theorem setVar_agree_above {β : Nat → Bool} {P : EVar} {p : Int} {k : Nat} (hk : P.base + P.size ≤ k) :
    setVar β P p k = β k :=
  if_neg fun h => Nat.not_le_of_lt h.2 hk

theorem link_iff {β : Nat → Bool} {X Y P : EVar} {x y : Int} {f : Int → Int → Int} {orElse : Bool}
    (hx : RepP β X x) (hy : RepP β Y y) :
    cnfTrue β (link X Y P f orElse) = true ↔
      cnfTrue β (if P.has (f x y) then [[P.lit (f x y)]] else if orElse then [[]] else []) = true := by
  have e : link X Y P f orElse = X.dom.flatMap fun v => (Y.dom.flatMap fun w =>
      (if P.has (f v w) then [[P.lit (f v w)]] else if orElse then [[]] else []).map
        (-(Y.lit w) :: ·)).map (-(X.lit v) :: ·) := by
    simp only [link, List.map_flatMap, apply_ite (List.map _), List.map_cons, List.map_nil]
  rw [e, guard_iff hx, guard_iff hy]

theorem link_sound {β : Nat → Bool} {X Y P : EVar} {x y : Int} {f : Int → Int → Int} {orElse : Bool}
    (hx : RepP β X x) (hy : RepP β Y y) (hP : 0 < P.base) (h : cnfTrue β (link X Y P f orElse) = true) :
    (P.has (f x y) = true → β (P.var (f x y)) = true) ∧ (orElse = true → P.has (f x y) = true) := by
  rw [link_iff hx hy] at h
  refine ⟨fun hh => ?_, fun ho => Classical.byContradiction fun hh => ?_⟩
  · rwa [if_pos hh, cnfTrue_cons, cnfTrue_nil, Bool.and_true, clauseTrue_cons, clauseTrue_nil,
      Bool.or_false, litTrue_lit hP] at h
  · rw [if_neg hh, if_pos ho] at h; cases h

theorem link_complete {β : Nat → Bool} {X Y P : EVar} {x y : Int} {f : Int → Int → Int} {orElse : Bool}
    (hx : RepP β X x) (hy : RepP β Y y) (hp : RepP β P (f x y)) :
    cnfTrue β (link X Y P f orElse) = true := by
  rw [link_iff hx hy, if_pos hp.rep.has, cnfTrue_cons, cnfTrue_nil, Bool.and_true, hp.clause_pos hp.rep.mem_dom]

end Solvor.Cp
