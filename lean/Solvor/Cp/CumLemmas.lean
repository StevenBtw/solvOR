import Solvor.Cp.EncodeLemmas
/-! For `encCumulative_iff`: the time-indexed capacity clauses are exact when demands
and capacity are non-negative. -/
namespace Solvor.Cp
open Solvor.Cp.Sat

theorem mem_subseqs {α} : ∀ {l s : List α}, s ∈ subseqs l ↔ s.Sublist l
  | [], s => by simp [subseqs]
  | x :: xs, s => by
    simp only [subseqs, List.mem_append, List.mem_map, mem_subseqs (l := xs), List.sublist_cons_iff]
    constructor
    · rintro (⟨r, hr, rfl⟩ | h)
      · exact Or.inr ⟨r, rfl, hr⟩
      · exact Or.inl h
    · rintro (h | ⟨r, rfl, hr⟩)
      · exact Or.inr h
      · exact Or.inl ⟨r, hr, rfl⟩

/-- the clauses built from `itertools.product` of the groups say: some group is entirely false -/
theorem choices_iff {β : Nat → Bool} : ∀ (gs : List (List Int)), (∀ g ∈ gs, ∀ l ∈ g, l ≠ 0) →
    (cnfTrue β ((choices gs).map fun ch => ch.map (- ·)) = true ↔ ∃ g ∈ gs, clauseTrue β g = false)
  | [], _ => by simp [choices, cnfTrue, clauseTrue]
  | g :: gs, h0 => by
    have ih := choices_iff (β := β) gs fun g' hg' => h0 g' (List.mem_cons_of_mem _ hg')
    rw [cnfTrue_map] at ih ⊢
    constructor
    · intro hall
      cases hg : clauseTrue β g
      · exact ⟨g, List.mem_cons_self, hg⟩
      · -- a true literal `x` of `g` leaves the clauses over the remaining groups
        obtain ⟨x, hx, hxt⟩ := List.any_eq_true.1 hg
        obtain ⟨g', hg', hf⟩ := ih.1 fun ch hch => by
          have := hall (x :: ch) (List.mem_flatMap.2 ⟨x, hx, List.mem_map.2 ⟨ch, hch, rfl⟩⟩)
          rwa [List.map_cons, clauseTrue_cons, litTrue_neg (h0 g List.mem_cons_self x hx), hxt] at this
        exact ⟨g', List.mem_cons_of_mem _ hg', hf⟩
    · rintro ⟨g', hg', hf⟩ c hc
      obtain ⟨x, hx, hc⟩ := List.mem_flatMap.1 hc
      obtain ⟨ch, hch, rfl⟩ := List.mem_map.1 hc
      rw [List.map_cons, clauseTrue_cons, Bool.or_eq_true]
      rcases List.mem_cons.1 hg' with rfl | hg'
      · left
        rw [litTrue_neg (h0 _ List.mem_cons_self x hx), Bool.eq_false_iff.2 (List.any_eq_false.1 hf x hx)]; rfl
      · exact Or.inr (ih.2 ⟨g', hg', hf⟩ ch hch)

def dsum (s : List (List Int × Int)) : Int := (s.map (·.2)).sum

theorem dsum_le_of_sublist {s l : List (List Int × Int)} (h : s.Sublist l) (hn : ∀ g ∈ l, 0 ≤ g.2) :
    dsum s ≤ dsum l := by
  induction h with
  | slnil => exact Int.le_refl _
  | cons a _ ih =>
    have := ih fun g hg => hn g (List.mem_cons_of_mem _ hg)
    have := hn a List.mem_cons_self
    simp only [dsum, List.map_cons, List.sum_cons] at *; omega
  | cons_cons a _ ih =>
    have := ih fun g hg => hn g (List.mem_cons_of_mem _ hg)
    simp only [dsum, List.map_cons, List.sum_cons] at *; omega

theorem exists_minimal_overloaded (cap : Int) : ∀ (n : Nat) (A : List (List Int × Int)), A.length ≤ n →
    dsum A > cap →
    ∃ s, s.Sublist A ∧ dsum s > cap ∧ ∀ s', s'.Sublist s → s'.length < s.length → dsum s' ≤ cap
  | 0, A, hn, h => ⟨A, List.Sublist.refl _, h, fun s' _ hl => by omega⟩
  | n + 1, A, hn, h => by
    by_cases hmin : ∀ s', s'.Sublist A → s'.length < A.length → dsum s' ≤ cap
    · exact ⟨A, List.Sublist.refl _, h, hmin⟩
    · simp only [Classical.not_forall] at hmin
      obtain ⟨s', hs', hl, hover⟩ := hmin
      obtain ⟨s, hs, h1, h2⟩ := exists_minimal_overloaded cap n s' (by omega) (by omega)
      exact ⟨s, hs.trans hs', h1, h2⟩

theorem encCapacity_iff {β : Nat → Bool} {groups : List (List Int × Int)} {cap : Int}
    (h0 : ∀ g ∈ groups, ∀ l ∈ g.1, l ≠ 0) (hn : ∀ g ∈ groups, 0 ≤ g.2) (hcap : 0 ≤ cap) :
    cnfTrue β (encCapacity groups cap) = true ↔
      dsum (groups.filter fun g => clauseTrue β g.1) ≤ cap := by
  unfold encCapacity
  rw [cnfTrue_flatMap]
  have hcl : ∀ sub : List (List Int × Int), sub.Sublist groups →
      (cnfTrue β ((choices (sub.map (·.1))).map fun ch => ch.map (- ·)) = true ↔
        ∃ g ∈ sub, clauseTrue β g.1 = false) := fun sub hs =>
    (choices_iff _ (List.forall_mem_map.2 fun p hp => h0 p (hs.subset hp))).trans
      ⟨fun ⟨g, hg, hf⟩ => by obtain ⟨p, hp, rfl⟩ := List.mem_map.1 hg; exact ⟨p, hp, hf⟩,
       fun ⟨p, hp, hf⟩ => ⟨p.1, List.mem_map_of_mem hp, hf⟩⟩
  constructor
  · intro hall
    -- otherwise some minimal overloaded set of active groups is forbidden
    refine Classical.byContradiction fun hover => ?_
    obtain ⟨s, hs, h1, h2⟩ := exists_minimal_overloaded cap _ _ (Nat.le_refl _) (Int.not_le.1 hover)
    have hsg : s.Sublist groups := hs.trans List.filter_sublist
    have hlen : 1 ≤ s.length := by
      rcases s with _ | ⟨g, s⟩
      · exact absurd h1 (Int.not_lt.2 hcap)
      · exact Nat.succ_le_succ (Nat.zero_le _)
    obtain ⟨g, hg, hf⟩ := (hcl s hsg).1 (hall s (List.mem_filter.2 ⟨mem_subseqs.2 hsg, by
      simp only [Bool.and_eq_true, decide_eq_true_eq, List.all_eq_true, Bool.or_eq_true,
        Bool.not_eq_true', Bool.and_eq_false_iff, decide_eq_false_iff_not]
      refine ⟨⟨hlen, h1⟩, fun sm hsm => ?_⟩
      by_cases hc : sm.length < s.length
      · exact Or.inr (h2 sm (mem_subseqs.1 hsm) hc)
      · exact Or.inl (Or.inr hc)⟩))
    rw [(List.mem_filter.1 (hs.subset hg)).2] at hf; cases hf
  · intro hle sub hsub
    have hf := List.mem_filter.1 hsub
    have hsg : sub.Sublist groups := mem_subseqs.1 hf.1
    rw [hcl sub hsg]
    -- if all its groups were active, the overloaded `sub` would be part of the active groups
    refine Classical.byContradiction fun hall => ?_
    have hsubA : sub.Sublist (groups.filter fun g => clauseTrue β g.1) := by
      have := hsg.filter fun g => clauseTrue β g.1
      rwa [List.filter_eq_self.2 fun g hg => by
        cases hgt : clauseTrue β g.1
        · exact absurd ⟨g, hg, hgt⟩ hall
        · rfl] at this
    have h1 := dsum_le_of_sublist hsubA fun g hg => hn g (List.mem_filter.1 hg).1
    have hover : dsum sub > cap := by
      have := hf.2
      simp only [Bool.and_eq_true, decide_eq_true_eq] at this
      exact this.1.2
    omega

/-- the literals of the start values under which a task `(S, d)` runs at time `t` -/
def windowLits (S : EVar) (d t : Int) : List Int :=
  ((irange (max S.lb (t - d + 1)) (min S.ub t)).filter fun s =>
    S.has s && decide (s ≤ t) && decide (t < s + d)).map S.lit

theorem windowLits_ne_zero {S : EVar} (hS : 0 < S.base) (d t : Int) : ∀ l ∈ windowLits S d t, l ≠ 0 := by
  intro l hl
  obtain ⟨s, _, rfl⟩ := List.mem_map.1 hl
  exact Int.ne_of_gt (EVar.lit_pos hS s)

theorem windowLits_true {β : Nat → Bool} {S : EVar} {x : Int} (hx : RepP β S x) (d t : Int) :
    clauseTrue β (windowLits S d t) = true ↔ x ≤ t ∧ t < x + d := by
  unfold clauseTrue windowLits
  simp only [List.any_map, List.any_eq_true, List.mem_filter, mem_irange, Function.comp_def,
    litTrue_lit hx.pos, Bool.and_eq_true, decide_eq_true_eq, EVar.has_iff]
  constructor
  · rintro ⟨s, ⟨_, ⟨hin, h1⟩, h2⟩, hb⟩
    have := (hx.rep.iff (EVar.mem_dom.2 hin)).1 hb
    subst this; exact ⟨h1, h2⟩
  · rintro ⟨h1, h2⟩
    have := hx.rep.bounds
    exact ⟨x, ⟨⟨by omega, by omega⟩, ⟨this, h1⟩, h2⟩, hx.rep.self⟩

/-- the groups the encoder builds at time `t`.  A task is `(start variable, duration, demand)` (as in `tasks`, Sem.lean), a group
`(the literals under which the task runs at t, its demand)` -/
def groupsAt (tasksE : List (EVar × Int × Int)) (t : Int) : List (List Int × Int) :=
  tasksE.filterMap fun (S, d, dem) =>
    if (windowLits S d t).isEmpty then none else some (windowLits S d t, dem)

theorem groupsAt_cons (S : EVar) (d dem : Int) (E : List (EVar × Int × Int)) (t : Int) :
    groupsAt ((S, d, dem) :: E) t =
      if (windowLits S d t).isEmpty then groupsAt E t else (windowLits S d t, dem) :: groupsAt E t := by
  unfold groupsAt
  rw [List.filterMap_cons]
  by_cases h : (windowLits S d t).isEmpty = true
  · simp only [h, if_true]
  · simp only [h]; rfl

theorem mem_groupsAt {E : List (EVar × Int × Int)} {t : Int} {g : List Int × Int} (hg : g ∈ groupsAt E t) :
    ∃ e ∈ E, g = (windowLits e.1 e.2.1 t, e.2.2) := by
  obtain ⟨⟨S, d, dem⟩, he, hf⟩ := List.mem_filterMap.1 hg
  refine ⟨(S, d, dem), he, ?_⟩
  simp only at hf
  split at hf
  · cases hf
  · exact (Option.some.inj hf).symm

theorem load_cons (a : Asg) (s : Nat) (d dem : Int) (tl : List (Nat × Int × Int)) (t : Int) :
    load a ((s, d, dem) :: tl) t = (if val a s ≤ t ∧ t < val a s + d then dem else 0) + load a tl t := rfl

theorem groupsAt_load {β : Nat → Bool} {Vs : List EVar} {a : Asg} (h : Enc β Vs a) (t : Int) :
    ∀ (tl : List (Nat × Int × Int)), (∀ p ∈ tl, p.1 < Vs.length) →
      dsum ((groupsAt (tl.map fun p => (ev Vs p.1, p.2)) t).filter fun g => clauseTrue β g.1) = load a tl t
  | [], _ => rfl
  | (s, d, dem) :: tl, hs => by
    have ih := groupsAt_load h t tl fun p hp => hs p (List.mem_cons_of_mem _ hp)
    have hS := h.repP (hs (s, d, dem) List.mem_cons_self)
    have hwt := windowLits_true hS d t
    rw [List.map_cons, groupsAt_cons, load_cons]
    by_cases hact : val a s ≤ t ∧ t < val a s + d
    · have hgt := hwt.2 hact
      have hne : (windowLits (ev Vs s) d t).isEmpty = false := by
        cases hw : windowLits (ev Vs s) d t with
        | nil => rw [hw] at hgt; exact absurd hgt (by simp [clauseTrue])
        | cons _ _ => rfl
      rw [hne, if_neg Bool.false_ne_true, List.filter_cons, if_pos hgt, if_pos hact]
      exact congrArg (dem + ·) ih
    · have hgf : ¬ clauseTrue β (windowLits (ev Vs s) d t) = true := fun hc => hact (hwt.1 hc)
      rw [if_neg hact, Int.zero_add]
      split
      · exact ih
      · rw [List.filter_cons, if_neg hgf]; exact ih

-- `foldl_min_le` stands in Sem.lean (the decidable form of `cumulative` needs it there), its mirror `foldl_max_spec` in Common/ListLemmas
theorem window_bounds (e0 : EVar × Int × Int) (er : List (EVar × Int × Int)) : ∀ p ∈ e0 :: er,
    er.foldl (fun m p => min m p.1.lb) e0.1.lb ≤ p.1.lb ∧
      p.1.ub + p.2.1 ≤ er.foldl (fun m p => max m (p.1.ub + p.2.1)) (e0.1.ub + e0.2.1) := by
  have hlo := foldl_min_le (fun p : EVar × Int × Int => p.1.lb) er e0.1.lb
  have hhi := foldl_max_spec (fun p : EVar × Int × Int => p.1.ub + p.2.1) er (e0.1.ub + e0.2.1)
  intro p hp
  rcases List.mem_cons.1 hp with rfl | hp
  · exact ⟨hlo.1, hhi.1⟩
  · exact ⟨hlo.2 p hp, hhi.2 p hp⟩

theorem encCapacity_groupsAt {β : Nat → Bool} {Vs : List EVar} {a : Asg} (h : Enc β Vs a)
    (tl : List (Nat × Int × Int)) {cap : Int} (hscope : ∀ p ∈ tl, p.1 < Vs.length)
    (hdem : ∀ p ∈ tl, 0 ≤ p.2.2) (hcap : 0 ≤ cap) (t : Int) :
    cnfTrue β (encCapacity (groupsAt (tl.map fun p => (ev Vs p.1, p.2)) t) cap) = true ↔
      load a tl t ≤ cap := by
  have hmem : ∀ g ∈ groupsAt (tl.map fun p => (ev Vs p.1, p.2)) t,
      ∃ p ∈ tl, g = (windowLits (ev Vs p.1) p.2.1 t, p.2.2) := fun g hg => by
    obtain ⟨e, he, rfl⟩ := mem_groupsAt hg
    obtain ⟨p, hp, rfl⟩ := List.mem_map.1 he
    exact ⟨p, hp, rfl⟩
  rw [encCapacity_iff (fun g hg => by
      obtain ⟨p, hp, rfl⟩ := hmem g hg
      exact windowLits_ne_zero (h.repP (hscope p hp)).pos _ _)
    (fun g hg => by obtain ⟨p, hp, rfl⟩ := hmem g hg; exact hdem p hp) hcap,
    groupsAt_load h t tl hscope]

theorem encCumulative_iff_aux {β : Nat → Bool} {Vs : List EVar} {a : Asg} (h : Enc β Vs a)
    (tl : List (Nat × Int × Int)) {cap : Int} (hscope : ∀ p ∈ tl, p.1 < Vs.length)
    (hdem : ∀ p ∈ tl, 0 ≤ p.2.2) (hcap : 0 ≤ cap) :
    cnfTrue β (encCumulative (tl.map fun p => (ev Vs p.1, p.2)) cap) = true ↔
      ∀ t : Int, load a tl t ≤ cap := by
  match tl, hscope, hdem with
  | [], _, _ => exact ⟨fun _ _ => hcap, fun _ => rfl⟩
  | q :: rest, hscope, hdem =>
    show cnfTrue β ((irange _ _).flatMap fun t =>
      encCapacity (groupsAt ((q :: rest).map fun p => (ev Vs p.1, p.2)) t) cap) = true ↔ _
    rw [cnfTrue_flatMap]
    refine ⟨fun hall t => ?_, fun hall t _ => (encCapacity_groupsAt h _ hscope hdem hcap t).2 (hall t)⟩
    -- only times at which some task runs matter, and they lie inside the window
    by_cases hex : ∃ p ∈ q :: rest, val a p.1 ≤ t ∧ t < val a p.1 + p.2.1
    · obtain ⟨p, hp, hact⟩ := hex
      refine (encCapacity_groupsAt h _ hscope hdem hcap t).1 (hall t (mem_irange.2 ?_))
      have hb := window_bounds (ev Vs q.1, q.2) (rest.map fun p : Nat × Int × Int => (ev Vs p.1, p.2))
        (ev Vs p.1, p.2) (List.mem_map_of_mem (f := fun p : Nat × Int × Int => (ev Vs p.1, p.2)) hp)
      have hrep := (h.repP (hscope p hp)).rep.bounds
      dsimp only at hb ⊢
      exact ⟨by omega, by omega⟩
    · rw [load_eq_zero (by intro p hp hact; exact hex ⟨p, hp, hact⟩)]; exact hcap

theorem encCumulative_iff {β : Nat → Bool} {Vs : List EVar} {a : Asg} (h : Enc β Vs a)
    {ss : List Nat} {ds dm : List Int} {cap : Int} (hs : ∀ v ∈ ss, v < Vs.length)
    (hdm : ∀ x ∈ dm, 0 ≤ x) (hcap : 0 ≤ cap) :
    cnfTrue β (encCumulative ((ss.map (ev Vs)).zip (ds.zip dm)) cap) = true ↔
      Holds a (.cumulative ss ds dm cap) := by
  have hmap : (ss.map (ev Vs)).zip (ds.zip dm)
      = (ss.zip (ds.zip dm)).map fun p => (ev Vs p.1, p.2) := by
    rw [List.zip_map_left]
    apply List.map_congr_left; intro p _; rfl
  rw [hmap]
  exact encCumulative_iff_aux h _ (fun p hp => hs _ (List.of_mem_zip hp).1)
    (fun p hp => hdm _ (List.of_mem_zip (List.of_mem_zip hp).2).2) hcap

end Solvor.Cp
