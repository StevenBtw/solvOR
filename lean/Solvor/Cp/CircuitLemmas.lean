import Solvor.Cp.EncodeLemmas
import Solvor.Common.ListLemmas
import Mathlib.Data.List.Nodup
/-! For `encCircuit_exact`: a successor map on `0..n-1` that is injective and admits MTZ order values is exactly one
Hamiltonian cycle through node 0.  The combinatorics is about a function `f : Nat → Nat` and its `walk`; `iter_eq_walk`
links it to the Int-valued `iter` of the specification. -/
namespace Solvor.Cp

def walk (f : Nat → Nat) : Nat → Nat → Nat
  | 0, c => c
  | k + 1, c => walk f k (f c)

theorem walk_succ_last (f : Nat → Nat) : ∀ (k c : Nat), walk f (k + 1) c = f (walk f k c)
  | 0, _ => rfl
  | k + 1, c => walk_succ_last f k (f c)

theorem walk_add (f : Nat → Nat) : ∀ (j k c : Nat), walk f (j + k) c = walk f j (walk f k c)
  | _, 0, _ => rfl
  | j, k + 1, c => by rw [← Nat.add_assoc]; exact walk_add f j k (f c)

def InRange (xs : List Int) : Prop := ∀ x ∈ xs, 0 ≤ x ∧ x < xs.length

def succN (xs : List Int) (i : Nat) : Nat := (xs.getD i 0).toNat

theorem getElem_eq_succN {xs : List Int} (h : InRange xs) {i : Nat} (hi : i < xs.length) :
    xs[i] = (succN xs i : Int) := by
  have := (h _ (List.getElem_mem hi)).1
  rw [succN, getD_of_lt hi, Int.toNat_of_nonneg this]

theorem succN_lt {xs : List Int} (h : InRange xs) {i : Nat} (hi : i < xs.length) : succN xs i < xs.length :=
  Int.ofNat_lt.1 (getElem_eq_succN h hi ▸ (h _ (List.getElem_mem hi)).2)

theorem iter_eq_walk {xs : List Int} (h : InRange xs) : ∀ (k : Nat) {c : Nat}, c < xs.length →
    iter xs k (c : Int) = (walk (succN xs) k c : Nat)
  | 0, _, _ => rfl
  | k + 1, c, hc => by
    rw [iter, Int.toNat_natCast, getD_of_lt hc, getElem_eq_succN h hc, iter_eq_walk h k (succN_lt h hc)]; rfl

theorem nodup_iff_succN_inj {xs : List Int} (h : InRange xs) :
    xs.Nodup ↔ ∀ i j, i < xs.length → j < xs.length → succN xs i = succN xs j → i = j := by
  constructor
  · intro hn i j hi hj e
    exact (hn.getElem_inj_iff (hi := hi) (hj := hj)).1 (by rw [getElem_eq_succN h hi, getElem_eq_succN h hj, e])
  · intro hinj
    rw [List.nodup_iff_getElem?_ne_getElem?]
    intro i j hij hj he
    have hi : i < xs.length := Nat.lt_trans hij hj
    rw [List.getElem?_eq_getElem hi, List.getElem?_eq_getElem hj, Option.some.injEq,
      getElem_eq_succN h hi, getElem_eq_succN h hj] at he
    exact Nat.ne_of_lt hij (hinj i j hi hj (Int.ofNat.inj he))

theorem orbit_iff_walk {xs : List Int} (h : InRange xs) :
    (((List.range xs.length).map fun k => iter xs k 0).Nodup ∧ iter xs xs.length 0 = 0) ↔
      ((List.range xs.length).map fun k => walk (succN xs) k 0).Nodup ∧ walk (succN xs) xs.length 0 = 0 := by
  rcases Nat.eq_zero_or_pos xs.length with hz | hpos
  · rw [hz]; exact ⟨fun _ => ⟨List.nodup_nil, rfl⟩, fun _ => ⟨List.nodup_nil, rfl⟩⟩
  · have e : ∀ k, iter xs k 0 = ((walk (succN xs) k 0 : Nat) : Int) := fun k => iter_eq_walk h k hpos
    simp only [e]
    rw [show (fun k => ((walk (succN xs) k 0 : Nat) : Int)) = (fun m : Nat => (m : Int)) ∘ fun k => walk (succN xs) k 0
      from rfl, ← List.map_map, List.nodup_map_iff (f := fun m : Nat => (m : Int)) fun _ _ he => Int.ofNat.inj he]
    exact and_congr_right fun _ => ⟨fun he => Int.ofNat.inj he, fun he => congrArg _ he⟩

/-- MTZ order values for the successor function `f`; `bound` is the range of the encoder's `i`-th order variable -/
structure MtzOrder (f : Nat → Nat) (n : Nat) (t : Nat → Int) : Prop where
  zero : t 0 = 0
  bound : ∀ i, i < n → (if i = 0 then (0 : Int) else 1) ≤ t i ∧ t i ≤ (n : Int) - 1
  step : ∀ i, i < n → f i ≠ 0 → t i < t (f i)

section
variable {f : Nat → Nat} {n : Nat} (hf : ∀ i, i < n → f i < n)
include hf

theorem walk_lt {c : Nat} (hc : c < n) : ∀ k, walk f k c < n
  | 0 => hc
  | k + 1 => by rw [walk_succ_last]; exact hf _ (walk_lt hc k)

theorem ord_walk {t : Nat → Int} (ho : MtzOrder f n t) {v : Nat} (hv : v < n) :
    ∀ k : Nat, (∀ m, 1 ≤ m → m ≤ k → walk f m v ≠ 0) → t v + k ≤ t (walk f k v)
  | 0, _ => by simp [walk]
  | k + 1, hne => by
    have ih := ord_walk ho hv k fun m h1 h2 => hne m h1 (Nat.le_succ_of_le h2)
    have hs := ho.step _ (walk_lt hf hv k)
      (by rw [← walk_succ_last f]; exact hne (k + 1) (Nat.succ_le_succ (Nat.zero_le k)) (Nat.le_refl _))
    rw [walk_succ_last]; push_cast; omega

theorem walk_cancel (hinj : ∀ i j, i < n → j < n → f i = f j → i = j) {a b : Nat} (ha : a < n) (hb : b < n) :
    ∀ k, walk f k a = walk f k b → a = b
  | 0, e => e
  | k + 1, e => by
    rw [walk_succ_last, walk_succ_last] at e
    exact walk_cancel hinj ha hb k (hinj _ _ (walk_lt hf ha k) (walk_lt hf hb k) e)

theorem off_cycle (hinj : ∀ i j, i < n → j < n → f i = f j → i = j) (hpos : 0 < n) {m : Nat} (hm1 : 1 ≤ m)
    (hm0 : walk f m 0 = 0) {v : Nat} (hvn : v < n)
    (hv : ∀ k, k < m → walk f k 0 ≠ v) : ∀ j k, k < m → walk f k 0 ≠ walk f j v
  | 0, k, hk => hv k hk
  | j + 1, k, hk => by
    -- node `k` of the cycle is the successor of node `k'`
    obtain ⟨k', hk', hkk'⟩ : ∃ k', k' < m ∧ walk f k 0 = f (walk f k' 0) := by
      rcases Nat.eq_zero_or_pos k with rfl | hkp
      · exact ⟨m - 1, by omega, by rw [← walk_succ_last f, Nat.sub_add_cancel hm1, hm0]; rfl⟩
      · exact ⟨k - 1, by omega, by rw [← walk_succ_last f, Nat.sub_add_cancel hkp]⟩
    intro he
    rw [hkk', walk_succ_last] at he
    exact off_cycle hinj hpos hm1 hm0 hvn hv j k' hk'
      (hinj _ _ (walk_lt hf hpos k') (walk_lt hf hvn j) he)

theorem circuit_of_ord {t : Nat → Int} (hinj : ∀ i j, i < n → j < n → f i = f j → i = j) (ho : MtzOrder f n t) :
    ((List.range n).map fun k => walk f k 0).Nodup ∧ walk f n 0 = 0 := by
  rcases Nat.eq_zero_or_pos n with rfl | hpos
  · exact ⟨List.nodup_nil, rfl⟩
  -- no return to 0 before step `n`: a node off that short cycle would walk `n` steps without meeting 0
  have early : ∀ m, 1 ≤ m → m < n → walk f m 0 ≠ 0 := by
    intro m hm1 hmn hm0
    obtain ⟨v, hvn, hvC⟩ := exists_lt_not_mem (l := (List.range m).map fun k => walk f k 0)
      (n := n) (by rw [List.length_map, List.length_range]; exact hmn)
    have hoff := off_cycle hf hinj hpos hm1 hm0 hvn
      fun k hk e => hvC (List.mem_map.2 ⟨k, List.mem_range.2 hk, e⟩)
    -- along these `n` steps the order value rises by `n`, more than its range allows
    have hrise := ord_walk hf ho hvn n fun j _ _ he => hoff j 0 (by omega) he.symm
    have hhi := (ho.bound _ (walk_lt hf hvn n)).2
    have hlo := (ho.bound v hvn).1
    split at hlo <;> omega
  refine ⟨List.Nodup.map_on (fun j hj k hk he => ?_) List.nodup_range, ?_⟩
  · -- equal positions `j < k` would give a return after `k - j` steps
    have key : ∀ {j k : Nat}, j < k → k < n → walk f j 0 ≠ walk f k 0 := fun {j k} hjk hk he => by
      have e : walk f k 0 = walk f j (walk f (k - j) 0) := by
        rw [← walk_add, Nat.add_sub_of_le (Nat.le_of_lt hjk)]
      exact early (k - j) (by omega) (by omega)
        (walk_cancel hf hinj hpos (walk_lt hf hpos _) j (he.trans e)).symm
    rcases Nat.lt_trichotomy j k with h | h | h
    · exact absurd he (key h (List.mem_range.1 hk))
    · exact h
    · exact absurd he.symm (key h (List.mem_range.1 hj))
  · -- some return within `n` steps, since the order values are bounded
    by_contra hno
    have := ord_walk hf ho hpos n fun m h1 h2 h3 =>
      (Nat.lt_or_ge m n).elim (fun h => early m h1 h h3) fun h => hno (Nat.le_antisymm h2 h ▸ h3)
    have := (ho.bound _ (walk_lt hf hpos n)).2
    rw [ho.zero] at *; omega

theorem cycle_surj (hnd : ((List.range n).map fun k => walk f k 0).Nodup) {v : Nat} (hvn : v < n) :
    ∃ k, k < n ∧ walk f k 0 = v := by
  have := mem_of_nodup_of_le_length hnd (fun x hx => by
      obtain ⟨k, _, rfl⟩ := List.mem_map.1 hx
      exact walk_lt hf (Nat.lt_of_le_of_lt (Nat.zero_le v) hvn) k)
    (by rw [List.length_map, List.length_range]; exact Nat.le_refl _) hvn
  obtain ⟨k, hk, rfl⟩ := List.mem_map.1 this
  exact ⟨k, List.mem_range.1 hk, rfl⟩

omit hf in
theorem cycle_inj (hnd : ((List.range n).map fun k => walk f k 0).Nodup)
    {k k' : Nat} (hk : k < n) (hk' : k' < n) (he : walk f k 0 = walk f k' 0) : k = k' :=
  List.inj_on_of_nodup_map hnd (List.mem_range.2 hk) (List.mem_range.2 hk') he

theorem ord_of_circuit (hnd : ((List.range n).map fun k => walk f k 0).Nodup) (hret : walk f n 0 = 0) :
    (∀ i j, i < n → j < n → f i = f j → i = j) ∧ ∃ t : Nat → Int, MtzOrder f n t := by
  refine ⟨fun i j hi hj e => ?_, ?_⟩
  · obtain ⟨k, hk, rfl⟩ := cycle_surj hf hnd hi
    obtain ⟨k', hk', rfl⟩ := cycle_surj hf hnd hj
    -- going on around the cycle, `n - 1` steps later both are back at positions `k`, `k'`
    rw [← walk_succ_last f, ← walk_succ_last f] at e
    have e' := congrArg (walk f (n - 1)) e
    rw [← walk_add, ← walk_add, show n - 1 + (k + 1) = k + n by omega,
      show n - 1 + (k' + 1) = k' + n by omega, walk_add, walk_add, hret] at e'
    rw [cycle_inj hnd hk hk' e']
  rcases Nat.eq_zero_or_pos n with rfl | hpos
  · exact ⟨fun _ => 0, rfl, fun i h => (nomatch h), fun i h => (nomatch h)⟩
  -- order value = position on the cycle
  let t : Nat → Int := fun v => (((List.range n).find? fun k => walk f k 0 == v).getD 0 : Nat)
  have ht : ∀ k, k < n → t (walk f k 0) = k := by
    intro k hk
    simp only [t]
    cases hfd : (List.range n).find? fun k' => walk f k' 0 == walk f k 0 with
    | none =>
      have := List.find?_eq_none.1 hfd k (List.mem_range.2 hk)
      simp at this
    | some k' =>
      have h1 := List.find?_some hfd
      have h2 := List.mem_range.1 (List.mem_of_find?_eq_some hfd)
      rw [Option.getD_some, cycle_inj hnd h2 hk (beq_iff_eq.1 h1)]
  refine ⟨t, by simpa [walk] using ht 0 hpos, fun p hp => ?_, fun i hi hne => ?_⟩
  · obtain ⟨k, hk, rfl⟩ := cycle_surj hf hnd hp
    rw [ht k hk]
    rcases Nat.eq_zero_or_pos k with rfl | hk0
    · simp [walk]; omega
    · split <;> omega
  · obtain ⟨k, hk, rfl⟩ := cycle_surj hf hnd hi
    -- the arc does not enter node 0, so it is not the last one
    have hk1 : k + 1 < n := by
      by_contra hge
      rw [← walk_succ_last f, show k + 1 = n by omega, hret] at hne
      exact hne rfl
    rw [← walk_succ_last f, ht k hk, ht (k + 1) hk1]; push_cast; omega

end

theorem circuit_iff_ord {xs : List Int} {n : Nat} (hr : InRange xs) (hn : xs.length = n) :
    (((List.range n).map fun k => iter xs k 0).Nodup ∧ iter xs n 0 = 0) ↔
      xs.Nodup ∧ ∃ t, MtzOrder (succN xs) n t := by
  subst hn
  have hf := fun i (hi : i < xs.length) => succN_lt hr hi
  rw [orbit_iff_walk hr, nodup_iff_succN_inj hr]
  exact ⟨fun h => ord_of_circuit hf h.1 h.2, fun ⟨hinj, t, ho⟩ => circuit_of_ord hf hinj ho⟩

end Solvor.Cp
