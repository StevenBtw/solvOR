import Solvor.Cp.Dpll
/-! Lemmas for the reference DPLL and the projected enumerator (core Lean only). -/
namespace Solvor.Cp.Sat

theorem litTrue_neg {σ : Nat → Bool} {l : Int} (h : l ≠ 0) : litTrue σ (-l) = !litTrue σ l := by
  unfold litTrue
  have : (-l).natAbs = l.natAbs := Int.natAbs_neg l
  rw [this]
  by_cases hp : 0 < l
  · simp [hp]; omega
  · simp [hp]; omega

def setLit (σ : Nat → Bool) (l : Int) : Nat → Bool :=
  fun v => if v = l.natAbs then decide (0 < l) else σ v

theorem litTrue_setLit_self {σ : Nat → Bool} {l : Int} : litTrue (setLit σ l) l = true := by
  unfold litTrue setLit
  by_cases hp : 0 < l <;> simp [hp]

theorem litTrue_setLit_other {σ : Nat → Bool} {l m : Int} (h1 : m ≠ l) (h2 : m ≠ -l) :
    litTrue (setLit σ l) m = litTrue σ m := by
  unfold litTrue setLit
  have : m.natAbs ≠ l.natAbs := by omega
  simp [this]

theorem mem_assign {l : Int} {f : Cnf} {d : Clause} :
    d ∈ assign l f ↔ ∃ c ∈ f, l ∉ c ∧ d = c.filter (· != -l) := by
  unfold assign
  simp only [List.mem_map, List.mem_filter]
  constructor
  · rintro ⟨c, ⟨hc, hl⟩, rfl⟩; exact ⟨c, hc, by simpa using hl, rfl⟩
  · rintro ⟨c, hc, hl, rfl⟩; exact ⟨c, ⟨hc, by simpa using hl⟩, rfl⟩

theorem cnfTrue_assign {σ : Nat → Bool} {l : Int} {f : Cnf} (hl0 : l ≠ 0)
    (hl : litTrue σ l = true) : cnfTrue σ (assign l f) = cnfTrue σ f := by
  have hneg : litTrue σ (-l) = false := by rw [litTrue_neg hl0, hl]; rfl
  apply Bool.eq_iff_iff.2
  simp only [cnfTrue, List.all_eq_true]
  constructor
  · intro h c hc
    by_cases hlc : l ∈ c
    · simp only [clauseTrue, List.any_eq_true]; exact ⟨l, hlc, hl⟩
    · have := h _ ((mem_assign).2 ⟨c, hc, hlc, rfl⟩)
      simp only [clauseTrue, List.any_eq_true, List.mem_filter] at this ⊢
      obtain ⟨m, ⟨hm, _⟩, hmt⟩ := this
      exact ⟨m, hm, hmt⟩
  · intro h d hd
    obtain ⟨c, hc, hlc, rfl⟩ := (mem_assign).1 hd
    have := h c hc
    simp only [clauseTrue, List.any_eq_true, List.mem_filter] at this ⊢
    obtain ⟨m, hm, hmt⟩ := this
    refine ⟨m, ⟨hm, ?_⟩, hmt⟩
    have : m ≠ -l := by rintro rfl; rw [hneg] at hmt; cases hmt
    simpa using this

theorem assign_free {l : Int} {f : Cnf} : ∀ d ∈ assign l f, ∀ m ∈ d, m ≠ l ∧ m ≠ -l := by
  intro d hd m hm
  obtain ⟨c, _, hlc, rfl⟩ := (mem_assign).1 hd
  simp only [List.mem_filter] at hm
  refine ⟨?_, by simpa using hm.2⟩
  rintro rfl; exact hlc hm.1

theorem cnfTrue_setLit_assign {σ : Nat → Bool} {l : Int} {f : Cnf} :
    cnfTrue (setLit σ l) (assign l f) = cnfTrue σ (assign l f) := by
  have key : ∀ d ∈ assign l f, clauseTrue (setLit σ l) d = clauseTrue σ d := by
    intro d hd
    unfold clauseTrue
    apply Bool.eq_iff_iff.2
    simp only [List.any_eq_true]
    constructor
    · rintro ⟨m, hm, ht⟩
      have := assign_free d hd m hm
      exact ⟨m, hm, by rw [← litTrue_setLit_other this.1 this.2]; exact ht⟩
    · rintro ⟨m, hm, ht⟩
      have := assign_free d hd m hm
      exact ⟨m, hm, by rw [litTrue_setLit_other this.1 this.2]; exact ht⟩
  unfold cnfTrue
  apply Bool.eq_iff_iff.2
  simp only [List.all_eq_true]
  constructor
  · intro h d hd; rw [← key d hd]; exact h d hd
  · intro h d hd; rw [key d hd]; exact h d hd

theorem setLit_apply_ne {σ : Nat → Bool} {l : Int} {v : Nat} (h : v ≠ l.natAbs) :
    setLit σ l v = σ v := by simp [setLit, h]

theorem litTrue_natCast {σ : Nat → Bool} {v : Nat} (hv : v ≠ 0) : litTrue σ (v : Int) = σ v := by
  unfold litTrue; rw [if_pos (by omega), Int.natAbs_natCast]

theorem sat_of_assign {σ : Nat → Bool} {l : Int} {f : Cnf} (hl0 : l ≠ 0)
    (h : cnfTrue σ (assign l f) = true) : cnfTrue (setLit σ l) f = true := by
  rw [← cnfTrue_assign hl0 litTrue_setLit_self, cnfTrue_setLit_assign]; exact h

theorem assign_of_sat {σ : Nat → Bool} {l : Int} {f : Cnf} (hl0 : l ≠ 0) (hl : litTrue σ l = true)
    (h : cnfTrue σ f = true) : cnfTrue σ (assign l f) = true := by
  rw [cnfTrue_assign hl0 hl]; exact h

theorem proj_assign {l : Int} (hl0 : l ≠ 0) {vs : List Nat} (hvs : l.natAbs ∉ vs) (f : Cnf)
    (bs : List Bool) :
    (∃ σ, cnfTrue σ (assign l f) = true ∧ vs.map σ = bs) ↔
      ∃ σ, cnfTrue σ f = true ∧ litTrue σ l = true ∧ vs.map σ = bs := by
  constructor
  · rintro ⟨σ, hσ, hm⟩
    refine ⟨setLit σ l, sat_of_assign hl0 hσ, litTrue_setLit_self, ?_⟩
    rw [← hm]
    exact List.map_congr_left fun w hw => setLit_apply_ne (by rintro rfl; exact hvs hw)
  · rintro ⟨σ, hσ, hl, hm⟩; exact ⟨σ, assign_of_sat hl0 hl hσ, hm⟩

theorem WF_assign {l : Int} {f : Cnf} (h : WF f) : WF (assign l f) := by
  intro d hd m hm
  obtain ⟨c, hc, _, rfl⟩ := (mem_assign).1 hd
  exact h c hc m (List.mem_filter.1 hm).1

theorem size_cons (c : Clause) (f : Cnf) : size (c :: f) = c.length + size f := by
  simp [size]

theorem meas_cons (c : Clause) (f : Cnf) : meas (c :: f) = c.length + 1 + meas f := by
  simp only [meas, size_cons, List.length_cons]; omega

theorem assign_cons (l : Int) (c : Clause) (f : Cnf) :
    assign l (c :: f) = if l ∈ c then assign l f else (c.filter (· != -l)) :: assign l f := by
  unfold assign
  by_cases h : l ∈ c <;> simp [h]

theorem meas_assign_le (l : Int) (f : Cnf) : meas (assign l f) ≤ meas f := by
  induction f with
  | nil => simp [assign]
  | cons c f ih =>
    rw [assign_cons]; split
    · rw [meas_cons]; omega
    · rw [meas_cons, meas_cons]
      have := List.length_filter_le (· != -l) c; omega

theorem meas_assign_lt {m : Int} {f : Cnf} (h : ∃ c ∈ f, m ∈ c ∨ -m ∈ c) :
    meas (assign m f) < meas f := by
  induction f with
  | nil => obtain ⟨c, hc, _⟩ := h; cases hc
  | cons c f ih =>
    rw [assign_cons]
    have hle := meas_assign_le m f
    have hfl := List.length_filter_le (· != -m) c
    by_cases hm : m ∈ c
    · rw [if_pos hm, meas_cons]; omega
    · rw [if_neg hm, meas_cons, meas_cons]
      by_cases hn : -m ∈ c
      · have := (List.length_filter_lt_length_iff_exists (p := (· != -m))).2 ⟨-m, hn, by simp⟩
        omega
      · obtain ⟨c', hc', hl'⟩ := h
        rcases List.mem_cons.1 hc' with rfl | hc''
        · exact absurd hl' (by simp [hm, hn])
        · have := ih ⟨c', hc'', hl'⟩; omega

theorem pick_mem {f : Cnf} {l : Int} (h : pick f = some l) : ∃ c ∈ f, l ∈ c := by
  unfold pick at h
  split at h
  · next m rest heq =>
    injection h with h; subst h
    exact ⟨_, List.mem_of_find?_eq_some heq, List.mem_cons_self⟩
  · split at h
    · injection h with h; subst h
      exact ⟨_, List.mem_cons_self, List.mem_cons_self⟩
    · cases h

theorem pick_isSome {f : Cnf} (h1 : f.isEmpty = false) (h2 : f.any List.isEmpty = false) :
    ∃ l, pick f = some l := by
  unfold pick
  split
  · exact ⟨_, rfl⟩
  · match f, h1, h2 with
    | [] :: _, _, h2 => simp at h2
    | (l :: _) :: _, _, _ => exact ⟨l, rfl⟩

theorem cnfTrue_of_empty_mem {σ : Nat → Bool} {f : Cnf} (h : f.any List.isEmpty = true) :
    cnfTrue σ f = false := by
  simp only [List.any_eq_true] at h
  obtain ⟨c, hc, he⟩ := h
  have : c = [] := by simpa using he
  subst this
  apply Bool.eq_false_iff.2
  intro ht
  have := (List.all_eq_true.1 ht) [] hc
  simp [clauseTrue] at this

theorem dpll_correct : ∀ (fuel : Nat) (f : Cnf), WF f → meas f < fuel →
    (dpll fuel f = true ↔ ∃ σ, cnfTrue σ f = true) := by
  intro fuel
  induction fuel with
  | zero => intro f _ h; omega
  | succ fuel ih =>
    intro f hwf hm
    unfold dpll
    by_cases h1 : f.isEmpty = true
    · have : f = [] := by simpa using h1
      subst this; simp [cnfTrue]
    · have h1' : f.isEmpty = false := by simpa using h1
      rw [if_neg h1]
      by_cases h2 : f.any List.isEmpty = true
      · rw [if_pos h2]
        simp only [Bool.false_eq_true, false_iff, not_exists]
        intro σ; rw [cnfTrue_of_empty_mem h2]; simp
      · have h2' : f.any List.isEmpty = false := by
          cases h : f.any List.isEmpty
          · rfl
          · exact absurd h h2
        rw [if_neg h2]
        obtain ⟨l, hl⟩ := pick_isSome h1' h2'
        rw [hl]
        obtain ⟨c, hc, hlc⟩ := pick_mem hl
        have hl0 : l ≠ 0 := hwf c hc l hlc
        have hnl0 : -l ≠ 0 := by omega
        have m1 := meas_assign_lt ⟨c, hc, Or.inl hlc⟩
        have m2 := meas_assign_lt (m := -l) ⟨c, hc, Or.inr (by rwa [Int.neg_neg])⟩
        have i1 := ih (assign l f) (WF_assign hwf) (by omega)
        have i2 := ih (assign (-l) f) (WF_assign hwf) (by omega)
        simp only [Bool.or_eq_true, i1, i2]
        constructor
        · rintro (⟨σ, hσ⟩ | ⟨σ, hσ⟩)
          · exact ⟨setLit σ l, sat_of_assign hl0 hσ⟩
          · exact ⟨setLit σ (-l), sat_of_assign hnl0 hσ⟩
        · rintro ⟨σ, hσ⟩
          by_cases ht : litTrue σ l = true
          · exact Or.inl ⟨σ, assign_of_sat hl0 ht hσ⟩
          · exact Or.inr ⟨σ, assign_of_sat hnl0 (by rw [litTrue_neg hl0]; simpa using ht) hσ⟩

end Solvor.Cp.Sat
