import Solvor.Search.PopLemmas
/-! Search: the property theorems of C19.  `f k` is the user's objective at the k-th point the solver evaluated (start
points first), `coin k` whatever the RNG / `exp` / a user acceptance callback answered for that point, the remaining
arguments are the limits of the call.  The theorems hold for *every* `f`, `coin`, candidate-move lists and limits, i.e.
for every objective function, seed, callback and schedule; determinism ("same seed ⇒ same result") is by
construction: every skeleton is a pure function of its arguments. -/
namespace Solvor.Search

/-- `checkResult` decides the clauses of C19's R_prop. -/
theorem checkResult_iff (m : Bool) (fs starts : List Rat) (obj fsol : Rat) (ev : Nat) :
    checkResult m fs starts obj fsol ev = true ↔
      obj = fsol ∧ (∀ v ∈ fs ++ starts, if m then obj ≤ v else v ≤ obj) ∧ ev = fs.length := by
  unfold checkResult
  simp only [Bool.and_eq_true, decide_eq_true_eq, List.all_eq_true, beq_iff_eq]
  constructor
  · rintro ⟨⟨h1, h2⟩, h3⟩
    refine ⟨h1, fun v hv => ?_, h3⟩
    have := h2 v hv
    cases m <;> simpa using this
  · rintro ⟨h1, h2, h3⟩
    refine ⟨⟨h1, fun v hv => ?_⟩, h3⟩
    have := h2 v hv
    cases m <;> simpa using this

example : checkResult true [5, 3, 7] [5] 3 3 3 = true := by decide +kernel
example : checkResult false [5, 3, 7] [5] 3 3 3 = false := by decide +kernel

theorem inBounds_cons (lo hi : Rat) (bs : List (Rat × Rat)) (x : Rat) (xs : List Rat) :
    inBounds ((lo, hi) :: bs) (x :: xs) = true ↔ (lo ≤ x ∧ x ≤ hi) ∧ inBounds bs xs = true := by
  rw [inBounds, Bool.and_eq_true, Bool.and_eq_true, decide_eq_true_eq, decide_eq_true_eq]

theorem inBounds_iff : ∀ (bs : List (Rat × Rat)) (x : List Rat),
    inBounds bs x = true ↔ x.length = bs.length ∧ ∀ p ∈ bs.zip x, p.1.1 ≤ p.2 ∧ p.2 ≤ p.1.2
  | [], [] => ⟨fun _ => ⟨rfl, fun _ h => nomatch h⟩, fun _ => rfl⟩
  | [], _ :: _ => ⟨fun h => (nomatch h), fun h => nomatch h.1⟩
  | _ :: _, [] => ⟨fun h => (nomatch h), fun h => nomatch h.1⟩
  | (lo, hi) :: bs, x :: xs => by
    rw [inBounds_cons, inBounds_iff bs xs, List.zip_cons_cons, List.forall_mem_cons, List.length_cons,
      List.length_cons, Nat.add_right_cancel_iff]
    exact ⟨fun ⟨h1, h2, h3⟩ => ⟨h2, h1, h3⟩, fun ⟨h2, h1, h3⟩ => ⟨h1, h2, h3⟩⟩

example : inBounds [(0, 1), (-2, 2)] [1 / 2, -2] = true := by decide +kernel

/-- `to_user` undoes the sign `Evaluator.__call__` applied, for minimise and maximise. -/
theorem to_user_sign (m : Bool) (x : Rat) : toUser m (internal m (fun _ => x) 0) = x :=
  toUser_internal m x

example : toUser false (internal false (fun _ => 7) 0) = 7 := to_user_sign false 7

/-- C19: for *any* bookkeeping function of the sign-adjusted stream, maximising `f` and minimising `-f` are the same
run. -/
theorem mirror_min_max (run : (Nat → Rat) → Core) (f : Nat → Rat) :
    (run (internal false f)).outcome false = ((run (internal true (fun k => -f k))).outcome true).neg := by
  rw [internal_mirror f]; exact outcome_mirror _

theorem solvers_mirror_min_max (f : Nat → Rat) (coin : Nat → Bool) (acc : Accept)
    (a b c : Nat) (tol : Rat) (cands : List (List Nat)) :
    annealSolve false f coin a = (annealSolve true (fun k => -f k) coin a).neg ∧
    tabuSolve false f a b c cands = (tabuSolve true (fun k => -f k) a b c cands).neg ∧
    lnsSolve false false f coin acc a b c = (lnsSolve false true (fun k => -f k) coin acc a b c).neg ∧
    alnsSolve false f coin acc a b c = (alnsSolve true (fun k => -f k) coin acc a b c).neg ∧
    evolveSolve false f a b c = (evolveSolve true (fun k => -f k) a b c).neg ∧
    deSolve false f a b = (deSolve true (fun k => -f k) a b).neg ∧
    psoSolve false f a b = (psoSolve true (fun k => -f k) a b).neg ∧
    bayesSolve false f a b = (bayesSolve true (fun k => -f k) a b).neg ∧
    nmSolve false false f a tol b c = (nmSolve false true (fun k => -f k) a tol b c).neg :=
  ⟨mirror_min_max (fun v => (annealRun v coin a).core) f,
   mirror_min_max (fun v => (tabuRun v a b c cands).core) f,
   mirror_min_max (fun v => (lnsRun false v coin acc a b c).core) f,
   mirror_min_max (fun v => (alnsRun v coin acc a b c).core) f,
   mirror_min_max (fun v => (evoRun v a b c).core) f,
   mirror_min_max (fun v => (deRun v a b).core) f,
   mirror_min_max (fun v => (psoRun v a b).core) f,
   mirror_min_max (fun v => bayesRun v a b) f,
   mirror_min_max (fun v => nmResult false (nmRun v a tol b c)) f⟩

example : annealSolve false (fun k => [5, 3, 7, 2, 9].getD k 0) (fun k => k % 2 == 0) 4
    = (annealSolve true (fun k => -[5, 3, 7, 2, 9].getD k 0) (fun k => k % 2 == 0) 4).neg :=
  (solvers_mirror_min_max _ _ .all 4 0 0 0 []).1

theorem good_to_user {m : Bool} {f : Nat → Rat} {c : Core} (h : Good (internal m f) c) :
    Faithful m f (c.outcome m) := by
  refine ⟨h.idx_lt, (congrArg (toUser m) h.attained).symm.trans (toUser_internal m _), fun k hk => ?_⟩
  have h1 : c.best ≤ sgn m * f k := h.le_all k hk
  cases m
  · show f k ≤ c.best * -1
    rw [Rat.mul_neg, Rat.mul_one]
    rw [show sgn false = -1 from rfl, Rat.neg_mul, Rat.one_mul] at h1
    exact Rat.le_neg_iff.1 h1
  · show c.best * 1 ≤ f k
    rwa [Rat.mul_one, ← Rat.one_mul (f k)]

/-- The coins decide the walk, not what `anneal` reports. -/
theorem annealRun_core {val : Nat → Rat} (coin : Nat → Bool) (iters : Nat) :
    (annealRun val coin iters).core = iter (Core.obs val) iters (Core.init val) := by
  have := (iter_obs_run AnnealSt.core (fun s => s.core.best ≤ s.cur) 1 (annealStep val coin)
    (annealStep_obs coin) iters (annealInit val) Rat.le_refl).2
  rwa [Nat.mul_one] at this

/-- C19 for `anneal`, although `best` is only looked at inside the accepted branch. -/
theorem anneal_best_is_min_of_evaluated (m : Bool) (f : Nat → Rat) (coin : Nat → Bool) (iters : Nat) :
    Faithful m f (annealSolve m f coin iters) :=
  good_to_user (good_evals_of_fold (annealRun_core coin iters)).1

/-- one evaluation for the start point and one per loop body -/
theorem anneal_evals_eq_calls (m : Bool) (f : Nat → Rat) (coin : Nat → Bool) (iters : Nat) :
    (annealSolve m f coin iters).evaluations = iters + 1 :=
  (good_evals_of_fold (annealRun_core coin iters)).2

-- a worse move (7) is accepted after the best one (3) was found; the best is still returned
example : annealSolve true (fun k => [5, 3, 7, 9].getD k 0) (fun _ => true) 3 = ⟨3, 1, 4⟩ := by
  decide +kernel

/-- C19 for `tabu_search` (aspiration, tabu list, shuffled candidates, every stopping rule). -/
theorem tabu_best_is_min_of_evaluated (m : Bool) (f : Nat → Rat) (cooldown mni stopAt : Nat)
    (cands : List (List Nat)) : Faithful m f (tabuSolve m f cooldown mni stopAt cands) :=
  good_to_user (foldl_inv (fun s : TabuSt => Good _ s.core) good_init
    fun s a _ => tabu_good_step cooldown mni stopAt s a)

private theorem tabu_count (val : Nat → Rat) (cooldown mni stopAt : Nat) :
    ∀ (cands : List (List Nat)) (s : TabuSt), ∃ j,
      (cands.foldl (tabuStep val cooldown mni stopAt) s).iteration = s.iteration + j ∧
      (cands.foldl (tabuStep val cooldown mni stopAt) s).core.evals =
        s.core.evals + ((cands.take j).map List.length).sum
  | [], _ => ⟨0, rfl, rfl⟩
  | ms :: rest, s => by
    rw [List.foldl_cons]
    cases hd : s.done
    · obtain ⟨j, h1, h2⟩ := tabu_count val cooldown mni stopAt rest (tabuStep val cooldown mni stopAt s ms)
      rw [(tabuStep_spec hd ms).2.1] at h1
      rw [(tabuStep_spec hd ms).1] at h2
      exact ⟨j + 1, by rw [h1, Nat.add_assoc, Nat.add_comm 1],
        by rw [h2, List.take_succ_cons, List.map_cons, List.sum_cons, Nat.add_assoc]⟩
    · rw [tabuStep_of_done hd, foldl_inv (· = s) rfl fun _ ms _ e => e.symm ▸ tabuStep_of_done hd ms]
      exact ⟨0, rfl, rfl⟩

/-- every candidate of an executed iteration is evaluated exactly once, tabu or not -/
theorem tabu_evals_eq_calls (m : Bool) (f : Nat → Rat) (cooldown mni stopAt : Nat)
    (cands : List (List Nat)) :
    (tabuSolve m f cooldown mni stopAt cands).evaluations =
      1 + ((cands.take (tabuRun (internal m f) cooldown mni stopAt cands).iteration).map List.length).sum :=
  (tabu_count (internal m f) cooldown mni stopAt cands (tabuInit _)).elim fun j h =>
    (h.1.trans (Nat.zero_add j)).symm ▸ h.2

-- the tabu move (0) is skipped unless it beats the best (aspiration); best 1 found in round 2
example : tabuSolve true (fun k => [5, 4, 6, 1, 8].getD k 0) 3 100 0 [[0, 1], [0, 1]] = ⟨1, 3, 5⟩ := by
  decide +kernel

/-- The acceptance rule and the coins decide the walk, not what `lns` reports: with the repaired rule always, with the
rule of the unchanged tree when it never refuses an improvement on the current solution. -/
theorem lnsRun_core (orig : Bool) {val : Nat → Rat} (coin : Nat → Bool) (acc : Accept)
    (hacc : orig = true → acc.RespectsImprovement coin val) (maxIter mni stopAt : Nat) :
    (lnsRun orig val coin acc maxIter mni stopAt).core =
      iter (Core.obs val) (lnsRun orig val coin acc maxIter mni stopAt).iteration (Core.init val) := by
  unfold lnsRun
  cases orig
  · exact (iter_inv (lnsInv_step coin acc mni stopAt) maxIter _ lnsInv_init).core_eq
  · exact (iter_inv (lnsInv_stepOrig coin acc mni stopAt (hacc rfl)) maxIter _ lnsInv_init).core_eq

/-- C19 for `lns` *with the proposed repair C19_lns_best*, for every acceptance rule including
arbitrary user callbacks. -/
theorem lns_best_is_min_of_evaluated (m : Bool) (f : Nat → Rat) (coin : Nat → Bool) (acc : Accept)
    (maxIter mni stopAt : Nat) : Faithful m f (lnsSolve false m f coin acc maxIter mni stopAt) :=
  good_to_user (good_evals_of_fold (lnsRun_core false coin acc (fun h => nomatch h) maxIter mni stopAt)).1

/-- `lns` as written in the unchanged tree violates C19: a user acceptance callback that refuses
a candidate (here: always) makes the solver forget a candidate better than what it returns. -/
theorem lns_unrepaired_loses_best :
    ∃ (f : Nat → Rat) (coin : Nat → Bool),
      ¬ Faithful true f (lnsSolve true true f coin .custom 2 100 0) := by
  refine ⟨fun k => [10, 3, 7].getD k 0, fun _ => false, ?_⟩
  -- the start point is returned although candidate 1 (value 3) was evaluated
  have run : lnsSolve true true (fun k => [10, 3, 7].getD k 0) (fun _ => false) .custom 2 100 0 = ⟨10, 0, 3⟩ := by
    decide +kernel
  rw [run]
  rintro ⟨_, _, h⟩
  exact absurd (h 1 (by decide)) (by decide +kernel)

-- FULL STATEMENT (not proved, false for the unchanged tree – see `lns_unrepaired_loses_best`):
--   ∀ m f coin acc maxIter mni stopAt, Faithful m f (lnsSolve true m f coin acc maxIter mni stopAt)
/-- What the unchanged `lns` does guarantee: C19 holds whenever the acceptance rule never refuses
a candidate that improves on the *current* solution – in particular for the three built-in rules. -/
theorem lns_unrepaired_best_is_min_of_evaluated_partial (m : Bool) (f : Nat → Rat) (coin : Nat → Bool)
    (acc : Accept) (hacc : acc.RespectsImprovement coin (internal m f)) (maxIter mni stopAt : Nat) :
    Faithful m f (lnsSolve true m f coin acc maxIter mni stopAt) :=
  good_to_user (good_evals_of_fold (lnsRun_core true coin acc (fun _ => hacc) maxIter mni stopAt)).1

theorem builtin_accept_respects_improvement (acc : Accept) (h : acc ≠ .custom) (coin : Nat → Bool)
    (val : Nat → Rat) : acc.RespectsImprovement coin val := by
  intro cur k hk
  -- `improving` and `sa` accept `v < cur` outright, `all` accepts everything
  cases acc
  · exact decide_eq_true hk
  · rfl
  · exact Bool.or_eq_true_iff.2 (.inl (decide_eq_true hk))
  · exact absurd rfl h

example : Accept.sa.RespectsImprovement (fun _ => false) (fun k => (k : Rat)) :=
  builtin_accept_respects_improvement .sa (by decide) _ _

/-- every executed loop body evaluates exactly one candidate -/
theorem lns_evals_eq_calls (m : Bool) (f : Nat → Rat) (coin : Nat → Bool) (acc : Accept)
    (maxIter mni stopAt : Nat) :
    (lnsSolve false m f coin acc maxIter mni stopAt).evaluations =
      (lnsRun false (internal m f) coin acc maxIter mni stopAt).iteration + 1 :=
  (good_evals_of_fold (lnsRun_core false coin acc (fun h => nomatch h) maxIter mni stopAt)).2

-- the callback refuses everything: the repaired rule still returns the best candidate (3)
example : lnsSolve false true (fun k => [10, 3, 7].getD k 0) (fun _ => false) .custom 2 100 0 = ⟨3, 1, 3⟩ := by
  decide +kernel

theorem alnsRun_core {val : Nat → Rat} (coin : Nat → Bool) (acc : Accept) (maxIter mni stopAt : Nat) :
    (alnsRun val coin acc maxIter mni stopAt).core =
      iter (Core.obs val) (alnsRun val coin acc maxIter mni stopAt).iteration (Core.init val) :=
  (iter_inv (alnsInv_step coin acc mni stopAt) maxIter _ lnsInv_init).core_eq

/-- C19 for `alns`, for every acceptance rule including arbitrary user callbacks. -/
theorem alns_best_is_min_of_evaluated (m : Bool) (f : Nat → Rat) (coin : Nat → Bool) (acc : Accept)
    (maxIter mni stopAt : Nat) : Faithful m f (alnsSolve m f coin acc maxIter mni stopAt) :=
  good_to_user (good_evals_of_fold (alnsRun_core coin acc maxIter mni stopAt)).1

theorem alns_evals_eq_calls (m : Bool) (f : Nat → Rat) (coin : Nat → Bool) (acc : Accept)
    (maxIter mni stopAt : Nat) :
    (alnsSolve m f coin acc maxIter mni stopAt).evaluations =
      (alnsRun (internal m f) coin acc maxIter mni stopAt).iteration + 1 :=
  (good_evals_of_fold (alnsRun_core coin acc maxIter mni stopAt)).2

example : alnsSolve false (fun k => [1, 4, 2, 9, 3].getD k 0) (fun k => k == 2) .custom 4 100 0 = ⟨9, 3, 5⟩ := by
  decide +kernel

private theorem evoInv_run (val : Nat → Rat) (popSize eliteSize : Nat) (hp : 1 ≤ popSize) (gens : Nat) :
    EvoInv val popSize (evoRun val popSize eliteSize gens) ∧
      (evoRun val popSize eliteSize gens).core.evals = popSize + gens * (popSize - min eliteSize popSize) := by
  have := iter_count (·.core.evals) (evoInv_step (val := val) popSize eliteSize hp) gens _
    (evoInv_init (val := val) popSize hp).1
  rwa [(evoInv_init (val := val) popSize hp).2] at this

/-- C19 for `evolve` (non-empty population; elitism of any size, also 0 or larger than the
population). -/
theorem evolve_best_is_min_of_evaluated (m : Bool) (f : Nat → Rat) (popSize eliteSize gens : Nat)
    (hp : 1 ≤ popSize) : Faithful m f (evolveSolve m f popSize eliteSize gens) :=
  good_to_user (evoInv_run _ popSize eliteSize hp gens).1.good

theorem evolve_evals_eq_calls (m : Bool) (f : Nat → Rat) (popSize eliteSize gens : Nat) (hp : 1 ≤ popSize) :
    (evolveSolve m f popSize eliteSize gens).evaluations =
      popSize + gens * (popSize - min eliteSize popSize) :=
  (evoInv_run _ popSize eliteSize hp gens).2

-- no elitism: the best individual (1, found in generation 1) dies out, the record keeps it
example : evolveSolve true (fun k => [5, 6, 1, 7, 8, 9].getD k 0) 2 0 2 = ⟨1, 2, 6⟩ := by decide +kernel

/-- `differential_evolution` reports what the plain loop of `bayesian_opt` would report on the same stream. -/
theorem deRun_core {val : Nat → Rat} (n : Nat) (hn : 1 ≤ n) (gens : Nat) :
    (deRun val n gens).core = iter (Core.obs val) (gens * n) (startCore val n) :=
  (iter_obs_run PopSt.core (PopStInv n) n (deStep val)
    (fun s h => h.length_eq ▸ deSweep_post s.fits s.core h.below) gens (popInit val n) (popStInv_init n hn)).2

/-- C19 for `differential_evolution` (greedy `<=` replacement with the nested best update). -/
theorem de_best_is_min_of_evaluated (m : Bool) (f : Nat → Rat) (popSize gens : Nat) (hp : 1 ≤ popSize) :
    Faithful m f (deSolve m f popSize gens) :=
  good_to_user (good_evals_of_fold_start (deRun_core popSize hp gens)).1

theorem de_evals_eq_calls (m : Bool) (f : Nat → Rat) (popSize gens : Nat) (hp : 1 ≤ popSize) :
    (deSolve m f popSize gens).evaluations = popSize + gens * popSize :=
  (good_evals_of_fold_start (deRun_core popSize hp gens)).2 hp

example : deSolve true (fun k => [5, 4, 6, 7, 4, 1, 9, 9].getD k 0) 4 1 = ⟨1, 5, 8⟩ := by decide +kernel

theorem psoRun_core {val : Nat → Rat} (n : Nat) (hn : 1 ≤ n) (its : Nat) :
    (psoRun val n its).core = iter (Core.obs val) (its * n) (startCore val n) :=
  (iter_obs_run PopSt.core (PopStInv n) n (psoStep val)
    (fun s h => h.length_eq ▸ psoSweep_post s.fits s.core h.below) its (popInit val n) (popStInv_init n hn)).2

/-- C19 for `particle_swarm` (global best nested inside the personal-best update). -/
theorem pso_best_is_min_of_evaluated (m : Bool) (f : Nat → Rat) (nParticles iters : Nat) (hp : 1 ≤ nParticles) :
    Faithful m f (psoSolve m f nParticles iters) :=
  good_to_user (good_evals_of_fold_start (psoRun_core nParticles hp iters)).1

theorem pso_evals_eq_calls (m : Bool) (f : Nat → Rat) (nParticles iters : Nat) (hp : 1 ≤ nParticles) :
    (psoSolve m f nParticles iters).evaluations = nParticles + iters * nParticles :=
  (good_evals_of_fold_start (psoRun_core nParticles hp iters)).2 hp

example : psoSolve false (fun k => [5, 4, 6, 3].getD k 0) 2 1 = ⟨6, 2, 4⟩ := by decide +kernel

/-- C19 for `bayesian_opt`. -/
theorem bayes_best_is_min_of_evaluated (m : Bool) (f : Nat → Rat) (nInitial iters : Nat) :
    Faithful m f (bayesSolve m f nInitial iters) :=
  good_to_user (good_evals_of_fold_start (n := nInitial) rfl).1

theorem bayes_evals_eq_calls (m : Bool) (f : Nat → Rat) (nInitial iters : Nat) (hn : 1 ≤ nInitial) :
    (bayesSolve m f nInitial iters).evaluations = nInitial + iters :=
  (good_evals_of_fold_start rfl).2 hn

example : bayesSolve true (fun k => [5, 4, 6, 3, 8].getD k 0) 2 3 = ⟨3, 3, 5⟩ := by decide +kernel

/-- C19 for `nelder_mead` *with the proposed repair C19_nm_stop* (reflection, expansion, both
contractions, shrink, convergence exit, `on_progress` exit, final arg-min). -/
theorem nm_best_is_min_of_evaluated (m : Bool) (f : Nat → Rat) (n : Nat) (hn : 1 ≤ n) (tol : Rat)
    (maxIter stopAt : Nat) : Faithful m f (nmSolve false m f n tol maxIter stopAt) :=
  good_to_user (nmResult_good n _ (iter_inv (nmP_step n hn tol stopAt) maxIter _ (nmP_init n)))

/-- Round 1 expands (evaluation 4, value 9) and the callback stops the loop; rounds 2 … 1000 are idle. -/
theorem nmRun_stopped :
    nmRun (internal true (fun k => [16, 14, 18, 12, 9].getD k 0)) 2 (1 / 1000000) 1000 1
      = ⟨[⟨14, 1⟩, ⟨16, 0⟩, ⟨9, 4⟩], 5, 1, true, true⟩ :=
  nmRun_of_first_done (by decide +kernel) rfl 999

/-- `nelder_mead` as written in the unchanged tree violates C19 when `on_progress` stops it: it
returns `simplex[0]` of the not yet re-sorted simplex (14) although the expansion point just
evaluated (9) is better. -/
theorem nm_unrepaired_stop_is_stale :
    ∃ (f : Nat → Rat), ¬ Faithful true f (nmSolve true true f 2 (1 / 1000000) 1000 1) := by
  refine ⟨fun k => [16, 14, 18, 12, 9].getD k 0, ?_⟩
  unfold nmSolve
  rw [nmRun_stopped]
  rintro ⟨_, _, h⟩
  exact absurd (h 4 (by decide)) (by decide +kernel)

-- FULL STATEMENT (not proved, false for the unchanged tree – see `nm_unrepaired_stop_is_stale`):
--   ∀ m f n tol maxIter stopAt, 1 ≤ n → Faithful m f (nmSolve true m f n tol maxIter stopAt)
/-- What the unchanged `nelder_mead` does guarantee: C19 whenever `on_progress` never stops it. -/
theorem nm_unrepaired_best_is_min_of_evaluated_partial (m : Bool) (f : Nat → Rat) (n : Nat) (hn : 1 ≤ n)
    (tol : Rat) (maxIter : Nat) : Faithful m f (nmSolve true m f n tol maxIter 0) := by
  have hst : (nmRun (internal m f) n tol maxIter 0).stopped = false :=
    iter_inv (P := fun s : NmSt => s.stopped = false)
      (fun s h => nmStep_cases (P := fun t => t.stopped = false) n tol 0 s h h rfl) maxIter _ rfl
  have heq : nmResult true (nmRun (internal m f) n tol maxIter 0)
      = nmResult false (nmRun (internal m f) n tol maxIter 0) := by
    unfold nmResult; rw [hst]; rfl
  unfold nmSolve
  rw [heq]
  exact nm_best_is_min_of_evaluated m f n hn tol maxIter 0

/-- One loop body of `nelder_mead` costs 1 (reflection), 2 (expansion / contraction) or `n+2` (shrink)
evaluations.  (A statement about `nmBody`; the count of a whole run is not proved.) -/
theorem nm_evals_eq_calls (val : Nat → Rat) (n : Nat) (sorted : List Ind) (e : Nat) :
    (nmBody val n sorted e).2 = e + 1 ∨ (nmBody val n sorted e).2 = e + 2 ∨
      (nmBody val n sorted e).2 = e + 2 + n := by
  rcases nmBody_cases n sorted e with ⟨i, e', _, he, _, h⟩ | ⟨_, _, h⟩ <;> rw [h]
  · exact he.elim (fun h => .inl h) fun h => .inr (.inl h)
  · exact .inr (.inr rfl)

/-- `n + 1`: the vertices of the first simplex -/
theorem nm_evals_ge_start (val : Nat → Rat) (n : Nat) (hn : 1 ≤ n) (tol : Rat) (maxIter stopAt : Nat) :
    n + 1 ≤ (nmRun val n tol maxIter stopAt).evals := by
  refine iter_inv (P := fun s : NmSt => n + 1 ≤ s.evals) (fun s h => Nat.le_trans h ?_) maxIter _ (Nat.le_refl _)
  refine nmStep_cases (P := fun t => s.evals ≤ t.evals) n tol stopAt s (Nat.le_refl _) (Nat.le_refl _) ?_
  · show s.evals ≤ (nmBody val n (sortStable s.simplex) s.evals).2
    rcases nm_evals_eq_calls val n (sortStable s.simplex) s.evals with h | h | h <;> rw [h]
    · exact Nat.le_add_right _ _
    · exact Nat.le_add_right _ _
    · exact Nat.le_trans (Nat.le_add_right _ 2) (Nat.le_add_right _ _)

-- expansion then stop: the repaired exit returns the expansion point
example : nmSolve false true (fun k => [16, 14, 18, 12, 9].getD k 0) 2 (1 / 1000000) 1000 1 = ⟨9, 4, 5⟩ := by
  unfold nmSolve
  rw [nmRun_stopped]
  decide +kernel

theorem clamp_mem {lo hi : Rat} (x : Rat) (h : lo ≤ hi) :
    lo ≤ max lo (min hi x) ∧ max lo (min hi x) ≤ hi := by
  have hmin : min hi x ≤ hi := by
    show (if hi ≤ x then hi else x) ≤ hi
    split
    · exact Rat.le_refl
    · next hx => exact Rat.le_of_lt (Rat.not_le.1 hx)
  show lo ≤ (if lo ≤ min hi x then min hi x else lo) ∧ (if lo ≤ min hi x then min hi x else lo) ≤ hi
  split
  · next hl => exact ⟨hl, hmin⟩
  · exact ⟨Rat.le_refl, h⟩

theorem clamp_id {lo hi x : Rat} (h1 : lo ≤ x) (h2 : x ≤ hi) : max lo (min hi x) = x := by
  have hmin : min hi x = x := by
    show (if hi ≤ x then hi else x) = x
    split
    · next hx => exact Rat.le_antisymm hx h2
    · rfl
  rw [hmin]
  exact if_pos h1

/-- C19: clipping puts every coordinate inside its (non-empty) interval. -/
theorem clip_in_bounds : ∀ (bs : List (Rat × Rat)) (x : List Rat), (∀ b ∈ bs, b.1 ≤ b.2) →
    x.length = bs.length → inBounds bs (clip bs x) = true
  | [], [], _, _ => rfl
  | [], _ :: _, _, h => nomatch h
  | _ :: _, [], _, h => nomatch h
  | (lo, hi) :: bs, x :: xs, hb, hl => by
    rw [clip, inBounds_cons]
    exact ⟨clamp_mem x (hb (lo, hi) List.mem_cons_self),
      clip_in_bounds bs xs (fun b hb' => hb b (List.mem_cons_of_mem _ hb')) (Nat.succ.inj hl)⟩

theorem clip_of_inBounds : ∀ (bs : List (Rat × Rat)) (x : List Rat), inBounds bs x = true → clip bs x = x
  | [], [], _ => rfl
  | [], _ :: _, h => nomatch h
  | _ :: _, [], h => nomatch h
  | (lo, hi) :: bs, x :: xs, h => by
    obtain ⟨⟨h1, h2⟩, h3⟩ := (inBounds_cons lo hi bs x xs).1 h
    rw [clip, clip_of_inBounds bs xs h3, clamp_id h1 h2]

/-- DE's trial vector -/
theorem mix_in_bounds : ∀ (bs : List (Rat × Rat)) (cs : List Bool) (a b : List Rat),
    cs.length = bs.length → inBounds bs a = true → inBounds bs b = true → inBounds bs (mix cs a b) = true
  | [], [], [], [], _, _, _ => rfl
  | [], _, _ :: _, _, _, h, _ => nomatch h
  | [], _, [], _ :: _, _, _, h => nomatch h
  | [], _ :: _, _, _, h, _, _ => nomatch h
  | _ :: _, [], _, _, h, _, _ => nomatch h
  | _ :: _, _, [], _, _, h, _ => nomatch h
  | _ :: _, _, _ :: _, [], _, _, h => nomatch h
  | (lo, hi) :: bs, c :: cs, a :: as, b :: bs', hl, ha, hb => by
    obtain ⟨ha1, ha2⟩ := (inBounds_cons lo hi bs a as).1 ha
    obtain ⟨hb1, hb2⟩ := (inBounds_cons lo hi bs b bs').1 hb
    rw [mix, inBounds_cons]
    exact ⟨match c with | true => hb1 | false => ha1, mix_in_bounds bs cs as bs' (Nat.succ.inj hl) ha2 hb2⟩

example : inBounds [(0, 1), (-2, 2)] (clip [(0, 1), (-2, 2)] [7, -5]) = true :=
  clip_in_bounds _ _ (by decide +kernel) rfl

end Solvor.Search
