import Solvor.Search.Model
import Solvor.Common.ListLemmas
/-! Search: the best-so-far record (a `Core`), what it means for it to be faithful (`Good`), and the plain fold
`iter (Core.obs val)`; the skeletons whose record IS that fold, whatever else they keep (anneal, lns, alns, the DE / PSO
sweeps, bayesian_opt); the tabu candidate loop, which updates the record once per block of evaluations. -/
namespace Solvor.Search

/-- `c` is a faithful best-so-far record of the first `c.evals` values of the stream. -/
structure Good (val : Nat → Rat) (c : Core) : Prop where
  idx_lt : c.bestIdx < c.evals
  attained : val c.bestIdx = c.best
  le_all : ∀ k, k < c.evals → c.best ≤ val k

/-- `Good` as the user sees it, in the user's sign; start points are evaluations `0 …`. -/
def Faithful (minimize : Bool) (f : Nat → Rat) (o : Outcome) : Prop :=
  o.solIdx < o.evaluations ∧ o.objective = f o.solIdx ∧
    ∀ k, k < o.evaluations → if minimize then o.objective ≤ f k else f k ≤ o.objective

theorem iter_inv {σ : Type} {P : σ → Prop} {f : σ → σ} (h : ∀ s, P s → P (f s)) :
    ∀ n s, P s → P (iter f n s)
  | 0, _, hs => hs
  | n + 1, s, hs => iter_inv h n (f s) (h s hs)

theorem iter_count {σ : Type} {P : σ → Prop} (g : σ → Nat) {d : Nat} {f : σ → σ}
    (h : ∀ s, P s → P (f s) ∧ g (f s) = g s + d) :
    ∀ n s, P s → P (iter f n s) ∧ g (iter f n s) = g s + n * d
  | 0, _, hs => ⟨hs, by rw [Nat.zero_mul]; rfl⟩
  | n + 1, s, hs => by
    obtain ⟨hp, hg⟩ := iter_count g h n (f s) (h s hs).1
    exact ⟨hp, by rw [show iter f (n + 1) s = iter f n (f s) from rfl, hg, (h s hs).2,
      Nat.succ_mul]; omega⟩

theorem iter_fix {σ : Type} {f : σ → σ} {s : σ} (h : f s = s) (n : Nat) : iter f n s = s :=
  iter_inv (P := (· = s)) (fun _ e => e ▸ h) n s rfl

theorem iter_add {σ : Type} (f : σ → σ) (a : Nat) : ∀ b s, iter f (a + b) s = iter f a (iter f b s)
  | 0, _ => rfl
  | b + 1, s => iter_add f a b (f s)

theorem iter_succ' {σ : Type} (f : σ → σ) (n : Nat) (s : σ) : iter f (n + 1) s = f (iter f n s) :=
  Nat.add_comm 1 n ▸ iter_add f 1 n s

theorem forall_window1 {P : Nat → Prop} {e : Nat} (h : P e) : ∀ k, e ≤ k → k < e + 1 → P k :=
  fun _ h1 h2 => Nat.le_antisymm (Nat.le_of_lt_succ h2) h1 ▸ h

theorem forall_window2 {P : Nat → Prop} {e : Nat} (h0 : P e) (h1 : P (e + 1)) :
    ∀ k, e ≤ k → k < e + 2 → P k := fun _ hk0 hk =>
  (Nat.eq_or_lt_of_le hk0).elim (fun h => h ▸ h0) fun h =>
    Nat.le_antisymm (Nat.le_of_lt_succ hk) h ▸ h1

variable {val : Nat → Rat} {c : Core}

theorem good_advance {c' : Core} (h : Good val c) (hi : c'.bestIdx < c'.evals)
    (hv : val c'.bestIdx = c'.best) (hb : c'.best ≤ c.best)
    (hnew : ∀ k, c.evals ≤ k → k < c'.evals → c'.best ≤ val k) : Good val c' :=
  ⟨hi, hv, fun k hk => (Nat.lt_or_ge k c.evals).elim
    (fun hk' => Rat.le_trans hb (h.le_all k hk')) (fun hk' => hnew k hk' hk)⟩

theorem good_init : Good val (Core.init val) :=
  ⟨Nat.zero_lt_one, rfl, fun k hk => by
    obtain rfl : k = 0 := Nat.lt_one_iff.1 hk
    exact Rat.le_refl⟩

theorem good_take (h : Good val c) (hv : val c.evals < c.best) :
    Good val (c.take (val c.evals)) :=
  good_advance h (Nat.lt_succ_self _) rfl (Rat.le_of_lt hv) (forall_window1 Rat.le_refl)

theorem good_skip (h : Good val c) (hv : c.best ≤ val c.evals) : Good val c.skip :=
  good_advance h (Nat.lt_succ_of_lt h.idx_lt) h.attained Rat.le_refl (forall_window1 hv)

theorem good_extend (h : Good val c) (e : Nat) (he : c.evals ≤ e)
    (hall : ∀ k, c.evals ≤ k → k < e → c.best ≤ val k) : Good val { c with evals := e } :=
  good_advance h (Nat.lt_of_lt_of_le h.idx_lt he) h.attained Rat.le_refl hall

/-- the update `if b < best_obj: …` of tabu_search and evolve after a block of evaluations `c.evals … e-1` -/
theorem good_block (h : Good val c) {b : Rat} {i e : Nat}
    (he : c.evals ≤ e) (hi : i < e) (hv : val i = b)
    (hall : ∀ k, c.evals ≤ k → k < e → c.best ≤ val k ∨ b ≤ val k) :
    Good val (if b < c.best then ⟨b, i, e⟩ else { c with evals := e }) := by
  split
  · next hb => exact good_advance h hi hv (Rat.le_of_lt hb) fun k h1 h2 =>
      (hall k h1 h2).elim (Rat.le_trans (Rat.le_of_lt hb)) id
  · next hb => exact good_extend h e he fun k h1 h2 =>
      (hall k h1 h2).elim id (Rat.le_trans (Rat.not_lt.1 hb))

theorem obs_of_lt (h : val c.evals < c.best) :
    c.obs val = c.take (val c.evals) := if_pos h

theorem obs_of_le (h : c.best ≤ val c.evals) : c.obs val = c.skip :=
  if_neg (Rat.not_lt.2 h)

theorem good_obs (h : Good val c) : Good val (c.obs val) := by
  by_cases hv : val c.evals < c.best
  · rw [obs_of_lt hv]; exact good_take h hv
  · rw [obs_of_le (Rat.not_lt.1 hv)]; exact good_skip h (Rat.not_lt.1 hv)

theorem obs_evals : (c.obs val).evals = c.evals + 1 := by
  unfold Core.obs; split <;> rfl

theorem obs_best_le : (c.obs val).best ≤ c.best := by
  unfold Core.obs; split
  · next h => exact Rat.le_of_lt h
  · exact Rat.le_refl

theorem obs_best_le_val : (c.obs val).best ≤ val c.evals := by
  unfold Core.obs; split
  · exact Rat.le_refl
  · next h => exact Rat.not_lt.1 h

theorem iter_obs_spec (n : Nat) (h : Good val c) :
    Good val (iter (Core.obs val) n c) ∧ (iter (Core.obs val) n c).evals = c.evals + n := by
  have := iter_count (P := Good val) (d := 1) (f := Core.obs val) Core.evals (fun _ h => ⟨good_obs h, obs_evals⟩) n c h
  rwa [Nat.mul_one] at this

theorem iter_obs_best_le : ∀ (n : Nat) (c : Core), (iter (Core.obs val) n c).best ≤ c.best
  | 0, _ => Rat.le_refl
  | n + 1, c => Rat.le_trans (iter_obs_best_le n (c.obs val)) obs_best_le

/-- What every `*_best_is_min_of_evaluated` / `*_evals_eq_calls` of a one-evaluation skeleton reads: the hypothesis is an
equation so that the skeleton's `*Run_core` can be handed in as it stands (`good_evals_of_fold_start`: the same from `n`
start points). -/
theorem good_evals_of_fold {n : Nat} (h : c = iter (Core.obs val) n (Core.init val)) : Good val c ∧ c.evals = n + 1 :=
  h ▸ (iter_obs_spec n good_init).imp_right (·.trans (Nat.add_comm 1 n))

/-- How a skeleton is shown to be the plain fold: `core` reads the record off its state, `P` is what the step needs of
the state beside the record (nothing kept is below it), and one round of `f` does `d` plain `obs` steps. -/
theorem iter_obs_run {σ : Type} (core : σ → Core) (P : σ → Prop) (d : Nat) (f : σ → σ)
    (h : ∀ s, P s → P (f s) ∧ core (f s) = iter (Core.obs val) d (core s)) :
    ∀ n s, P s → P (iter f n s) ∧ core (iter f n s) = iter (Core.obs val) (n * d) (core s)
  | 0, _, hs => ⟨hs, by rw [Nat.zero_mul]; rfl⟩
  | n + 1, s, hs => by
    obtain ⟨hp, hc⟩ := iter_obs_run core P d f h n (f s) (h s hs).1
    exact ⟨hp, by
      show core (iter f n (f s)) = _
      rw [hc, (h s hs).2, Nat.succ_mul, iter_add]⟩

theorem sgn_mul_self (m : Bool) : sgn m * sgn m = 1 := by
  cases m
  · show (-1 : Rat) * -1 = 1; rw [Rat.neg_mul, Rat.one_mul, Rat.neg_neg]
  · exact Rat.one_mul 1

theorem toUser_internal (m : Bool) (x : Rat) : toUser m (sgn m * x) = x := by
  show sgn m * x * sgn m = x
  rw [Rat.mul_comm (sgn m), Rat.mul_assoc, sgn_mul_self, Rat.mul_one]

theorem internal_mirror (f : Nat → Rat) : internal false f = internal true (fun k => -f k) := by
  funext k
  show -1 * f k = 1 * -f k
  rw [Rat.neg_mul, Rat.one_mul, Rat.one_mul]

theorem outcome_mirror (c : Core) : c.outcome false = (c.outcome true).neg := by
  show (⟨c.best * -1, _, _⟩ : Outcome) = ⟨-(c.best * 1), _, _⟩
  rw [Rat.mul_neg]
  rfl

/-! A current solution beside the record (anneal, lns, alns).  These loops look at the record only in some of their
branches; with `c.best ≤ cur` a candidate that does not improve on the current solution cannot improve on the record
either, so every branch does what `obs` does. -/

theorem obs_best_le_cur {cur cur' : Rat} (h : c.best ≤ cur)
    (hc : cur' = val c.evals ∨ cur' = cur) : (c.obs val).best ≤ cur' := by
  rcases hc with rfl | rfl
  · exact obs_best_le_val
  · exact Rat.le_trans obs_best_le h

theorem skip_eq_obs {cur : Rat} (h : c.best ≤ cur) (hv : ¬ val c.evals < cur) : c.skip = c.obs val :=
  (obs_of_le (Rat.le_trans h (Rat.not_lt.1 hv))).symm

theorem annealStep_obs (coin : Nat → Bool) (s : AnnealSt) (h : s.core.best ≤ s.cur) :
    (annealStep val coin s).core.best ≤ (annealStep val coin s).cur ∧
      (annealStep val coin s).core = s.core.obs val := by
  unfold annealStep
  dsimp only
  -- the accepted branch's `if v < best then take v else skip` is `Core.obs` unfolded
  by_cases ha : val s.core.evals - s.cur < 0 ∨ coin s.core.evals = true
  · rw [if_pos ha]; exact ⟨obs_best_le_val, rfl⟩
  · rw [if_neg ha, skip_eq_obs h fun hlt => ha (.inl (Rat.sub_lt_iff.2 (by rwa [Rat.zero_add])))]
    exact ⟨Rat.le_trans obs_best_le h, rfl⟩

/-- The fold is indexed by the state's own `iteration` and not by the number of rounds: once `done` is set the step is
the identity, so the record is the fold over the rounds actually executed (hence not through `iter_obs_run`, whose
rounds all evaluate). -/
structure LnsInv (val : Nat → Rat) (s : LnsSt) : Prop where
  best_le : s.core.best ≤ s.cur
  core_eq : s.core = iter (Core.obs val) s.iteration (Core.init val)

theorem lnsInv_init : LnsInv val (lnsInit val) := ⟨Rat.le_refl, rfl⟩

theorem lnsInv_obs {s : LnsSt} (h : LnsInv val s) {cur : Rat}
    (hc : cur = val s.core.evals ∨ cur = s.cur) {i b : Nat} {d : Bool} :
    LnsInv val ⟨s.core.obs val, cur, i, b, s.iteration + 1, d⟩ :=
  ⟨obs_best_le_cur h.best_le hc, (congrArg (Core.obs val) h.core_eq).trans (iter_succ' _ _ _).symm⟩

theorem lnsInv_step (coin : Nat → Bool) (acc : Accept) (mni stopAt : Nat)
    (s : LnsSt) (h : LnsInv val s) : LnsInv val (lnsStep val coin acc mni stopAt s) := by
  unfold lnsStep
  by_cases hd : s.done = true
  · rw [if_pos hd]; exact h
  · rw [if_neg hd]
    -- the step's `if v < best then take v else skip` is `Core.obs` unfolded
    show LnsInv val ⟨s.core.obs val, _, _, _, _, _⟩
    exact lnsInv_obs h (by split <;> simp)

/-- the acceptance rule never refuses a candidate that improves on the current solution -/
def Accept.RespectsImprovement (acc : Accept) (coin : Nat → Bool) (val : Nat → Rat) : Prop :=
  ∀ (cur : Rat) (k : Nat), val k < cur → acc.says cur (val k) (coin k) = true

theorem lnsInv_stepOrig (coin : Nat → Bool) (acc : Accept) (mni stopAt : Nat)
    (hacc : acc.RespectsImprovement coin val)
    (s : LnsSt) (h : LnsInv val s) : LnsInv val (lnsStepOrig val coin acc mni stopAt s) := by
  unfold lnsStepOrig
  by_cases hd : s.done = true
  · rw [if_pos hd]; exact h
  rw [if_neg hd]
  dsimp only
  by_cases ha : acc.says s.cur (val s.core.evals) (coin s.core.evals) = true
  · rw [if_pos ha]; exact lnsInv_obs h (.inl rfl)
  · -- a rejected candidate is not better than the current solution
    rw [if_neg ha, skip_eq_obs h.best_le fun hlt => ha (hacc s.cur s.core.evals hlt)]
    exact lnsInv_obs h (.inr rfl)

theorem alnsInv_step (coin : Nat → Bool) (acc : Accept) (mni stopAt : Nat)
    (s : LnsSt) (h : LnsInv val s) : LnsInv val (alnsStep val coin acc mni stopAt s) := by
  unfold alnsStep
  by_cases hd : s.done = true
  · rw [if_pos hd]; exact h
  rw [if_neg hd]
  dsimp only
  by_cases hv : val s.core.evals < s.core.best
  · rw [if_pos hv, ← obs_of_lt hv]; exact lnsInv_obs h (.inl rfl)
  · rw [if_neg hv, ← obs_of_le (Rat.not_lt.1 hv)]
    split
    · exact lnsInv_obs h (.inl rfl)
    · split
      · exact lnsInv_obs h (.inl rfl)
      · exact lnsInv_obs h (.inr rfl)

theorem good_startCore (n : Nat) : Good val (startCore val n) :=
  (good_evals_of_fold rfl).1

theorem startCore_evals (n : Nat) (hn : 1 ≤ n) : (startCore val n).evals = n :=
  (good_evals_of_fold rfl).2.trans (Nat.sub_add_cancel hn)

theorem good_evals_of_fold_start {n N : Nat} (h : c = iter (Core.obs val) N (startCore val n)) :
    Good val c ∧ (1 ≤ n → c.evals = n + N) :=
  h ▸ (iter_obs_spec N (good_startCore n)).imp_right fun he hn =>
    he.trans (congrArg (· + N) (startCore_evals n hn))

structure PopStInv (n : Nat) (s : PopSt) : Prop where
  length_eq : s.fits.length = n
  below : ∀ x ∈ s.fits, s.core.best ≤ x

/-- Although a sweep looks at the record only when a slot is replaced, its record is that of `n` plain `obs` steps: a slot
that is kept holds a value not below the record, and the candidate was not below that value. -/
def SweepPost (val : Nat → Rat) (c : Core) (n : Nat) (r : List Rat × Core) : Prop :=
  PopStInv n ⟨r.2, r.1⟩ ∧ r.2 = iter (Core.obs val) n c

/-- One slot of `deSweep` / `psoSweep`, whose bodies have the shape of the `if`: `p` is the test that replaces the
slot's value `f` by the candidate (`≤` resp. `<`), `S` the sweep over the remaining slots. -/
theorem sweepPost_slot {f : Rat} {fs : List Rat}
    (hf : ∀ x ∈ f :: fs, c.best ≤ x) {p : Prop} [Decidable p] (hp : ¬ p → f ≤ val c.evals)
    (S : Core → List Rat × Core)
    (ih : (∀ x ∈ fs, (c.obs val).best ≤ x) → SweepPost val (c.obs val) fs.length (S (c.obs val))) :
    SweepPost val c (f :: fs).length
      (if p then (val c.evals :: (S (c.obs val)).1, (S (c.obs val)).2) else (f :: (S c.skip).1, (S c.skip).2)) := by
  obtain ⟨⟨h2, h3⟩, h1⟩ := ih fun x hx => Rat.le_trans obs_best_le (hf x (List.mem_cons_of_mem _ hx))
  have hr : (S (c.obs val)).2.best ≤ (c.obs val).best := h1 ▸ iter_obs_best_le _ _
  have key : ∀ {x}, (c.obs val).best ≤ x →
      SweepPost val c (fs.length + 1) (x :: (S (c.obs val)).1, (S (c.obs val)).2) := fun hx =>
    ⟨⟨congrArg (· + 1) h2, fun y hy => (List.mem_cons.1 hy).elim
      (fun e => e.symm ▸ Rat.le_trans hr hx) (h3 y)⟩, h1⟩
  have hf0 := hf f List.mem_cons_self
  by_cases hc : p
  · rw [if_pos hc]; exact key obs_best_le_val
  · rw [if_neg hc, ← obs_of_le (Rat.le_trans hf0 (hp hc))]
    exact key (Rat.le_trans obs_best_le hf0)

theorem deSweep_post : ∀ (fits : List Rat) (c : Core),
    (∀ x ∈ fits, c.best ≤ x) → SweepPost val c fits.length (deSweep val fits c)
  | [], _, _ => ⟨⟨rfl, fun _ h => nomatch h⟩, rfl⟩
  | f :: fs, c, hf => by
    unfold deSweep
    -- the unfolded body is `sweepPost_slot`'s `if`, with `Core.obs` unfolded in the branch that replaces the slot
    exact sweepPost_slot hf (fun hv => Rat.le_of_lt (Rat.not_le.1 hv)) _ (deSweep_post fs _)

theorem psoSweep_post : ∀ (fits : List Rat) (c : Core),
    (∀ x ∈ fits, c.best ≤ x) → SweepPost val c fits.length (psoSweep val fits c)
  | [], _, _ => ⟨⟨rfl, fun _ h => nomatch h⟩, rfl⟩
  | f :: fs, c, hf => by
    unfold psoSweep
    exact sweepPost_slot hf Rat.not_lt.1 _ (psoSweep_post fs _)

theorem popStInv_init (n : Nat) (hn : 1 ≤ n) : PopStInv n (popInit val n) := by
  refine ⟨by simp [popInit, startFits], fun x hx => ?_⟩
  simp only [popInit, startFits, List.mem_map, List.mem_range] at hx
  obtain ⟨k, hk, rfl⟩ := hx
  exact (good_startCore n).le_all k ((startCore_evals n hn).symm ▸ hk)

/-- `best_neighbor_obj ≤ x` (false while it still is `inf`). -/
def bnLe (bn : Option (Rat × Nat × Nat)) (x : Rat) : Prop :=
  match bn with
  | none => False
  | some (b, _, _) => b ≤ x

/-- invariant of the candidate loop over evaluations `e0 … e-1` -/
structure ScanInv (val : Nat → Rat) (best : Rat) (e0 e : Nat) (bn : Option (Rat × Nat × Nat)) : Prop where
  passed : ∀ k, e0 ≤ k → k < e → best ≤ val k ∨ bnLe bn (val k)
  entry : ∀ b i m, bn = some (b, i, m) → i < e ∧ val i = b

theorem scanInv_init (best : Rat) (e : Nat) : ScanInv val best e e none :=
  ⟨fun _ a b => absurd b (Nat.not_lt.2 a), fun _ _ _ hb => nomatch hb⟩

theorem scanInv_keep {best : Rat} {e0 e : Nat} {bn : Option (Rat × Nat × Nat)}
    (h : ScanInv val best e0 e bn) (hv : best ≤ val e ∨ bnLe bn (val e)) :
    ScanInv val best e0 (e + 1) bn :=
  ⟨fun k hk0 hk => (Nat.lt_succ_iff_lt_or_eq.1 hk).elim (h.passed k hk0) fun hk => hk ▸ hv,
   fun b i m hb => (h.entry b i m hb).imp Nat.lt_succ_of_lt id⟩

theorem scanInv_new {best : Rat} {e0 e : Nat} {bn : Option (Rat × Nat × Nat)}
    (h : ScanInv val best e0 e bn) (hv : ∀ x, bnLe bn x → val e ≤ x) (m : Nat) :
    ScanInv val best e0 (e + 1) (some (val e, e, m)) := by
  refine ⟨fun k hk0 hk => ?_, fun b i m' hb => ?_⟩
  · rcases Nat.lt_succ_iff_lt_or_eq.1 hk with hk | rfl
    · exact (h.passed k hk0 hk).imp id (hv _)
    · exact .inr Rat.le_refl
  · obtain ⟨rfl, rfl, rfl⟩ : val e = b ∧ e = i ∧ m = m' := by simpa using hb
    exact ⟨Nat.lt_succ_self _, rfl⟩

theorem tabuScan_spec (best : Rat) (tset : List Nat) (e0 : Nat) :
    ∀ (ms : List Nat) (e : Nat) (bn : Option (Rat × Nat × Nat)), ScanInv val best e0 e bn →
      (tabuScan val best tset ms e bn).1 = e + ms.length ∧
      ScanInv val best e0 (e + ms.length) (tabuScan val best tset ms e bn).2
  | [], _, _, h => ⟨rfl, h⟩
  | m :: ms, e, bn, h => by
    have ih := tabuScan_spec best tset e0 ms (e + 1)
    have hl : e + (m :: ms).length = e + 1 + ms.length := by rw [List.length_cons]; omega
    rw [hl]
    unfold tabuScan
    by_cases hskip : tset.contains m = true ∧ best ≤ val e
    · rw [if_pos hskip]; exact ih _ (scanInv_keep h (.inl hskip.2))
    rw [if_neg hskip]
    match bn, h with
    | none, h => exact ih _ (scanInv_new h (fun _ hx => nomatch hx) m)
    | some (b, i, mv), h =>
      dsimp only
      by_cases hlt : val e < b
      · rw [if_pos hlt]; exact ih _ (scanInv_new h (fun x hx => Rat.le_trans (Rat.le_of_lt hlt) hx) m)
      · rw [if_neg hlt]; exact ih _ (scanInv_keep h (.inr (Rat.not_lt.1 hlt)))

theorem tabuStep_of_done {cooldown mni stopAt : Nat} {s : TabuSt}
    (h : s.done = true) (ms : List Nat) : tabuStep val cooldown mni stopAt s ms = s := by
  unfold tabuStep; exact if_pos h

/-- One executed iteration (the one unfolding of `tabuStep`): every candidate is evaluated, the iteration counter
advances by one, and a faithful record stays faithful. -/
theorem tabuStep_spec {cooldown mni stopAt : Nat} {s : TabuSt} (hd : s.done = false) (ms : List Nat) :
    (tabuStep val cooldown mni stopAt s ms).core.evals = s.core.evals + ms.length ∧
    (tabuStep val cooldown mni stopAt s ms).iteration = s.iteration + 1 ∧
    (Good val s.core → Good val (tabuStep val cooldown mni stopAt s ms).core) := by
  obtain ⟨he, hinv⟩ := tabuScan_spec s.core.best s.tabuSet s.core.evals ms s.core.evals none (scanInv_init _ _)
  unfold tabuStep
  rw [if_neg (by simp [hd])]
  cases ms with
  | nil => exact ⟨rfl, rfl, id⟩
  | cons m ms =>
    rw [if_neg (by simp)]
    generalize tabuScan val s.core.best s.tabuSet (m :: ms) s.core.evals none = r at he hinv
    obtain ⟨e, _ | ⟨b, i, mv⟩⟩ := r <;> obtain rfl : e = _ := he
    · exact ⟨rfl, rfl, fun h => good_extend h _ (Nat.le_add_right _ _) fun k hk0 hk =>
        (hinv.passed k hk0 hk).elim id fun h' => nomatch h'⟩
    · obtain ⟨hie, hvi⟩ := hinv.entry b i mv rfl
      refine ⟨by dsimp only; split <;> rfl, rfl, fun h => ?_⟩
      simp only [decide_eq_true_eq]
      exact good_block h (Nat.le_add_right _ _) hie hvi hinv.passed

theorem tabu_good_step (cooldown mni stopAt : Nat) (s : TabuSt) (ms : List Nat)
    (h : Good val s.core) : Good val (tabuStep val cooldown mni stopAt s ms).core := by
  cases hd : s.done
  · exact (tabuStep_spec hd ms).2.2 h
  · rw [tabuStep_of_done hd]; exact h

end Solvor.Search
