import Solvor.Search.Lemmas
/-! Search: populations of evaluated points — the stable sort, `evolve` and `nelder_mead`. -/
namespace Solvor.Search

variable {val : Nat → Rat}

/-- the individual `p` is one of the first `e` evaluated points, with its value -/
structure Evald (val : Nat → Rat) (e : Nat) (p : Ind) : Prop where
  idx_lt : p.idx < e
  val_eq : val p.idx = p.fit

theorem evald_mono {e e' : Nat} {p : Ind} (h : Evald val e p) (he : e ≤ e') :
    Evald val e' p := ⟨Nat.lt_of_lt_of_le h.idx_lt he, h.val_eq⟩

def Sorted (l : List Ind) : Prop := l.Pairwise (fun a b => a.fit ≤ b.fit)

theorem insertStable_perm (x : Ind) : ∀ l : List Ind, (insertStable x l).Perm (x :: l)
  | [] => .refl _
  | y :: ys => by
    unfold insertStable
    split
    · exact .refl _
    · exact ((insertStable_perm x ys).cons y).trans (.swap x y ys)

theorem sorted_insertStable (x : Ind) : ∀ l : List Ind, Sorted l → Sorted (insertStable x l)
  | [], _ => List.pairwise_singleton _ _
  | z :: zs, h => by
    unfold insertStable
    have hz := List.pairwise_cons.1 h
    split
    · next hlt =>
      refine List.pairwise_cons.2 ⟨fun b hb => ?_, h⟩
      rcases List.mem_cons.1 hb with rfl | hb
      · exact Rat.le_of_lt hlt
      · exact Rat.le_trans (Rat.le_of_lt hlt) (hz.1 b hb)
    · next hge =>
      refine List.pairwise_cons.2 ⟨fun b hb => ?_, sorted_insertStable x zs hz.2⟩
      rcases List.mem_cons.1 ((insertStable_perm x zs).mem_iff.1 hb) with rfl | hb
      · exact Rat.not_lt.1 hge
      · exact hz.1 b hb

theorem foldl_insertStable_spec : ∀ (l acc : List Ind), Sorted acc →
    Sorted (l.foldl (fun acc x => insertStable x acc) acc) ∧
    (l.foldl (fun acc x => insertStable x acc) acc).Perm (l ++ acc)
  | [], _, h => ⟨h, .refl _⟩
  | x :: xs, acc, h => by
    obtain ⟨a, b⟩ := foldl_insertStable_spec xs _ (sorted_insertStable x acc h)
    exact ⟨a, b.trans (((insertStable_perm x acc).append_left xs).trans List.perm_middle)⟩

theorem sorted_sortStable (l : List Ind) : Sorted (sortStable l) := (foldl_insertStable_spec l [] .nil).1

theorem sortStable_perm (l : List Ind) : (sortStable l).Perm l := by
  have := (foldl_insertStable_spec l [] .nil).2
  rwa [List.append_nil] at this

theorem sorted_head_le {h : Ind} {t : List Ind} (hs : Sorted (h :: t)) :
    ∀ x ∈ h :: t, h.fit ≤ x.fit := fun x hx =>
  (List.mem_cons.1 hx).elim (fun e => e ▸ Rat.le_refl) ((List.pairwise_cons.1 hs).1 x)

theorem sortStable_head {l : List Ind} {hd : Ind} (h : (sortStable l).head? = some hd) :
    hd ∈ l ∧ ∀ x ∈ l, hd.fit ≤ x.fit := by
  have hs := sorted_sortStable l
  have hp := sortStable_perm l
  cases hl : sortStable l with
  | nil => rw [hl] at h; cases h
  | cons a t =>
    rw [hl] at h hs hp
    obtain rfl : a = hd := Option.some.inj h
    exact ⟨hp.mem_iff.1 List.mem_cons_self, fun x hx => sorted_head_le hs x (hp.mem_iff.2 hx)⟩

theorem mem_evalMany {x : Ind} : ∀ (e n : Nat),
    x ∈ evalMany val e n ↔ (e ≤ x.idx ∧ x.idx < e + n) ∧ x.fit = val x.idx
  | e, 0 => ⟨fun h => (nomatch h), fun h => absurd h.1.2 (Nat.not_lt.2 h.1.1)⟩
  | e, n + 1 => by
    rw [evalMany, List.mem_cons, mem_evalMany (e + 1) n]
    constructor
    · rintro (rfl | ⟨⟨h1, h2⟩, h3⟩)
      · exact ⟨⟨Nat.le_refl e, Nat.lt_add_of_pos_right (Nat.succ_pos n)⟩, rfl⟩
      · exact ⟨⟨Nat.le_of_succ_le h1, Nat.add_right_comm e 1 n ▸ h2⟩, h3⟩
    · rintro ⟨⟨h1, h2⟩, h3⟩
      obtain ⟨fit, idx⟩ := x
      rcases Nat.eq_or_lt_of_le h1 with rfl | h
      · exact .inl (by rw [show fit = val e from h3])
      · exact .inr ⟨⟨h, (Nat.add_right_comm e 1 n).symm ▸ h2⟩, h3⟩

theorem evald_evalMany {x : Ind} {n e : Nat} (h : x ∈ evalMany val e n) :
    Evald val (e + n) x := ⟨((mem_evalMany e n).1 h).1.2, ((mem_evalMany e n).1 h).2.symm⟩

theorem mem_evalMany_self {n e k : Nat} (h1 : e ≤ k) (h2 : k < e + n) :
    (⟨val k, k⟩ : Ind) ∈ evalMany val e n := (mem_evalMany e n).2 ⟨⟨h1, h2⟩, rfl⟩

theorem length_evalMany : ∀ (e n : Nat), (evalMany val e n).length = n
  | _, 0 => rfl
  | e, n + 1 => congrArg (· + 1) (length_evalMany (e + 1) n)

theorem argminFirst_spec : ∀ (l : List Ind), l ≠ [] →
    ∃ b, argminFirst l = some b ∧ b ∈ l ∧ ∀ x ∈ l, b.fit ≤ x.fit
  | [], h => absurd rfl h
  | [x], _ => ⟨x, rfl, List.mem_cons_self, fun z hz => by
      obtain rfl := List.mem_singleton.1 hz; exact Rat.le_refl⟩
  | x :: y :: ys, _ => by
    obtain ⟨m, hm, hmem, hle⟩ := argminFirst_spec (y :: ys) (List.cons_ne_nil _ _)
    unfold argminFirst
    rw [hm]
    simp only
    split
    · next hlt =>
      refine ⟨m, rfl, List.mem_cons_of_mem _ hmem, fun z hz => ?_⟩
      rcases List.mem_cons.1 hz with rfl | hz
      · exact Rat.le_of_lt hlt
      · exact hle z hz
    · next hge =>
      refine ⟨x, rfl, List.mem_cons_self, fun z hz => ?_⟩
      rcases List.mem_cons.1 hz with rfl | hz
      · exact Rat.le_refl
      · exact Rat.le_trans (Rat.not_lt.1 hge) (hle z hz)

structure EvoInv (val : Nat → Rat) (popSize : Nat) (s : EvoSt) : Prop where
  good : Good val s.core
  evald : ∀ p ∈ s.pop, Evald val s.core.evals p
  length_eq : s.pop.length = popSize

theorem evoInv_init (popSize : Nat) (hp : 1 ≤ popSize) :
    EvoInv val popSize (evoInit val popSize) ∧ (evoInit val popSize).core.evals = popSize := by
  have hperm := sortStable_perm (evalMany val 0 popSize)
  have hev : ∀ p ∈ sortStable (evalMany val 0 popSize), Evald val popSize p := fun p hp' =>
    Nat.zero_add popSize ▸ evald_evalMany (hperm.mem_iff.1 hp')
  have hlen := hperm.length_eq.trans (length_evalMany 0 popSize)
  unfold evoInit
  simp only
  split
  · -- `pop[0]` of an empty population raises IndexError; with `pop_size ≥ 1` that branch is not taken
    next heq => exact absurd heq (List.ne_nil_of_length_pos (hlen.symm ▸ hp))
  · next h t heq =>
    obtain ⟨_, hmin⟩ := sortStable_head (congrArg List.head? heq)
    have hh := hev h (heq ▸ List.mem_cons_self)
    have hgood : Good val ⟨h.fit, h.idx, popSize⟩ := ⟨hh.idx_lt, hh.val_eq, fun k hk =>
      hmin ⟨val k, k⟩ (mem_evalMany_self (Nat.zero_le k) (by rw [Nat.zero_add]; exact hk))⟩
    exact ⟨{ good := hgood, evald := heq ▸ hev, length_eq := heq ▸ hlen }, rfl⟩

theorem evoInv_step (popSize eliteSize : Nat) (hp : 1 ≤ popSize) (s : EvoSt)
    (h : EvoInv val popSize s) : EvoInv val popSize (evoStep val popSize eliteSize s) ∧
      (evoStep val popSize eliteSize s).core.evals = s.core.evals + (popSize - min eliteSize popSize) := by
  obtain ⟨hg, hm, hl⟩ := h
  have hel : (s.pop.take eliteSize).length = min eliteSize popSize := by rw [List.length_take, hl]
  unfold evoStep
  simp only
  rw [hel]
  generalize hdef : popSize - min eliteSize popSize = d
  generalize hnew : s.pop.take eliteSize ++ evalMany val s.core.evals d = newPop
  have hperm := sortStable_perm newPop
  have hev : ∀ p ∈ newPop, Evald val (s.core.evals + d) p := by
    intro p hp'
    rw [← hnew] at hp'
    rcases List.mem_append.1 hp' with hp' | hp'
    · exact evald_mono (hm p (List.mem_of_mem_take hp')) (Nat.le_add_right _ _)
    · exact evald_evalMany hp'
  have hev' : ∀ p ∈ (sortStable newPop).take popSize, Evald val (s.core.evals + d) p := fun p hp' =>
    hev p (hperm.mem_iff.1 (List.mem_of_mem_take hp'))
  have hlen : ((sortStable newPop).take popSize).length = popSize := by
    rw [List.length_take, hperm.length_eq, ← hnew, List.length_append, length_evalMany, hel, ← hdef,
      Nat.add_sub_cancel' (Nat.min_le_right _ _)]
    exact Nat.min_self _
  split
  · next heq => exact absurd heq (List.ne_nil_of_length_pos (hlen.symm ▸ hp))
  · next hd tl heq =>
    -- `pop[0]` is the least of the elites and all children of this generation
    have hhead : (sortStable newPop).head? = some hd := by
      have := congrArg List.head? heq
      rwa [List.head?_take, if_neg (by omega)] at this
    obtain ⟨hmem, hmin⟩ := sortStable_head hhead
    refine ⟨⟨?_, ?_, heq ▸ hlen⟩, ?_⟩
    · exact good_block hg (Nat.le_add_right _ _) (hev _ hmem).idx_lt (hev _ hmem).val_eq fun k h1 h2 =>
        .inr (hmin ⟨val k, k⟩ (hnew ▸ List.mem_append_right _ (mem_evalMany_self h1 h2)))
    · intro p hp'
      have := hev' p (heq ▸ hp')
      split <;> exact this
    · split <;> rfl

/-- Invariant of `nelder_mead`'s loop: the state holds no record, `nmResult` reads the best off the simplex. -/
structure NmP (val : Nat → Rat) (n : Nat) (simplex : List Ind) (evals : Nat) : Prop where
  evald : ∀ p ∈ simplex, Evald val evals p
  length_eq : simplex.length = n + 1
  /-- some vertex, not a particular one: between two steps the simplex is not sorted -/
  covered : ∀ k, k < evals → ∃ p ∈ simplex, p.fit ≤ val k

/-- If `S'` keeps a least old vertex `hd`, the evaluations before `e` stay covered by it; only the new vertices (`hnew`)
and the evaluations `e … e'-1` (`hcov`) have to be looked at. -/
theorem nmP_next {n : Nat} {sorted S' : List Ind} {e e' : Nat} (hd : Ind)
    (h : NmP val n sorted e) (hhd : ∀ p ∈ sorted, hd.fit ≤ p.fit) (hhd' : hd ∈ S') (hee : e ≤ e')
    (hnew : ∀ p ∈ S', p ∈ sorted ∨ Evald val e' p)
    (hlen : S'.length = n + 1)
    (hcov : ∀ k, e ≤ k → k < e' → ∃ p ∈ S', p.fit ≤ val k) : NmP val n S' e' := by
  refine ⟨fun p hp => (hnew p hp).elim (fun hp => evald_mono (h.evald p hp) hee) id, hlen, fun k hk => ?_⟩
  by_cases hk' : k < e
  · obtain ⟨p, hp, hpk⟩ := h.covered k hk'
    exact ⟨hd, hhd', Rat.le_trans (hhd p hp) hpk⟩
  · exact hcov k (Nat.not_lt.1 hk') hk

theorem mem_setLast {l : List Ind} {x y : Ind} (h : y ∈ setLast l x) : y ∈ l ∨ y = x :=
  (List.mem_append.1 h).imp (List.dropLast_subset l ·) List.mem_singleton.1

theorem mem_nmShrink {l : List Ind} {e : Nat} {y : Ind} (h : y ∈ nmShrink val l e) :
    y ∈ l ∨ Evald val (e + (l.length - 1)) y :=
  (List.mem_append.1 h).imp List.mem_of_mem_take evald_evalMany

/-- The case split of Nelder–Mead's loop body that `nmBody_spec` and `nm_evals_eq_calls` read: the worst vertex is replaced by
the evaluated point `i`, a least one of the one or two evaluations made, or the simplex shrinks (the right disjunct says of
the second value only what `nmBody_spec` needs to keep the old minimum). -/
theorem nmBody_cases (n : Nat) (sorted : List Ind) (e : Nat) :
    (∃ i e', i < e' ∧ (e' = e + 1 ∨ e' = e + 2) ∧ (∀ k, e ≤ k → k < e' → val i ≤ val k) ∧
      nmBody val n sorted e = (setLast sorted ⟨val i, i⟩, e')) ∨
    ((sorted.headD default).fit ≤ val e ∧
      ((sorted.headD default).fit ≤ val (e + 1) ∨ (sorted.getD n default).fit ≤ val (e + 1)) ∧
      nmBody val n sorted e = (nmShrink val sorted (e + 2), e + 2 + n)) := by
  have one : ∀ k, e ≤ k → k < e + 1 → val e ≤ val k := forall_window1 Rat.le_refl
  have fst := fun (h : val e ≤ val (e + 1)) => forall_window2 (P := (val e ≤ val ·)) Rat.le_refl h
  have snd := fun (h : val (e + 1) ≤ val e) => forall_window2 (P := (val (e + 1) ≤ val ·)) h Rat.le_refl
  generalize hb : nmBody val n sorted e = r
  unfold nmBody at hb
  dsimp only at hb
  by_cases h1 : (sorted.headD default).fit ≤ val e ∧ val e < (sorted.getD (n - 1) default).fit
  · rw [if_pos h1] at hb
    exact .inl ⟨e, e + 1, Nat.lt_succ_self e, .inl rfl, one, hb.symm⟩
  rw [if_neg h1] at hb
  by_cases hnb : val e < (sorted.headD default).fit
  · -- expansion: the better of the reflected and the expanded point
    rw [if_pos hnb] at hb
    by_cases hx : val (e + 1) < val e
    · rw [if_pos hx] at hb
      exact .inl ⟨e + 1, e + 2, Nat.lt_succ_self _, .inr rfl, snd (Rat.le_of_lt hx), hb.symm⟩
    · rw [if_neg hx] at hb
      exact .inl ⟨e, e + 2, Nat.lt_succ_of_lt (Nat.lt_succ_self e), .inr rfl, fst (Rat.not_lt.1 hx), hb.symm⟩
  rw [if_neg hnb] at hb
  have hr := Rat.not_lt.1 hnb
  by_cases hw : val e < (sorted.getD n default).fit
  · -- outside contraction
    rw [if_pos hw] at hb
    by_cases hc : val (e + 1) ≤ val e
    · rw [if_pos hc] at hb
      exact .inl ⟨e + 1, e + 2, Nat.lt_succ_self _, .inr rfl, snd hc, hb.symm⟩
    · rw [if_neg hc] at hb
      exact .inr ⟨hr, .inl (Rat.le_trans hr (Rat.le_of_lt (Rat.not_le.1 hc))), hb.symm⟩
  · -- inside contraction
    rw [if_neg hw] at hb
    by_cases hc : val (e + 1) < (sorted.getD n default).fit
    · rw [if_pos hc] at hb
      exact .inl ⟨e + 1, e + 2, Nat.lt_succ_self _, .inr rfl,
        snd (Rat.le_trans (Rat.le_of_lt hc) (Rat.not_lt.1 hw)), hb.symm⟩
    · rw [if_neg hc] at hb
      exact .inr ⟨hr, .inr (Rat.not_lt.1 hc), hb.symm⟩

theorem nmBody_spec (n : Nat) (hn : 1 ≤ n) (sorted : List Ind) (e : Nat)
    (h : NmP val n sorted e) (hs : Sorted sorted) :
    NmP val n (nmBody val n sorted e).1 (nmBody val n sorted e).2 := by
  -- in dimension `n ≥ 1` there is a second vertex, so the first one, a least one, is never replaced
  obtain ⟨hd, a, t, rfl⟩ : ∃ hd a t, sorted = hd :: a :: t :=
    match sorted, h.length_eq with
    | hd :: a :: t, _ => ⟨hd, a, t, rfl⟩
    | [_], hl => absurd (Nat.succ.inj hl).symm (Nat.ne_of_gt hn)
    | [], hl => nomatch hl
  have hmin := sorted_head_le hs
  rcases nmBody_cases n (hd :: a :: t) e with ⟨i, e', hi, he, hcov, hb⟩ | ⟨h0, h1, hb⟩ <;> rw [hb]
  · refine nmP_next hd h hmin (List.mem_append_left _ List.mem_cons_self)
      (he.elim (· ▸ Nat.le_succ e) (· ▸ Nat.le_add_right e 2)) (fun p hp => ?_)
      (by rw [← h.length_eq]; simp [setLast]) fun k hk0 hk =>
        ⟨_, List.mem_append_right _ (List.mem_singleton_self _), hcov k hk0 hk⟩
    exact (mem_setLast hp).imp id fun hp => by rw [hp]; exact ⟨hi, rfl⟩
  · -- shrink: the old minimum `hd` stays and covers evaluations `e`, `e+1`; the re-evaluated vertices
    -- cover themselves
    have hlen : (hd :: a :: t).length - 1 = n := by rw [h.length_eq]; rfl
    have hhd : hd ∈ nmShrink val (hd :: a :: t) (e + 2) := List.mem_append_left _ List.mem_cons_self
    have hlt : n < (hd :: a :: t).length := by rw [h.length_eq]; exact Nat.lt_succ_self n
    have h1 : hd.fit ≤ val (e + 1) := h1.elim id fun h1 => by
      rw [List.getD_eq_getElem?_getD, List.getElem?_eq_getElem hlt] at h1
      exact Rat.le_trans (hmin _ (List.getElem_mem hlt)) h1
    refine nmP_next hd h hmin hhd (Nat.le_trans (Nat.le_add_right e 2) (Nat.le_add_right _ n))
      (fun p hp => hlen ▸ mem_nmShrink hp) ?_ fun k hk0 hk => ?_
    · rw [nmShrink, List.length_append, length_evalMany, hlen]; exact Nat.add_comm 1 n
    · by_cases hk2 : e + 2 ≤ k
      · exact ⟨⟨val k, k⟩, List.mem_append_right _ (mem_evalMany_self hk2 (hlen ▸ hk)), Rat.le_refl⟩
      · refine ⟨hd, hhd, ?_⟩
        rcases Nat.eq_or_lt_of_le hk0 with rfl | hk0
        · exact h0
        · obtain rfl : k = e + 1 := Nat.le_antisymm (Nat.le_of_lt_succ (Nat.not_le.1 hk2)) hk0
          exact h1

theorem nmP_sort {n : Nat} {l : List Ind} {e : Nat} (h : NmP val n l e) :
    NmP val n (sortStable l) e := by
  have hp := sortStable_perm l
  refine ⟨fun p hp' => h.evald p (hp.mem_iff.1 hp'), hp.length_eq.trans h.length_eq, fun k hk => ?_⟩
  obtain ⟨p, hp', hpk⟩ := h.covered k hk
  exact ⟨p, hp.mem_iff.2 hp', hpk⟩

theorem nmP_init (n : Nat) : NmP val n (nmInit val n).simplex (nmInit val n).evals :=
  ⟨fun _ hp => (Nat.zero_add (n + 1) ▸ evald_evalMany hp :), length_evalMany _ _, fun k hk =>
    ⟨⟨val k, k⟩, mem_evalMany_self (Nat.zero_le k) (by rw [Nat.zero_add]; exact hk), Rat.le_refl⟩⟩

theorem nmStep_cases {P : NmSt → Prop} (n : Nat) (tol : Rat) (stopAt : Nat) (s : NmSt) (hdone : P s)
    (hconv : P { s with simplex := sortStable s.simplex, iteration := s.iteration + 1, done := true })
    (hbody : P ⟨(nmBody val n (sortStable s.simplex) s.evals).1,
      (nmBody val n (sortStable s.simplex) s.evals).2, s.iteration + 1,
      stopAt != 0 && s.iteration + 1 == stopAt, stopAt != 0 && s.iteration + 1 == stopAt⟩) :
    P (nmStep val n tol stopAt s) := by
  unfold nmStep
  split
  · exact hdone
  · simp only
    split
    · exact hconv
    · exact hbody

theorem nmP_step (n : Nat) (hn : 1 ≤ n) (tol : Rat) (stopAt : Nat) (s : NmSt)
    (h : NmP val n s.simplex s.evals) :
    NmP val n (nmStep val n tol stopAt s).simplex (nmStep val n tol stopAt s).evals :=
  nmStep_cases (P := fun t => NmP val n t.simplex t.evals) n tol stopAt s h (nmP_sort h)
    (nmBody_spec n hn _ _ (nmP_sort h) (sorted_sortStable _))

theorem nmRun_of_first_done {n : Nat} {tol : Rat} {stopAt : Nat} {s : NmSt}
    (hs : nmStep val n tol stopAt (nmInit val n) = s) (hd : s.done = true) (j : Nat) :
    nmRun val n tol (j + 1) stopAt = s := by
  show iter _ j (nmStep val n tol stopAt (nmInit val n)) = s
  rw [hs]
  exact iter_fix (by unfold nmStep; exact if_pos hd) j

theorem nmResult_good (n : Nat) (s : NmSt) (h : NmP val n s.simplex s.evals) :
    Good val (nmResult false s) := by
  obtain ⟨b, hb, hmem, hle⟩ := argminFirst_spec s.simplex (List.ne_nil_of_length_eq_add_one h.length_eq)
  unfold nmResult
  simp only [Bool.false_and, Bool.false_eq_true, if_false, hb]
  refine ⟨(h.evald b hmem).idx_lt, (h.evald b hmem).val_eq, fun k hk => ?_⟩
  obtain ⟨p, hp, hpk⟩ := h.covered k hk
  exact Rat.le_trans (hle p hp) hpk

end Solvor.Search
